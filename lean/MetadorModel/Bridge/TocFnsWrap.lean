import MetadorModel.Bridge.TocFnsLinks
import MetadorModel.Bridge.TocFnsMeta
/-!
# Bridge: translated wrapper methods (`MetadorNode._guard_path / _destroy_meta`,
`MetadorGroup._destroy_meta / __delitem__ / move / copy`) and `MetadorContainerTOC.query` = model

The methods are translated for the container root (`self = mc`): names are absolute paths, source and
destination of `copy` are given as paths. Access flags (`_guard_acl`, `acl[...]`) are property C15's and
are unrestricted here.
-/
namespace MetadorModel.Bridge.TocFns
open MetadorModel.Container MetadorModel.CtrPy MetadorModel.Gen.TocFns

theorem gen_guard_path : MetadorNode._guard_path = guardPath := by
  funext p s
  by_cases h : isInternal p = true <;> simp [MetadorNode._guard_path, guardPath, h, mstep, run_bind]

/-- the model's `MetadorMeta(node)` -/
def openHandleM (p : Path) : M Handle := fun s => (.ok (openHandle s p (isDataset s.raw p)), s)
theorem run_openHandleM (p : Path) (s : St) :
    openHandleM p s = (.ok (openHandle s p (isDataset s.raw p)), s) := rfl
/-- the model's `_destroy` (the handle is a temporary) -/
def destroyM (h : Handle) (unlink : Bool) : M Handle := do h.destroy unlink; pure h
/-- `node._destroy_meta(_unlink)` of the model, for a node of either kind -/
def destroyMetaM (p : Path) (unlink : Bool) : M Unit := fun s => destroyMeta p (isDataset s.raw p) unlink s

theorem gen_node_destroy_meta (p : Path) (unlink : Bool) :
    MetadorNode._destroy_meta openHandleM destroyM p unlink
      = fun s => (openHandle s p (isDataset s.raw p)).destroy unlink s := by
  funext s
  simp only [MetadorNode._destroy_meta, openHandleM, destroyM, mstep, run_bind]
  rcases Handle.destroy _ unlink s with ⟨r, s1⟩
  cases r <;> rfl

/-- `MetadorGroup._destroy_meta`: this node, then every child with a name that is not reserved, each with the
same `_unlink` (the recursion is a parameter; the model's `destroyMeta` lists the descendants up front) -/
theorem gen_group_destroy_meta (nodeD rec : Path → Bool → M Unit) (p : Path) (unlink : Bool) :
    MetadorGroup._destroy_meta nodeD rec p unlink = (do
      nodeD p unlink
      let s ← getSt
      forEachM (userChildren s.raw p) (fun c => rec c unlink)) := by
  simp only [MetadorGroup._destroy_meta, bind_pure_unit]

theorem nodeKind_of_has {s : St} {p : Path} (h : has s.raw p = true) : nodeKind s p = some (isDataset s.raw p) := by
  simp only [has] at h
  simp only [nodeKind, isDataset]
  cases hg : get? s.raw p with
  | none => simp [hg] at h
  | some n => cases n <;> rfl

theorem nodeKind_of_not_has {s : St} {p : Path} (h : has s.raw p = false) : nodeKind s p = none := by
  simp only [has] at h
  simp only [nodeKind]
  cases hg : get? s.raw p with
  | none => rfl
  | some n => simp [hg] at h

theorem isGroup_eq_not_isDataset {t : Tree} {p : Path} (h : has t p = true) : isGroup t p = !isDataset t p := by
  simp only [has] at h
  simp only [isGroup, isDataset]
  cases hg : get? t p with
  | none => simp [hg] at h
  | some n => cases n <;> simp

theorem gen_group_delitem (p : Path) : MetadorGroup.__delitem__ guardPath destroyMetaM p = opDelete p := by
  funext s
  simp only [MetadorGroup.__delitem__, opDelete, guardPath, bind_pure_unit, mstep]
  by_cases hi : isInternal p = true
  · simp only [hi, mstep]
  · simp only [hi, mstep]
    cases hh : has s.raw p with
    | false => simp only [nodeKind_of_not_has hh, mstep]
    | true =>
      simp only [nodeKind_of_has hh, mstep]
      exact bind_run_congr fun _ s1 _ => by simp only [mstep]

/-- the model's `key in node.meta` -/
def containsM (h : Handle) (k : String × Option Ver) : M Bool := fun s => (.ok (h.contains s.c k.1 k.2), s)

theorem userNodesFrom_kind {t : Tree} (hk : KeysOK t) (p : Path) :
    ∀ qd ∈ userNodesFrom t p, qd.2 = isDataset t qd.1 := by
  intro qd hm
  simp only [userNodesFrom, List.mem_filterMap] at hm
  obtain ⟨⟨q, n⟩, hmem, hq⟩ := hm
  split at hq
  · cases hq
  · cases hq
    have hg := ((mem_descendants hk).mp hmem).1
    simp only [isDataset, hg]
    cases n <;> rfl

/-- `MetadorContainerTOC.query(schema, version, node=start)` for an existing start node -/
theorem gen_toc_query (name : String) (kv ver : Option Ver) (start : Path) (s : St)
    (hs : has s.raw start = true) (hk : KeysOK s.raw) :
    MetadorContainerTOC.query openHandleM containsM (name, kv) ver (some start) s
      = liftE (tocQuery s start name (pluginArgs (name, kv) ver).2) s := by
  generalize hv : (pluginArgs (name, kv) ver).2 = v'
  have hpa : pluginArgs (name, kv) ver = (name, v') := by rw [← hv]; rfl
  simp only [MetadorContainerTOC.query, hpa, tocQuery, mstep]
  by_cases hn : name = ""
  · simp [hn, liftE, mstep]
  have hne : (!(name != "")) = false := by simpa using hn
  simp only [hne, hn, mstep, nodeKind_of_has hs, openHandleM, containsM, run_bind, userVisit, pyFoldM_map]
  have hloop := pyFoldM_foldl s id (fun ret (qd : Path × Bool) => ret ++
      (if (openHandle s qd.1 qd.2).contains s.c name v' then some qd.1 else none).toList)
    (f := fun b c => do
      let tmp3 ← openHandleM c.1
      let tmp4 ← containsM tmp3 (name, v')
      if tmp4 = true then pure (b ++ [c.1]) else pure b)
    (userNodesFrom s.raw start) [] fun qd hm ret => by
      simp only [openHandleM, containsM, run_bind, ← userNodesFrom_kind hk start qd hm, id]
      split <;> simp [mstep]
  rw [id_eq, id_eq, ← List.flatMap_eq_foldl, ← List.filterMap_eq_flatMap_toList] at hloop
  cases (openHandle s start (isDataset s.raw start)).contains s.c name v' <;>
    cases hd : isDataset s.raw start <;> simp [mstep, isGroup_eq_not_isDataset hs, hd, liftE, hloop]

/-- the model's `find_missing` as an operation of `M` -/
def findMissingM (p : Path) : M (List Path) := fun s => liftE (findMissing s p) s

/-- `group.move(source, dest)` on the container root. The source asserts that the node the metadata is searched
below is a group; for a moved dataset this is its metadata directory, and that a metadata directory is a
group is part of the invariant (`MetaOK`), here hypothesis `hdir`. -/
theorem gen_group_move (e : Env) (src dst : Path) (s : St)
    (hdir : ∀ t1 t2, rawMove s.raw src dst = .ok t1 → isDataset t1 dst = true →
      (t2 = t1 ∨ rawMove t1 (metaBase src (isDataset s.raw src)) (metaBase dst true) = .ok t2) →
      has t2 (metaBase dst true) = true → isGroup t2 (metaBase dst true) = true) :
    MetadorGroup.move guardPath openHandleM findMissingM (repairMissing e) src dst s = opMove e src dst s := by
  simp only [MetadorGroup.move, opMove, guardPath, bind_pure_unit, mstep]
  by_cases hi : isInternal src = true
  · simp only [hi, mstep]
  by_cases hj : isInternal dst = true
  · simp only [hi, hj, mstep]
  simp only [hi, hj, mstep]
  cases hh : has s.raw src with
  | false => simp only [nodeKind_of_not_has hh, mstep]
  | true =>
    simp only [nodeKind_of_has hh, mstep, run_bind_ok (run_openHandleM _ _), openHandle]
    cases hm : rawMove s.raw src dst with
    | error er => simp only [mstep]
    | ok t1 =>
      have hhd : has t1 dst = true := rawMove_has_dst hm
      simp only [hhd, nodeKind_of_has (s := { s with raw := t1 }) hhd, mstep]
      refine bind_run_congr₂ (fun mb s' => has s'.raw mb = true → isGroup s'.raw mb = true) ?_ fun mb s' hP => ?_
      · cases hdk : isDataset t1 dst with
        | false => exact ⟨_, _, rfl, rfl, fun a h _ => by cases h; rw [isGroup_eq_not_isDataset hhd, hdk]; rfl⟩
        | true =>
          simp only [mstep, run_bind_ok (run_openHandleM _ _), openHandle, hdk]
          cases has t1 (metaBase src (isDataset s.raw src)) with
          | false => exact ⟨_, _, rfl, rfl, fun a h => by cases h; exact hdir t1 t1 hm hdk (.inl rfl)⟩
          | true =>
            simp only [mstep]
            cases hm2 : rawMove t1 (metaBase src (isDataset s.raw src)) (metaBase dst true) with
            | error er => exact ⟨_, _, rfl, rfl, fun a h => by cases h⟩
            | ok t2 => exact ⟨_, _, rfl, rfl, fun a h => by cases h; exact hdir t1 t2 hm hdk (.inr hm2)⟩
      · simp only [mstep, rawGet]
        cases hdm : has s'.raw mb with
        | false => rfl
        | true =>
          simp only [hP hdm, mstep, run_bind, findMissingM]
          cases findMissing s' mb <;> rfl

/-- `group.copy(source, dest, without_meta=…)` on the container root, source and destination given as paths.
`hkind`: the copy of a dataset is a dataset, the copy of a group a group, and the source keeps its kind (laws of
the raw driver; for the model's tree they follow from `PClosed`, see `rawCopy_get?`); `hdir`: the copied metadata directory of a dataset
is a group (`MetaOK`) — the source asserts it. -/
theorem gen_group_copy (e : Env) (src dst : Path) (withoutMeta : Bool) (s : St)
    (hkind : ∀ t1, rawCopy s.raw src dst = .ok t1 →
      isDataset t1 dst = isDataset s.raw src ∧ isDataset t1 src = isDataset s.raw src)
    (hdir : ∀ t1 t2, rawCopy s.raw src dst = .ok t1 →
      rawCopy t1 (metaBase src true) (metaBase dst true) = .ok t2 → isGroup t2 (metaBase dst true) = true) :
    MetadorGroup.copy guardPath openHandleM destroyMetaM findMissingM (repairMissing e) src dst withoutMeta s
      = opCopy e src dst withoutMeta s := by
  simp only [MetadorGroup.copy, opCopy, guardPath, bind_pure_unit, mstep]
  by_cases hi : isInternal src = true
  · simp only [hi, mstep]
  simp only [hi, mstep]
  cases hh : has s.raw src with
  | false => simp only [nodeKind_of_not_has hh, mstep]
  | true =>
    simp only [nodeKind_of_has hh, mstep]
    by_cases hj : isInternal dst = true
    · simp only [hj, mstep]
    simp only [hj, mstep]
    cases hc : rawCopy s.raw src dst with
    | error er => simp only [mstep]
    | ok t1 =>
      have hhd : has t1 dst = true := rawCopy_has_dst hc
      obtain ⟨hk1, hk2⟩ := hkind t1 hc
      simp only [hhd, nodeKind_of_has (s := { s with raw := t1 }) hhd, mstep]
      cases hk : isDataset s.raw src with
      | true =>
        rw [hk] at hk1 hk2
        cases withoutMeta with
        | true => simp only [mstep, Bool.and_false]
        | false =>
          simp only [mstep, Bool.and_self, run_bind_ok (run_openHandleM _ _), openHandle, hk1, hk2]
          cases hc2 : rawCopy t1 (metaBase src true) (metaBase dst true) with
          | error er => simp only [mstep]
          | ok t2 =>
            simp only [mstep, rawCopy_has_dst hc2, hdir t1 t2 hc hc2, run_bind, findMissingM]
            cases findMissing { s with raw := t2 } (metaBase dst true) with
            | error er => rfl
            | ok missing =>
              simp only [liftE, mstep, bind_pure_unit]
              rcases repairMissing e missing false _ with ⟨_ | _, _⟩ <;> rfl
      | false =>
        rw [hk] at hk1
        cases withoutMeta with
        | true => simp only [mstep, Bool.false_and, destroyMetaM, hk1]
        | false =>
          simp only [mstep, Bool.false_and, run_bind, findMissingM]
          cases findMissing { s with raw := t1 } dst <;> rfl

end MetadorModel.Bridge.TocFns
