import MetadorModel.Gen.OverlayScan
import MetadorModel.Proofs.OverlayPy
/-! Bridge theorems for `SUBST_KEY`, `_node_is_virtual`, `_node_is_del_mark`, `_guard_open`, `_get_child_raw`
(first part of `Bridge/OverlayScan.lean`, which explains the set-up; separate modules so that a broken
proof is attributed to the function group that changed). -/
namespace MetadorModel.Bridge.OverlayScan
open MetadorModel MetadorModel.Tree MetadorModel.Overlay MetadorModel.OverlayPy
open MetadorModel.Gen.OverlayScan

variable {V : Type}

theorem gen_SUBST_KEY : SUBST_KEY = substKey := rfl

/-- `_node_is_virtual`: a group object without the SUBST attribute -/
theorem gen_node_is_virtual_obj (o : PyObj V) :
    _node_is_virtual o = .ok (match o with | .group _ _ s _ => !s | _ => false) := by
  cases o <;>
    simp [_node_is_virtual, pyIsInstance, pyGetAttrs, pyIn, gen_SUBST_KEY, bind, Except.bind, pure, Except.pure]

/-- `_node_is_virtual` on a raw node is the model's `RKind.isVirtual` -/
theorem gen_node_is_virtual (f : Cont V) (p : Path) (n : RNode V) :
    _node_is_virtual (PyObj.ofNode f p n) = .ok n.kind.isVirtual := by
  rw [gen_node_is_virtual_obj]
  cases h : n.kind <;> simp [PyObj.ofNode, h, RKind.isVirtual]

theorem ofNode_of_isGroup (f : Cont V) (p : Path) (n : RNode V) (h : n.kind.isGroup = true) :
    ∃ s, PyObj.ofNode f p n = .group f p s n.attrs := by
  unfold PyObj.ofNode
  cases hk : n.kind with
  | vgroup => exact ⟨false, rfl⟩
  | sgroup => exact ⟨true, rfl⟩
  | data v => rw [hk] at h; cases h
  | del => rw [hk] at h; cases h

/-- `_node_is_del_mark`: a dataset whose content is the marker, or the marker value itself -/
theorem gen_node_is_del_mark_obj (o : PyObj V) :
    _node_is_del_mark o = .ok (match o with | .dataset none _ => true | .value none => true | _ => false) := by
  cases o with
  | dataset c a => cases c <;>
      simp [_node_is_del_mark, pyIsInstance, pyGetItemUnit, pyIsDelMark, bind, Except.bind, pure, Except.pure]
  | value v => cases v <;>
      simp [_node_is_del_mark, pyIsInstance, pyIsDelMark, bind, Except.bind, pure, Except.pure]
  | _ => simp [_node_is_del_mark, pyIsInstance, pyIsDelMark, bind, Except.bind, pure, Except.pure]

/-- `_node_is_del_mark` on a raw node is the model's `RKind.isDel` -/
theorem gen_node_is_del_mark (f : Cont V) (p : Path) (n : RNode V) :
    _node_is_del_mark (PyObj.ofNode f p n) = .ok n.kind.isDel := by
  rw [gen_node_is_del_mark_obj]
  cases h : n.kind <;> simp [PyObj.ofNode, h, RKind.isDel]

/-- on an attribute value: never virtual; deleted iff it is the marker (`none` in the model) -/
theorem gen_attr_value_preds (v : Option V) :
    _node_is_virtual (PyObj.value v) = .ok false ∧ _node_is_del_mark (PyObj.value v) = .ok v.isNone := by
  constructor
  · rw [gen_node_is_virtual_obj]
  · rw [gen_node_is_del_mark_obj]; cases v <;> rfl

theorem gen_guard_open (self : PySelf V) (h : self.files ≠ []) : _guard_open self = .ok () := by
  cases hf : self.files with
  | nil => exact absurd hf h
  | cons a l =>
    simp [_guard_open, __bool__, hf, pyTruthyList, pyFileOpen, bind, Except.bind, pure, Except.pure]

theorem gen_guard_open_closed (self : PySelf V) (h : self.files = []) : _guard_open self = .error .keyError := by
  simp [_guard_open, __bool__, h, pyTruthyList, bind, Except.bind, pure, Except.pure]

/-- `_get_child_raw` of a group node: the raw node at `gpath/key` of container `i` -/
theorem gen_get_child_raw (self : PySelf V) (hattr : self.isAttrs = false) (k : Key) (i : Nat)
    (f : Cont V) (hf : self.files[i]? = some f) :
    _get_child_raw self k (i : Int) = pyFileGet f (self.gpath ++ [k]) := by
  simp only [_get_child_raw, hattr, pyListGet_nat, hf, pyAbsKey, bind, Except.bind]
  cases pyFileGet f (self.gpath ++ [k]) <;> rfl

end MetadorModel.Bridge.OverlayScan
