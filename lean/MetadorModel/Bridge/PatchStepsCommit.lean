import MetadorModel.Bridge.PatchSteps
/-!
# Bridge for C11: `IH5Record.commit_patch` and `IH5MFRecord.commit_patch` as regenerated from the source

`gen_commit_patch`: close the HDF5 handle, hash the payload after the user block, put the hash into the
in-memory user block, write the user block, reopen read-only — in this order and nothing else: the
hash-carrying user block is the **last write** to the container. `gen_mf_commit_patch`: the manifest class
prepares the manifest and the linking user block in memory, runs the base-class commit, and writes the sidecar
**after** the container is complete; on `ValueError` the in-memory user block is restored and nothing was written.
-/
namespace MetadorModel.Bridge.PatchSteps
open MetadorModel.FindFiles MetadorModel.Record MetadorModel.RecordPy MetadorModel.PatchPy
open MetadorModel.Gen.PatchSteps

theorem pyDictGet_pyDictSet_eq (d : List (Name × UB)) (f : Name) (v : UB) : pyDictGet (pyDictSet d f v) f = .ok v := by
  induction d with
  | nil => simp [pyDictSet, pyDictGet]
  | cons a r ih =>
    obtain ⟨k, w⟩ := a
    by_cases hk : k = f
    · simp [pyDictSet, pyDictGet, hk]
    · simp [pyDictSet, pyDictGet, hk, ih]

/-- **`IH5Record.commit_patch(**kw)`** as regenerated from the source is the step sequence `commitPlainW` -/
theorem gen_commit_patch (s : State) (hp : PyRep s.h) (kw : Kw) :
    IH5Record.commit_patch kw (World.ofState s) = commitPlainW s kw := by
  unfold IH5Record.commit_patch commitPlainW
  cases kw with
  | cons a r => simp [pyTruthyList]
  | nil =>
    simp only [pyTruthyList, List.isEmpty_nil, Bool.not_true, Bool.false_eq_true, if_false]
    rw [gen_guards s (fun b => !b)]
    refine guards_congr (fun x => x) rfl fun hc ha hw => ?_
    simp only [Bool.not_eq_false'] at ha hw
    obtain ⟨init, f, ub, hsn, hl, hrw⟩ := hasWritable_snoc hw
    have hfiles : mkHandles s.h.files s.h.lastRW = init.map ro ++ [⟨f, true, true⟩] := by
      rw [hsn, mkHandles_snoc, hrw]
    have hget : pyDictGet s.h.files f = .ok ub := pyDictGet_mem _ _ _ hp.1 (lastFile_mem _ _ hl)
    simp only [run_bind, run_pure, run_pySelf, run_pyLift, hl, ofState_self, ofState_disk, ofState_trace, ofState_next,
      ofHandle_files, ofHandle_ublocks, ofHandle_closed, ofHandle_allow, ofHandle_mfcls, ofHandle_manifest, hfiles,
      pyIdx_last_snoc, pyH5CloseAt, pySetIdx_last_snoc, pyHashsumFile, setLastH_snoc, if_true, List.nil_append]
    cases hpay : payloadOf s.disk f with
    | none => simp [hc, ha]
    | some p =>
      obtain ⟨ub0, hg⟩ := getF_of_payloadOf hpay
      simp [hget, pySetUblocks, pyDictGet_pyDictSet_eq, pyUBSave, hg, pyH5Open, getF_setF_eq, pySetFiles,
        pySetIdx_last_snoc, commitTrace, gen_constants, hc, ha]

/-- **`IH5Record.commit_patch()`** as regenerated from the source is the model's `commitPlain` -/
theorem gen_commit_patch_model (s : State) (hp : PyRep s.h) (hd : OnDisk s) :
    resOf s (IH5Record.commit_patch [] (World.ofState s)) = commitPlain s := by
  rw [gen_commit_patch s hp]; exact commitPlainW_res s hp hd

theorem gen_manifest_ext : MANIFEST_EXT = mfExt := rfl

/-- the sidecar is named after the **container file** (one manifest per container, so that writing the
manifest of a new patch never touches the manifest of a committed one) -/
theorem gen_manifest_filepath (f : Name) : IH5MFRecord._manifest_filepath f = manifestFile f := by
  simp [IH5MFRecord._manifest_filepath, manifestFile, gen_manifest_ext]

theorem gen_manifest (w : World) :
    IH5MFRecord.manifest w = match w.self.manifest with
      | some m => (.ok m, w)
      | none => (.error .valueError, w) := by
  unfold IH5MFRecord.manifest
  cases hm : w.self.manifest <;> simp [hm]

/-- `if self._manifest is not None: mf.manifest_exts = self.manifest.manifest_exts`: reading the manifest that is
there changes nothing -/
theorem gen_manifest_step (w : World) (k : PatchM Unit) :
    (if w.self.manifest.isSome = true then (do let _ ← IH5MFRecord.manifest; k) else k) w = k w := by
  cases hm : w.self.manifest <;> simp [gen_manifest, hm]

theorem mkHandles_setLastUB (l : List (Name × UB)) (u : UB) (rw : Bool) :
    mkHandles (setLastUB l u) rw = mkHandles l rw := by
  rcases nil_or_append l with rfl | ⟨init, ⟨f, v⟩, rfl⟩
  · simp [setLastUB]
  · rw [setLastUB_append_single, mkHandles_snoc, mkHandles_snoc]

/-- the world in which the manifest class calls the base-class commit is the Python object of `mfPrep` -/
theorem ofState_mfPrep (s : State) (init : List (Name × UB)) (f : Name) (ub ubT : UB) (hp : PyRep s.h)
    (hsn : s.h.files = init ++ [(f, ub)]) :
    ({ World.ofState s with next := s.next + 2,
                            self := { (World.ofState s).self with ublocks := pyDictSet (World.ofState s).self.ublocks f ubT } } : World)
      = World.ofState (mfPrep s ubT) := by
  have hni : f ∉ init.map Prod.fst := (snoc_fresh hp.1 hsn).2
  have h1 : pyDictSet s.h.files f ubT = setLastUB s.h.files ubT := by
    rw [hsn, (dict_snoc _ _ ub ubT hni).2.1, setLastUB_append_single]
  simp only [World.ofState, Obj.ofHandle, mfPrep, mkHandles_setLastUB, h1]

theorem pyKwPop_snd (kw : Kw) (k : Str) (d : Option PyAny) :
    (pyKwPop kw k d).2 = kw.filter (fun e => !(e.1 == k)) := by
  unfold pyKwPop
  cases h : kw.find? (fun e => e.1 == k) with
  | some e => rfl
  | none =>
    simp only
    rw [List.find?_eq_none] at h
    symm
    rw [List.filter_eq_self]
    intro a ha
    simpa using h a ha

theorem restKw_eq (kw : Kw) : restKw kw = kw.filter (fun e => !(e.1 == KW_STUB) && !(e.1 == KW_EXTS)) := by
  simp only [restKw, pyKwPop_snd, List.filter_filter]
  congr 1; funext e; exact Bool.and_comm _ _

/-- **`IH5MFRecord.commit_patch(**kw)`** as regenerated from the source is the step sequence `commitMFW` -/
theorem gen_mf_commit_patch (s : State) (hp : PyRep s.h) (kw : Kw) :
    IH5MFRecord.commit_patch kw (World.ofState s) = commitMFW s kw := by
  unfold IH5MFRecord.commit_patch commitMFW
  rcases nil_or_append s.h.files with hnil | ⟨init, ⟨f, ub⟩, hsn⟩
  · -- no file at all: `_fresh_manifest()` asks for the newest user block and raises `IndexError`
    have e0 : pyFreshManifest (IH5Record._ublock (.int (-1 : Int))) (World.ofState s) =
        (.error .indexError, World.ofState s) := by
      simp only [pyFreshManifest, gen_ublock_last_nil _ (show (World.ofState s).self.files = [] by
        rw [ofState_files, hnil]; rfl)]
    simp only [run_bind, e0, hnil, lastFile]
  · have hl : lastFile s.h.files = some (f, ub) := by rw [hsn]; exact lastFile_append_single _ _
    have hfiles : mkHandles s.h.files s.h.lastRW = init.map ro ++ [⟨f, s.h.lastRW, true⟩] := by
      rw [hsn, mkHandles_snoc]
    have hget : pyDictGet s.h.files f = .ok ub := pyDictGet_mem _ _ _ hp.1 (lastFile_mem _ _ hl)
    have hni : f ∉ init.map Prod.fst := (snoc_fresh hp.1 hsn).2
    generalize hubT : ({ ub with ext := some (s.next, s.next + 1) } : UB) = ubT
    have hp1 := pyRep_mfPrep s ubT hp
    -- the world after `_fresh_manifest()`: two numbers drawn
    obtain ⟨w0, hw0⟩ : ∃ w0 : World, w0 = { disk := s.disk, next := s.next + 2, self := Obj.ofHandle s.h, trace := [] } :=
      ⟨_, rfl⟩
    have e0 : pyFreshManifest (IH5Record._ublock (.int (-1 : Int))) (World.ofState s) = (.ok (s.next, s.next + 1), w0) := by
      subst hw0
      simp [pyFreshManifest, gen_ublock_last, ofHandle_files, ofHandle_ublocks, hfiles, hget, World.ofState]
    have e1 : IH5Record._ublock (.int (-1 : Int)) w0 = (.ok ub, w0) := by
      subst hw0
      simp [gen_ublock_last, ofHandle_files, ofHandle_ublocks, hfiles, hget]
    have e2 : IH5Record._set_ublock (.int (-1 : Int)) ubT w0 = (.ok (), World.ofState (mfPrep s ubT)) := by
      subst hw0
      rw [← ofState_mfPrep s init f ub ubT hp hsn]
      simp [gen_set_ublock_last, ofHandle_files, hfiles, World.ofState]
    have e3 := gen_commit_patch (mfPrep s ubT) hp1 (restKw kw)
    have e4 : IH5Record._set_ublock (.int (-1 : Int)) ub (World.ofState (mfPrep s ubT)) = (.ok (), w0) := by
      have h2 : pyDictSet (setLastUB s.h.files ubT) f ub = s.h.files := by
        rw [hsn, setLastUB_append_single, (dict_snoc _ _ ubT ub hni).2.1]
      subst hw0
      simp [gen_set_ublock_last, World.ofState, Obj.ofHandle, mfPrep, mkHandles_setLastUB, hfiles, h2]
    have hl1 : lastFile (mfPrep s ubT).h.files = some (f, ubT) := lastFile_setLastUB _ _ _ _ hl
    have hk1 : restKw kw = restKw kw := rfl
    conv at hk1 => lhs; simp only [restKw, KW_STUB, KW_EXTS]
    simp only [run_bind, run_pySelf, e0, hl, pyMfWithExts, pyExtUpdate, ite_self, hk1, gen_manifest_step, e1, hubT, e2,
      run_tryCatch, e3]
    generalize hx : commitPlainW (mfPrep s ubT) _ = x
    obtain ⟨r, w1⟩ := x
    cases r with
    | ok v =>
      have hlast := commitPlainW_ok_last _ _ w1 _ _ hx hl1
      simp [pySetManifest, hlast, setLastH, pyIdx_last_snoc, pyManifestSave, gen_manifest_filepath]
    | error e =>
      cases e <;> try rfl
      have := commitPlainW_ve _ _ w1 hx
      subst this
      simp [e4, hw0, ofState_disk, ofState_self, ofState_trace]

/-- **`IH5MFRecord.commit_patch(…)`** as regenerated from the source is the model's `commitMF`
(`kw`: any keywords among `manifest_exts=`, `__is_stub__=`) -/
theorem gen_mf_commit_patch_model (s : State) (hp : PyRep s.h) (hd : OnDisk s) (kw : Kw) (hk : restKw kw = []) :
    resOf s (IH5MFRecord.commit_patch kw (World.ofState s)) = commitMF s := by
  rw [gen_mf_commit_patch s hp]; exact commitMFW_res s hp hd kw hk

/-- `self.commit_patch(**kw)`: dispatch on the class of the object -/
theorem gen_dispatch_commit_patch (s : State) (hp : PyRep s.h) (kw : Kw) :
    dispatch_commit_patch kw (World.ofState s) = commitPatchW s kw := by
  unfold dispatch_commit_patch commitPatchW
  have hm : (World.ofState s).self.mfcls = s.h.mfcls := rfl
  cases hc : s.h.mfcls <;> simp [hm, hc, gen_commit_patch s hp, gen_mf_commit_patch s hp]

end MetadorModel.Bridge.PatchSteps
