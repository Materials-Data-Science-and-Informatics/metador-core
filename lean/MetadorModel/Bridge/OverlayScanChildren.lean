import MetadorModel.Bridge.OverlayScanPreds
/-! Bridge theorems for `IH5InnerNode._children` (second part of `Bridge/OverlayScan.lean`, which explains
the set-up). -/
namespace MetadorModel.Bridge.OverlayScan
open MetadorModel MetadorModel.Tree MetadorModel.Overlay MetadorModel.OverlayPy
open MetadorModel.Gen.OverlayScan

variable {V : Type}

/-! ## `_children`: the inner loop -/

theorem gen_children_loop2 (self : PySelf V) (hattr : self.isAttrs = false) (i : Nat)
    (f : Cont V) (hf : self.files[i]? = some f) (st : St) (k : Key) (n : RNode V)
    (hn : aget (self.gpath ++ [k]) f = some n) (hd : Dom st) :
    ∃ st', _children.loop2 self (i : Int) st k = .ok st' ∧ Dom st' ∧
      slot k st' = stepSlot (slot k st) (i : Int) n.kind.isVirtual ∧
      ∀ k', k' ≠ k → slot k' st' = slot k' st := by
  obtain ⟨ch, iv⟩ := st
  have hraw : _get_child_raw self k (i : Int) = .ok (PyObj.ofNode f (self.gpath ++ [k]) n) := by
    rw [gen_get_child_raw self hattr k i f hf]; simp [pyFileGet, hn]
  have hsame := hd.same k
  cases hc : aget k ch with
  | none =>
    have hv : aget k iv = none := by
      cases h : aget k iv with
      | none => rfl
      | some b => rw [hc, h] at hsame; cases hsame
    obtain ⟨h1, h2, h3⟩ := hd.set_both k i n.kind.isVirtual
    refine ⟨_, ?_, h1, ?_, h3⟩
    · simp [_children.loop2, pyDictIn, pyDictSet, hc, hraw, gen_node_is_virtual, bind, Except.bind, pure, Except.pure]
    · rw [h2]; simp [slot, hc, stepSlot]
  | some j =>
    obtain ⟨b, hb⟩ : ∃ b, aget k iv = some b := by
      cases h : aget k iv with
      | none => rw [hc, h] at hsame; cases hsame
      | some b => exact ⟨b, rfl⟩
    cases b with
    | false =>
      refine ⟨(ch, iv), ?_, hd, ?_, fun _ _ => rfl⟩
      · simp [_children.loop2, pyDictIn, pyDictGet, hc, hb, bind, Except.bind, pure, Except.pure]
      · simp [slot, hc, hb, stepSlot]
    | true =>
      obtain ⟨h1, h2, h3⟩ := hd.set_both k (min j i) n.kind.isVirtual
      refine ⟨_, ?_, h1, ?_, h3⟩
      · simp [_children.loop2, pyDictIn, pyDictGet, pyDictSet, hc, hb, hraw, gen_node_is_virtual, bind, Except.bind,
          pure, Except.pure]
      · rw [h2]; simp [slot, hc, hb, stepSlot]

/-- the body of the outer loop at container `i` (file `f`): per key one `stepSlot` where the file
has the child. Needs what every HDF5 file satisfies (`WF.parent`) and that `gpath` is a group
wherever it occurs. -/
theorem gen_children_loop1 (self : PySelf V) (hattr : self.isAttrs = false) (i : Nat)
    (f : Cont V) (hf : self.files[i]? = some f) (hwf : WF f)
    (hgrp : ∀ n, aget self.gpath f = some n → n.kind.isGroup = true)
    (st : St) (hd : Dom st) :
    ∃ st', _children.loop1 self st (i : Int) = .ok st' ∧ Dom st' ∧
      ∀ k, slot k st' = sight f (self.gpath ++ [k]) i (slot k st) := by
  obtain ⟨ch, iv⟩ := st
  cases hg : aget self.gpath f with
  | none =>
    refine ⟨(ch, iv), ?_, hd, ?_⟩
    · simp [_children.loop1, pyListGet_nat, hf, pyFileIn, hg, bind, Except.bind, pure, Except.pure]
    · intro k
      rw [sight, hwf.child_none self.gpath k fun m hm => by rw [hg] at hm; cases hm]
  | some gn =>
    have hgk := hgrp gn hg
    have hinner := pyFor_keys (_children.loop2 self (i : Int))
      (fun k => sight f (self.gpath ++ [k]) i)
      (childKeys f self.gpath) (nodup_childKeys _ _)
      (by
        intro st k hk hd
        rw [mem_childKeys] at hk
        cases hn : aget (self.gpath ++ [k]) f with
        | none => simp [hn] at hk
        | some n =>
          obtain ⟨st', h1, h2, h3, h4⟩ := gen_children_loop2 self hattr i f hf st k n hn hd
          exact ⟨st', h1, h2, by rw [h3, sight, hn], h4⟩)
      (ch, iv) hd
    obtain ⟨st', h1, h2, h3⟩ := hinner
    refine ⟨st', ?_, h2, ?_⟩
    · obtain ⟨s, hobj⟩ := ofNode_of_isGroup f self.gpath gn hgk
      obtain ⟨c1, i1⟩ := st'
      simp [_children.loop1, pyListGet_nat, hf, pyFileIn, pyFileGet, hg, hattr, hobj, pyIsInstance, pyKeys, h1,
        bind, Except.bind, pure, Except.pure]
    · intro k
      rw [h3 k]
      split_ifs with hk
      · rfl
      · rw [mem_childKeys, Bool.not_eq_true, Option.isSome_eq_false_iff, Option.isNone_iff_eq_none] at hk
        rw [sight, hk]

/-! ## `_children`: the dictionary it returns, looked up at one key, is `Overlay.child` -/

/-- `gpath` is a group in every container with index `≥ c` that has it (true for the node `look`
arrives at, see `grpFrom_of_scan`; the code asserts it, l. 270) -/
def GrpFrom (r : Rec V) (g : Path) (c : Nat) : Prop :=
  ∀ (i : Nat) f, c ≤ i → r.reverse[i]? = some f → ∀ n, aget g f = some n → n.kind.isGroup = true

theorem gen_children_self (self : PySelf V) (hattr : self.isAttrs = false) (r : Rec V)
    (hr : self.files = r.reverse) (hne : r ≠ []) (hwf : ∀ p ∈ r, WF p) (c : Nat) (hc : self.cidx = (c : Int))
    (hgrp : GrpFrom r self.gpath c) :
    ∃ d, _children self = .ok d ∧
      ∀ k, aget k d = (child r (self.gpath ++ [k]) c).map (fun x => (x.1 : Int)) := by
  have hfiles : self.files ≠ [] := by simp [hr, hne]
  obtain ⟨st', h1, hd', hs⟩ := pyFor_range (_children.loop1 self) self.gpath c r
    (fun st i f hf hci hd =>
      gen_children_loop1 self hattr i f (hr ▸ hf) (hwf f (List.mem_reverse.1 (List.mem_of_getElem? hf)))
        (hgrp i f hci hf) st hd)
    ([], []) Dom.init
  have hs' : ∀ k, slot k st' = (scan (self.gpath ++ [k]) c r).map enc := fun k => by
    rw [hs k, ← runSlot_none]; rfl
  obtain ⟨ch, iv⟩ := st'
  -- the filter on deletion markers
  let keep : Key × Int → Bool := fun kv =>
    match scan (self.gpath ++ [kv.1]) c r with
    | some (_, n) => !n.kind.isDel
    | none => false
  have hfilter : ∀ x ∈ pySortedItems ch, _children.filter1 self x = .ok (keep x) := by
    rintro ⟨k, idx⟩ hx
    have hget : aget k ch = some idx :=
      (aget_eq_some_iff_mem ch hd'.nodup k idx).2 ((pySortedItems_perm ch).mem_iff.1 hx)
    have hsl := hs' k
    rw [← slot_fst k _ hd'] at hget
    rw [hsl] at hget
    rcases Option.eq_none_or_eq_some (scan (self.gpath ++ [k]) c r) with hsc | ⟨⟨i, n⟩, hsc⟩
    · simp [hsc] at hget
    · simp [hsc, enc] at hget
      subst hget
      obtain ⟨_, ⟨f, hf, hn⟩, _⟩ := scan_spec _ _ _ _ _ hsc
      have hraw := gen_get_child_raw self hattr k i f (hr ▸ hf)
      simp only [_children.filter1, keep, hsc]
      simp [hattr, hraw, pyFileGet, hn, gen_node_is_del_mark, bind, Except.bind, pure, Except.pure]
  refine ⟨(pySortedItems ch).filter keep, ?_, ?_⟩
  · simp only [_children, gen_guard_open self hfiles, bind, Except.bind]
    rw [hc, hr, List.length_reverse, h1]
    simp only
    rw [pyFilterM_pure _ keep _ hfilter]
  · intro k
    rw [aget_sorted_filter ch hd'.nodup]
    have hsl := hs' k
    have hfst := slot_fst k _ hd'
    simp only at hfst
    rw [← hfst, hsl]
    simp only [child, keep]
    rcases Option.eq_none_or_eq_some (scan (self.gpath ++ [k]) c r) with hsc | ⟨⟨i, n⟩, hsc⟩
    · simp [hsc]
    · cases hdel : n.kind.isDel <;> simp [hsc, enc, hdel]

/-- **`_children` of the group node `(g, c)` of the record `r`, looked up at a child name `k`, is
the model's `child r (g ++ [k]) c`** (the creation index; the node itself is the one container
`i` holds, `scan_spec`) -/
theorem gen_children (r : Rec V) (hne : r ≠ []) (hwf : ∀ p ∈ r, WF p) (g : Path) (c : Nat)
    (hgrp : GrpFrom r g c) :
    ∃ d, _children ⟨r.reverse, g, (c : Int), false⟩ = .ok d ∧
      ∀ k, aget k d = (child r (g ++ [k]) c).map (fun x => (x.1 : Int)) :=
  gen_children_self ⟨r.reverse, g, (c : Int), false⟩ rfl r rfl hne hwf c rfl hgrp

end MetadorModel.Bridge.OverlayScan
