import MetadorModel.Gen.Diff
import MetadorModel.Bridge.DiffBase
/-! Bridge (C18): the generated `DiffNode.status` equals the model's `Rec.status`. -/
namespace MetadorModel.Bridge.Diff
open MetadorModel MetadorModel.Diff MetadorModel.DiffPy

theorem gen_status (d : DNode) : Gen.Diff.status d = .ok (DNode.rec' d).status := by
  obtain ⟨p, pv, cv, rm, md, ad⟩ := d
  cases pv <;> cases cv <;> simp [Gen.Diff.status, DNode.rec', Rec.status, DNode.prev, DNode.curr, DNode.path]

end MetadorModel.Bridge.Diff
