import MetadorModel.Gen.HashsumsFns
import MetadorModel.Proofs.HashsumsDict
/-!
Bridge between the Lean text generated from `util/hashsums.py` in /repo (`Gen/HashsumsFns.lean`,
regenerated on every run by `harness/translate_c19.py`) and the hand-written model
`Model/Hashsums.lean` that the C19 theorems are about.

* `gen_rel_symlink`   : generated `rel_symlink`            = `relSymlink`
* `gen_loop_body`     : generated body of the `rglob` loop = `step`     (on canonical dicts)
* `gen_dir_hashsums`  : generated `dir_hashsums`           = `dirHashsums`
* `gen_default_alg`   : `DEF_HASH_ALG`                     = `"sha256"`

The generated text walks the result dict through an alias (`curr = ret … curr = curr[seg] …
curr[fname] = val`, value dictionary: `Model/HashsumsPy.lean`), the model descends recursively
(`put`) and writes every dict on the way back. The two agree on dicts in canonical form
(`HTOk`: re-storing a value that is already there changes nothing — true for the sorted
association lists that `dset` builds from `{}`), which is an invariant of the loop.

A change of the order of the `is_symlink` / `is_file` tests, of what is stored where, of the
`"."` skip, of the exceptions raised, of the `relative_to` containment test or of the default
algorithm changes the generated definitions and these equalities have to be re-proved.
-/
-- simp sets below name more lemmas than today's text needs, so that harmless rewrites still pass
set_option linter.unusedSimpArgs false

namespace MetadorModel.Bridge.HashsumsFns
open MetadorModel MetadorModel.Bytes MetadorModel.Hashsums MetadorModel.HashsumsPy

/-! ## Canonical dicts -/

/-- storing what is already stored changes nothing -/
def DOk (d : List (Name × HT)) : Prop := ∀ s x, dget s d = some x → dset s x d = d

theorem DOk_dset (k : Name) (v : HT) (d : List (Name × HT)) (h : DOk d) : DOk (dset k v d) := by
  intro s x hs
  by_cases e : s = k
  · subst e
    rw [dget_dset_same] at hs
    cases hs
    exact dset_dset_same s v v d
  · rw [dget_dset_ne k s v (Ne.symm e)] at hs
    rw [dset_comm s k x v e, h s x hs]

/-- every dict of the tree is canonical (children = what `dget` can reach) -/
inductive HTOk : HT → Prop
  | leaf (s : Str) : HTOk (.leaf s)
  | node (d : List (Name × HT)) : DOk d → (∀ k v, dget k d = some v → HTOk v) → HTOk (.node d)

theorem HTOk_empty : HTOk (.node []) := .node [] nofun nofun

theorem HTOk.child {d : List (Name × HT)} (h : HTOk (.node d)) {k : Name} {v : HT}
    (hk : dget k d = some v) : HTOk v :=
  match h with
  | .node _ _ hc => hc k v hk

theorem HTOk.dok {d : List (Name × HT)} (h : HTOk (.node d)) : DOk d :=
  match h with
  | .node _ hd _ => hd

theorem HTOk.dset {d : List (Name × HT)} (h : HTOk (.node d)) (k : Name) {v : HT} (hv : HTOk v) :
    HTOk (.node (dset k v d)) := by
  refine .node _ (DOk_dset k v d h.dok) ?_
  intro k' v' hk'
  by_cases e : k' = k
  · subst e; rw [dget_dset_same] at hk'; cases hk'; exact hv
  · rw [dget_dset_ne k k' v (Ne.symm e)] at hk'; exact h.child hk'

/-- the child that `put` descends into: what is stored under the key, or a fresh dict -/
theorem HTOk.getD {d : List (Name × HT)} (h : HTOk (.node d)) (s : Name) :
    HTOk ((dget s d).getD (.node [])) := by
  cases hd : dget s d with
  | none => exact HTOk_empty
  | some x => exact h.child hd

theorem put_ok : ∀ (segs : List Name) (t t' : HT) (lf : Option (Name × Str)),
    HTOk t → put t segs lf = .ok t' → HTOk t'
  | [], t, t', none, h, hp => by rw [put_nil_none] at hp; cases hp; exact h
  | [], .leaf _, t', some _, _, hp => by cases hp
  | [], .node d, t', some (k, v), h, hp => by cases hp; exact h.dset k (.leaf v)
  | _ :: _, .leaf _, t', lf, _, hp => by cases hp
  | s :: r, .node d, t', lf, h, hp => by
    rw [put_cons_node] at hp
    cases hc : put ((dget s d).getD (.node [])) r lf with
    | error e => rw [hc] at hp; cases hp
    | ok c => rw [hc] at hp; cases hp; exact h.dset s (put_ok r _ c lf (h.getD s) hc)

/-! ## An alias into the result dict = a key path -/

/-- the tree with the object under `c` replaced (every dict on the way re-stored, as `put` does) -/
def replaceAt : HT → Cursor → HT → HT
  | _, [], n => n
  | .leaf s, _ :: _, _ => .leaf s
  | .node d, s :: c, n =>
    match dget s d with
    | none => .node d
    | some sub => .node (dset s (replaceAt sub c n) d)

theorem get_cons_node (d : List (Name × HT)) (s : Name) (c : Cursor) :
    (HT.node d).get (s :: c) = (dget s d).bind (fun x => x.get c) := by
  simp only [HT.get]; cases dget s d <;> rfl

/-- induction along a cursor that leads somewhere: it is empty, or enters a child of a dict -/
theorem cursor_induction {sub : HT} {P : HT → Cursor → Prop} (nil : P sub [])
    (cons : ∀ d s x c, dget s d = some x → x.get c = some sub → P x c → P (.node d) (s :: c)) :
    ∀ (c : Cursor) (t : HT), t.get c = some sub → P t c
  | [], t, h => by cases h; exact nil
  | s :: c, .leaf _, h => by cases h
  | s :: c, .node d, h => by
    rw [get_cons_node] at h
    cases hs : dget s d with
    | none => rw [hs] at h; cases h
    | some x => rw [hs] at h; exact cons d s x c hs h (cursor_induction nil cons c x h)

theorem setItem_node (k : Name) (v : HT) (c : Cursor) (t : HT) (d : List (Name × HT))
    (h : t.get c = some (.node d)) : pySetItem t c k v = .ok (replaceAt t c (.node (dset k v d))) :=
  cursor_induction (P := fun t c => pySetItem t c k v = .ok (replaceAt t c (.node (dset k v d)))) rfl
    (fun d' s x c hs _ ih => by simp only [pySetItem, replaceAt, hs, ih]) c t h

theorem setItem_leaf (k : Name) (v : HT) (c : Cursor) (t : HT) (x : Str) (h : t.get c = some (.leaf x)) :
    pySetItem t c k v = .error .typeError :=
  cursor_induction (P := fun t c => pySetItem t c k v = .error .typeError) rfl
    (fun d' s y c hs _ ih => by simp only [pySetItem, hs, ih]) c t h

theorem get_replaceAt (n : HT) (c : Cursor) (t sub : HT) (h : t.get c = some sub) :
    (replaceAt t c n).get c = some n :=
  cursor_induction (P := fun t c => (replaceAt t c n).get c = some n) (by cases sub <;> rfl)
    (fun d s x c hs _ ih => by simp only [replaceAt, hs, get_cons_node, dget_dset_same, Option.bind, ih]) c t h

theorem replaceAt_replaceAt (n m : HT) (c : Cursor) (t sub : HT) (h : t.get c = some sub) :
    replaceAt (replaceAt t c n) c m = replaceAt t c m :=
  cursor_induction (P := fun t c => replaceAt (replaceAt t c n) c m = replaceAt t c m)
    (by cases sub <;> cases n <;> rfl)
    (fun d s x c hs _ ih => by simp only [replaceAt, hs, dget_dset_same, dset_dset_same, ih]) c t h

theorem get_snoc (s : Name) (c : Cursor) (t : HT) (d : List (Name × HT)) (h : t.get c = some (.node d)) :
    t.get (c ++ [s]) = dget s d :=
  cursor_induction (P := fun t c => t.get (c ++ [s]) = dget s d)
    (by simp only [List.nil_append, get_cons_node]; cases dget s d <;> simp [HT.get])
    (fun d' s' x c hs _ ih => by simp only [List.cons_append, get_cons_node, hs, Option.bind, ih]) c t h

theorem replaceAt_snoc (s : Name) (m : HT) (c : Cursor) (t : HT) (d : List (Name × HT)) (x : HT)
    (h : t.get c = some (.node d)) (hx : dget s d = some x) :
    replaceAt t (c ++ [s]) m = replaceAt t c (.node (dset s m d)) :=
  cursor_induction (P := fun t c => replaceAt t (c ++ [s]) m = replaceAt t c (.node (dset s m d)))
    (by simp [replaceAt, hx])
    (fun d' s' y c hs _ ih => by simp only [List.cons_append, replaceAt, hs, ih]) c t h

theorem replaceAt_self (c : Cursor) (t sub : HT) (ok : HTOk t) (h : t.get c = some sub) :
    replaceAt t c sub = t :=
  cursor_induction (P := fun t c => HTOk t → replaceAt t c sub = t) (fun _ => by cases sub <;> rfl)
    (fun d s x c hs _ ih ok => by simp only [replaceAt, hs, ih (ok.child hs), ok.dok s x hs]) c t h ok

theorem HTOk_replaceAt (n : HT) (hn : HTOk n) : ∀ (c : Cursor) (t : HT), HTOk t → HTOk (replaceAt t c n)
  | [], t, _ => by simpa [replaceAt] using hn
  | s :: c, .leaf x, ok => by simpa [replaceAt] using ok
  | s :: c, .node d, ok => by
    cases hs : dget s d with
    | none => simpa [replaceAt, hs] using ok
    | some x =>
      simp only [replaceAt, hs]
      exact ok.dset s (HTOk_replaceAt n hn c x (ok.child hs))

theorem HTOk_get (c : Cursor) (t sub : HT) (ok : HTOk t) (h : t.get c = some sub) : HTOk sub :=
  cursor_induction (P := fun t _ => HTOk t → HTOk sub) id (fun _ _ _ _ hs _ ih ok => ih (ok.child hs)) c t h ok

theorem gen_default_alg : Gen.HashsumsFns.DEF_HASH_ALG = sha256 := rfl

/-- `rel_symlink(base, link)` of the source is the model's `relSymlink` -/
theorem gen_rel_symlink (t : FsTree) (e : Entry) (h : e.node.isSymlink = true) :
    Gen.HashsumsFns.rel_symlink t e = .ok (relSymlink t.base e.node) := by
  obtain ⟨p, n⟩ := e
  cases n with
  | file c => simp [Node.isSymlink] at h
  | dir => simp [Node.isSymlink] at h
  | sym r tg =>
    simp only [Gen.HashsumsFns.rel_symlink, osReadlink, parentJoin, Unresolved.resolve, FsTree.resolve,
      pyRelativeTo, relSymlink, Py.bind_ok]
    cases relativeTo r t.base <;> rfl

/-- … and raises `OSError` (from `os.readlink`) on anything that is not a symlink; the loop body
never calls it there (`gen_loop_body` holds without such a case) -/
theorem gen_rel_symlink_not_link (t : FsTree) (e : Entry) (h : e.node.isSymlink = false) :
    Gen.HashsumsFns.rel_symlink t e = .error .osError := by
  obtain ⟨p, n⟩ := e
  cases n with
  | sym r tg => simp [Node.isSymlink] at h
  | file c => rfl
  | dir => rfl

/-- what the loop body does after the segment loop: `if is_file or is_sym: curr[fname] = val` -/
def fin (lf : Option (Name × Str)) (r : HT) (c : Cursor) : Py HT :=
  match lf with
  | none => .ok r
  | some (k, v) => pySetItem r c k (.leaf v)

theorem liftE_bind (x : Except Err HT) (f : HT → Except Err HT) :
    liftE (x >>= f) = Py.bind (liftE x) (fun c => liftE (f c)) := by
  cases x <;> rfl

theorem Py.bind_pure {α : Type} (x : Py α) : Py.bind x (fun a => .ok a) = x := by
  cases x <;> rfl

theorem Py.bind_pure_pair {α β : Type} (x : Py (α × β)) : Py.bind x (fun p => .ok (p.1, p.2)) = x := by
  cases x <;> rfl

/-! What one pass of the segment loop does, case by case (the only place where the text of
`dir_hashsums_body1` is looked at). -/

/-- `if seg == ".": continue` -/
theorem body1_dot (ret : HT) (cur : Cursor) :
    Gen.HashsumsFns.dir_hashsums_body1 ret cur ['.'] = .ok (ret, cur) := by
  simp [Gen.HashsumsFns.dir_hashsums_body1, Py.bind_pure_pair]

/-- `curr` rests on a `str` value: `TypeError` (from the store or from the subscript) -/
theorem body1_leaf (ret : HT) (cur : Cursor) (seg x : Str) (hd : seg ≠ ['.'])
    (h : ret.get cur = some (.leaf x)) :
    Gen.HashsumsFns.dir_hashsums_body1 ret cur seg = .error .typeError := by
  have h1 := setItem_leaf seg (.node []) cur ret x h
  cases hc : strContains x seg <;>
    simp [Gen.HashsumsFns.dir_hashsums_body1, hd, pyContains, pyGetItem, h, hc, h1]

/-- `curr` rests on a dict: `curr` moves to the value under the key, an empty dict stored first if
the key is new. On canonical dicts this re-stores what `put` descends into. -/
theorem body1_node (ret : HT) (ok : HTOk ret) (cur : Cursor) (seg : Str) (d : List (Name × HT))
    (hd : seg ≠ ['.']) (h : ret.get cur = some (.node d)) :
    Gen.HashsumsFns.dir_hashsums_body1 ret cur seg =
      .ok (replaceAt ret cur (.node (dset seg ((dget seg d).getD (.node [])) d)), cur ++ [seg]) := by
  cases hs : dget seg d with
  | none =>
    have h1 := setItem_node seg (.node []) cur ret d h
    have g1 := get_replaceAt (.node (dset seg (.node []) d)) cur ret _ h
    simp [Gen.HashsumsFns.dir_hashsums_body1, hd, pyContains, pyGetItem, h, hs, h1, g1, dget_dset_same]
  | some x =>
    rw [Option.getD_some, (HTOk_get cur ret _ ok h).dok seg x hs, replaceAt_self cur ret _ ok h]
    simp [Gen.HashsumsFns.dir_hashsums_body1, hd, pyContains, pyGetItem, h, hs]

/-- The segment loop of the source (walk / create the nested dicts through the alias `curr`,
skipping `"."`), followed by the final store, is the model's recursive `put` below the object
`curr` refers to. -/
theorem gen_seg_loop (lf : Option (Name × Str)) : ∀ (segs : List Str) (ret : HT) (cur : Cursor) (sub : HT),
    HTOk ret → ret.get cur = some sub →
    Py.bind (Gen.HashsumsFns.dir_hashsums_loop1 ret cur segs) (fun p => fin lf p.1 p.2) =
      Py.bind (liftE (put sub (segs.filter (· ≠ ['.'])) lf)) (fun s' => .ok (replaceAt ret cur s'))
  | [], ret, cur, sub, ok, h => by
    simp only [Gen.HashsumsFns.dir_hashsums_loop1, Py.bind_ok, List.filter_nil]
    cases lf with
    | none => simp [fin, put_nil_none, liftE, replaceAt_self cur ret sub ok h]
    | some kv =>
      obtain ⟨k, v⟩ := kv
      cases sub with
      | leaf x => simp [fin, put, liftE, liftErr, setItem_leaf k (.leaf v) cur ret x h]
      | node d => simp [fin, put, liftE, setItem_node k (.leaf v) cur ret d h]
  | seg :: rest, ret, cur, sub, ok, h => by
    simp only [Gen.HashsumsFns.dir_hashsums_loop1]
    by_cases hd : seg = ['.']
    · subst hd
      rw [body1_dot]
      simpa using gen_seg_loop lf rest ret cur sub ok h
    · rw [show (seg :: rest).filter (· ≠ ['.']) = seg :: rest.filter (· ≠ ['.']) by simp [List.filter, hd]]
      cases sub with
      | leaf x =>
        rw [body1_leaf ret cur seg x hd h]
        rfl
      | node d =>
        -- the child is stored under `seg` first; the rest of the loop works below it
        have okd : HTOk (.node d) := HTOk_get cur ret _ ok h
        have g1 := get_replaceAt (.node (dset seg ((dget seg d).getD (.node [])) d)) cur ret _ h
        have g2 := get_snoc seg cur _ _ g1
        rw [dget_dset_same] at g2
        rw [body1_node ret ok cur seg d hd h, put_cons_node, liftE_bind, Py.bind_ok,
          gen_seg_loop lf rest _ (cur ++ [seg]) _ (HTOk_replaceAt _ (okd.dset seg (okd.getD seg)) cur ret ok) g2]
        cases put ((dget seg d).getD (.node [])) (rest.filter (· ≠ ['.'])) lf with
        | error e => rfl
        | ok c =>
          simp only [liftE, Py.bind_ok]
          rw [replaceAt_snoc seg c cur _ _ _ g1 (dget_dset_same _ _ _), dset_dset_same,
            replaceAt_replaceAt _ _ cur ret _ h]

/-- the tail of the loop body, started at the root (`curr = ret`) -/
theorem gen_put (ret : HT) (ok : HTOk ret) (relpath : Path) (lf : Option (Name × Str)) :
    Py.bind (Gen.HashsumsFns.dir_hashsums_loop1 ret [] (splitSlash (pathStr relpath)))
      (fun p => fin lf p.1 p.2) = liftE (put ret (dictSegs relpath) lf) := by
  rw [gen_seg_loop lf _ ret [] ret ok rfl]
  simp only [dictSegs, replaceAt]
  exact Py.bind_pure _

/-- One iteration of `for path in dir.rglob("*")` as the source has it = the model's `step`. -/
theorem gen_loop_body {σ : Type} (hl : HashLib σ) (t : FsTree) (alg : Str) (ret : HT) (ok : HTOk ret)
    (e : Entry) :
    Gen.HashsumsFns.dir_hashsums_body0 hl t alg ret e = liftE (step ⟨hl, alg, t.base⟩ ret e) := by
  have key : ∀ (relpath : Path) (lf : Option (Name × Str)) (k : HT × Cursor → Py HT),
      k = (fun p => fin lf p.1 p.2) →
      Py.bind (Gen.HashsumsFns.dir_hashsums_loop1 ret [] (splitSlash (pathStr relpath))) k =
        liftE (put ret (dictSegs relpath) lf) := by
    intro relpath lf k hk; subst hk; exact gen_put ret ok relpath lf
  -- the text of `dir_hashsums_body0` is looked at by `simp` once per kind of entry; what is left each
  -- time is (at most) the segment loop with the final store as continuation
  unfold Gen.HashsumsFns.dir_hashsums_body0 step entryVal entryItem
  cases hs : e.node.isSymlink
  · cases hf : e.node.isFile
    · -- a directory
      simp [hs, hf]
      apply key; funext p; simp [fin, Py.bind_pure]
    · -- a regular file
      cases hq : qualifiedHashsum hl e.node.readBytes alg with
      | error x => simp [hs, hf, pyFileHashsum, hq, liftE]
      | ok val =>
        simp [hs, hf, pyFileHashsum, hq, liftE]
        apply key; funext p; simp [fin, Py.bind_pure]
  · -- a symlink (tested first, whatever `is_file` says)
    cases hr : relSymlink t.base e.node with
    | none => simp [hs, gen_rel_symlink t e hs, hr, liftE, liftErr]
    | some trg =>
      simp [hs, gen_rel_symlink t e hs, hr, symlinkPrefix]
      apply key; funext p; simp [fin, Py.bind_pure]

/-- the `rglob` loop = the model's `build` -/
theorem gen_loop {σ : Type} (hl : HashLib σ) (t : FsTree) (alg : Str) : ∀ (l : List Entry) (ret : HT),
    HTOk ret →
    Gen.HashsumsFns.dir_hashsums_loop0 hl t alg ret l = liftE (build ⟨hl, alg, t.base⟩ ret l)
  | [], ret, _ => rfl
  | e :: l, ret, ok => by
    simp only [Gen.HashsumsFns.dir_hashsums_loop0, build, gen_loop_body hl t alg ret ok e]
    cases hst : step ⟨hl, alg, t.base⟩ ret e with
    | error x => rfl
    | ok ret' =>
      have ok' : HTOk ret' := by
        unfold step at hst
        split at hst
        · cases hst
        · exact put_ok _ ret ret' _ ok hst
      simp only [liftE, Py.bind_ok]
      exact gen_loop hl t alg l ret' ok'

/-- `dir_hashsums(dir, alg)` as the source has it = the model's `dirHashsums` — every theorem of
`Props/C19.lean` about `dirHashsums` is a theorem about the translated text. -/
theorem gen_dir_hashsums {σ : Type} (hl : HashLib σ) (t : FsTree) (alg : Str) :
    Gen.HashsumsFns.dir_hashsums hl t alg = liftE (dirHashsums hl alg t) := by
  simp only [Gen.HashsumsFns.dir_hashsums, dirHashsums, gen_loop hl t alg t.entries _ HTOk_empty]
  exact Py.bind_pure _

/-- the default `alg=DEF_HASH_ALG` -/
theorem gen_dir_hashsums_default {σ : Type} (hl : HashLib σ) (t : FsTree) :
    Gen.HashsumsFns.dir_hashsums_d hl t = liftE (dirHashsums hl sha256 t) := by
  simp only [Gen.HashsumsFns.dir_hashsums_d, gen_dir_hashsums, gen_default_alg]

/-- consequently the translated text raises nothing but `ValueError` / `TypeError`: the `assert`
never fails, `os.readlink` is only called on symlinks, no `KeyError`, no stale alias -/
theorem gen_errors {σ : Type} (hl : HashLib σ) (t : FsTree) (alg : Str) (x : PyErr)
    (h : Gen.HashsumsFns.dir_hashsums hl t alg = .error x) : x = .valueError ∨ x = .typeError := by
  rw [gen_dir_hashsums] at h
  cases hd : dirHashsums hl alg t with
  | ok r => rw [hd] at h; simp [liftE] at h
  | error y =>
    rw [hd] at h; simp only [liftE, Except.error.injEq] at h; subst h
    cases y <;> simp [liftErr]

end MetadorModel.Bridge.HashsumsFns
