import MetadorModel.Bridge.TocFnsPaths
/-!
# Bridge: translated `TOCSchemas` = model
-/
namespace MetadorModel.Bridge.TocFns
open MetadorModel.Container MetadorModel.CtrPy MetadorModel.Gen.TocFns

/-- the model's two index updates as one state transition (what `schemaRegister` / `schemaUnregister` do in line) -/
def upcM (ref : SRef) : Option (List SRef) → M Unit
  | some ps => modC fun c =>
      { c with parents := (upcAdd ref c.parents c.children [] ps).1,
               children := (upcAdd ref c.parents c.children [] ps).2 }
  | none => do
    let s ← getSt
    let ps ← ofOpt .key (alGet s.c.parents ref)
    match upcRemove ref s.c.schemas s.c.parents s.c.children ps with
    | .error e => raise e
    | .ok (par, chi) => modC fun c => { c with parents := par, children := chi }

/-- state with new `_parents` / `_children` -/
def setPC (s : St) (par chi : List (SRef × List SRef)) : St :=
  { s with c := { s.c with parents := par, children := chi } }

@[simp] theorem setPC_raw (s : St) (par chi) : (setPC s par chi).raw = s.raw := rfl
@[simp] theorem setPC_next (s : St) (par chi) : (setPC s par chi).next = s.next := rfl
@[simp] theorem setPC_schemas (s : St) (par chi) : (setPC s par chi).c.schemas = s.c.schemas := rfl
@[simp] theorem setPC_parents (s : St) (par chi) : (setPC s par chi).c.parents = par := rfl
@[simp] theorem setPC_children (s : St) (par chi) : (setPC s par chi).c.children = chi := rfl
@[simp] theorem setPC_setPC (s : St) (par chi par' chi') : setPC (setPC s par chi) par' chi' = setPC s par' chi' := rfl

/-- what the `i`-th iteration of the `add` loop does to `_parents` and `_children` -/
def upcAddF (ref : SRef) (parents : List SRef) (pc : List (SRef × List SRef) × List (SRef × List SRef))
    (ip : Nat × SRef) : List (SRef × List SRef) × List (SRef × List SRef) :=
  let chi := if (alGet pc.2 ip.2).isNone then alSet pc.2 ip.2 [] else pc.2
  (if (alGet pc.1 ip.2).isNone then alSet pc.1 ip.2 (parents.take (ip.1 + 1)) else pc.1,
   if ip.2 ≠ ref then alSet chi ip.2 (setAdd ((alGet chi ip.2).getD []) ref) else chi)

/-- the model's `upcAdd` keeps the prefix `done` of the parent path where the source slices it out of `parents` -/
theorem upcAdd_eq_foldl (ref : SRef) (parents : List SRef) : ∀ (rest done : List SRef) (par chi),
    parents = done ++ rest →
    upcAdd ref par chi done rest = (pyEnumFrom done.length rest).foldl (upcAddF ref parents) (par, chi)
  | [], _, _, _, _ => rfl
  | p :: rest, done, par, chi, h => by
    have ht : parents.take (done.length + 1) = done ++ [p] := by
      rw [h]; simp [List.take_append, List.take_of_length_le]
    have hl : done.length + 1 = (done ++ [p]).length := by simp
    rw [upcAdd, pyEnumFrom, List.foldl_cons, hl, upcAdd_eq_foldl ref parents rest (done ++ [p]) _ _ (by simp [h]),
      upcAddF, ← hl, ht]

theorem gen_upc_add (ref : SRef) (ps : List SRef) :
    TOCSchemas._update_parents_children ref (some ps) = upcM ref (some ps) := by
  funext s
  simp only [TOCSchemas._update_parents_children, upcM, bind_pure_unit, run_modC,
    upcAdd_eq_foldl ref ps ps [] _ _ rfl, pyEnumerate, List.length_nil]
  refine forEachM_fold (fun pc => setPC s pc.1 pc.2) _ (fun _ => True) _ (_, _) trivial
    fun ip _ pc _ => ⟨?_, trivial⟩
  obtain ⟨i, p⟩ := ip
  cases h1 : alGet pc.1 p <;> simp only [mstep, setPC, upcAddF, h1] <;>
    cases h2 : alGet pc.2 p <;> simp only [mstep, h2] <;>
    by_cases hr : p = ref <;> simp only [mstep, hr, h2, alGet_alSet_same, bne_iff_ne]

/-- what one iteration of the `remove` loop does on a state in which `ref` is not registered any more (the entries
are updated in place: a `KeyError` for `_parents` comes after the update of `_children`) -/
def upcRmRun (ref p : SRef) (s : St) : Res Unit :=
  match alGet s.c.children p with
  | none => (.error .key, s)
  | some cs =>
    let cs' := if p ≠ ref then setRemove cs ref else cs
    let chi := if p ≠ ref then alSet s.c.children p cs' else s.c.children
    if p ∈ s.c.schemas then (.ok (), setPC s s.c.parents chi)
    else if cs'.all (fun ch => decide (ch ∉ s.c.schemas)) then
      if (alGet s.c.parents p).isNone then (.error .key, setPC s s.c.parents chi)
      else (.ok (), setPC s (alErase s.c.parents p) (alErase chi p))
    else (.ok (), setPC s s.c.parents chi)

/-- a loop with that body is the model's `upcRemove`, except that a `KeyError` half-way leaves the entries visited
before updated -/
theorem upcRm_loop (ref : SRef) {f : SRef → M Unit} (hf : ∀ p s, ref ∉ s.c.schemas → f p s = upcRmRun ref p s) :
    ∀ (l : List SRef) (s : St), ref ∉ s.c.schemas →
      Agree (forEachM l f s)
        (match upcRemove ref s.c.schemas s.c.parents s.c.children l with
          | .ok (par, chi) => (.ok (), setPC s par chi)
          | .error e => (.error e, s))
  | [], s, _ => Agree.rfl' rfl
  | p :: rest, s, hs => by
    have ih : ∀ par chi, Agree (forEachM rest f (setPC s par chi))
        (match upcRemove ref s.c.schemas par chi rest with
          | .ok (par, chi) => (.ok (), setPC s par chi)
          | .error e => (.error e, s)) := fun par chi => by
      have ih := upcRm_loop ref hf rest (setPC s par chi) hs
      revert ih
      simp only [setPC_schemas, setPC_parents, setPC_children, setPC_setPC]
      cases upcRemove ref s.c.schemas par chi rest with
      | ok pc => exact id
      | error e => exact fun ih => ⟨ih.1, ih.2.1, ih.2.2.1, fun _ h => by cases h⟩
    rw [forEachM_cons, run_bind, hf p s hs, upcRmRun, upcRemove]
    cases alGet s.c.children p with
    | none => exact Agree.rfl' rfl
    | some cs =>
      dsimp only
      generalize (if p ≠ ref then setRemove cs ref else cs) = cs'
      generalize (if p ≠ ref then alSet s.c.children p cs' else s.c.children) = chi
      by_cases hps : p ∈ s.c.schemas
      · simp only [hps, if_true]; exact ih _ _
      · simp only [hps, if_false]
        cases cs'.all fun ch => decide (ch ∉ s.c.schemas) with
        | false => exact ih _ _
        | true =>
          cases (alGet s.c.parents p).isNone with
          | false => exact ih _ _
          | true => exact ⟨rfl, rfl, rfl, fun _ h => by cases h⟩

/-- the `remove` branch: as `Agree` (a `KeyError` half-way leaves the entries visited so far updated) -/
theorem gen_upc_remove (ref : SRef) (s : St) (hs : ref ∉ s.c.schemas) :
    Agree (TOCSchemas._update_parents_children ref none s) (upcM ref none s) := by
  simp only [TOCSchemas._update_parents_children, upcM, bind_pure_unit, mstep]
  cases alGet s.c.parents ref with
  | none => exact Agree.rfl' rfl
  | some ps =>
    simp only [mstep]
    refine (upcRm_loop ref (fun p s hs => ?_) ps s hs).of_eq_right ?_
    · have hall : ∀ cs : List SRef, ((cs.map fun child => !decide (child ∈ s.c.schemas)).all id) =
          cs.all fun ch => decide (ch ∉ s.c.schemas) := fun cs => by
        simp only [List.all_map, Function.comp_def, id, decide_not]
      rw [upcRmRun]
      by_cases hr : p = ref
      · subst hr
        simp only [mstep, hs]
        cases hc : alGet s.c.children p with
        | none => rfl
        | some cs =>
          simp only [mstep, hall]
          cases cs.all fun ch => decide (ch ∉ s.c.schemas) with
          | false => rfl
          | true => cases hp : alGet s.c.parents p <;> simp only [run_ite, mstep, hc] <;> rfl
      · simp only [bne_iff_ne, mstep, hr]
        cases alGet s.c.children p with
        | none => rfl
        | some cs =>
          simp only [mstep, alGet_alSet_same]
          by_cases hps : p ∈ s.c.schemas
          · simp only [hps, mstep]; rfl
          · simp only [hps, mstep, hall]
            cases (setRemove cs ref).all fun ch => decide (ch ∉ s.c.schemas) with
            | false => rfl
            | true => cases hp : alGet s.c.parents p <;> simp only [run_ite, mstep, alGet_alSet_same] <;> rfl
    · cases upcRemove ref s.c.schemas s.c.parents s.c.children ps <;> rfl

/-- loop body of `_register` over the providers: mark the schema as used -/
def usedAddStep (ref : SRef) (pkg : PkgId) : M Unit := do
  let s ← getSt
  let cur ← ofOpt .key (alGet s.c.used pkg)
  modC fun c => { c with used := alSet c.used pkg (setAdd cur ref) }

theorem gen_schema_register (e : Env) (ref : SRef) :
    TOCSchemas._register e upcM (fun pkg info => pkgRegister pkg info.plugins) ref = schemaRegister e ref := by
  funext s
  simp only [TOCSchemas._register, schemaRegister, bind_pure_unit, gen_jsonschema_path_for, gen_schema_path_for,
    joinKey, envGet, envParentPath, envProvider, mstep]
  by_cases hin : ref ∈ s.c.schemas
  · simp only [hin, mstep]
  · simp only [hin, mstep]
    cases hi : e.info ref with
    | none => rfl
    | some i =>
      simp only [mstep, info_ref hi]
      cases rawCreate s.raw (schemaDir ref ++ [Key.jsonschema]) (Node.ds (Val.jsonschema ref)) with
      | error er => rfl
      | ok t1 =>
        simp only [mstep]
        cases rawCreate t1 (schemaDir ref ++ [Key.compat]) (Node.ds (Val.compat i.parents)) with
        | error er => rfl
        | ok t2 =>
          simp only [mstep, upcM]
          cases ((alGet s.c.providers ref).getD []).isEmpty with
          | false => rfl
          | true => simp only [mstep, hi, info_ref hi]

/-- operations that leave the node `q` of the raw tree alone -/
def Keeps {α : Type} (q : Path) (m : M α) : Prop := ∀ s, get? (m s).2.raw q = get? s.raw q

theorem Keeps.run {α : Type} {q : Path} {m : M α} (h : Keeps q m) {s s' : St} {r : Except Err α}
    (hs : m s = (r, s')) : get? s'.raw q = get? s.raw q := by
  have := h s; rwa [hs] at this
theorem Keeps.of_raw {α : Type} (q : Path) {m : M α} (h : ∀ s, (m s).2.raw = s.raw) : Keeps q m :=
  fun s => by rw [h]
theorem Keeps.ofOpt {α : Type} (q : Path) (e : Err) (o : Option α) : Keeps q (ofOpt e o) := by
  cases o <;> exact fun _ => rfl
theorem Keeps.bind {α β : Type} {q : Path} {m : M α} {f : α → M β} (hm : Keeps q m) (hf : ∀ a, Keeps q (f a)) :
    Keeps q (m >>= f) := by
  intro s
  rw [run_bind]
  rcases hms : m s with ⟨_ | a, s'⟩
  exacts [hm.run hms, (hf a s').trans (hm.run hms)]
theorem Keeps.ite {α : Type} {q : Path} {c : Prop} [Decidable c] {m m' : M α} (h : Keeps q m) (h' : Keeps q m') :
    Keeps q (if c then m else m') := by
  split <;> assumption
theorem Keeps.forEachM {α : Type} {q : Path} {f : α → M Unit} (hf : ∀ a, Keeps q (f a)) :
    ∀ l : List α, Keeps q (forEachM l f)
  | [] => fun _ => rfl
  | a :: l => Keeps.bind (hf a) fun _ => Keeps.forEachM hf l
theorem Keeps.liftDel {q p : Path} (hu : under p q = false) : Keeps q (liftRaw fun t => rawDel t p) := by
  intro s
  rw [run_liftRaw]
  cases h : rawDel s.raw p with
  | error e => rfl
  | ok t => simp [rawDel_get? h q, hu]

theorem pkgUnregister_keeps (pkg : PkgId) : Keeps schemasP (pkgUnregister pkg) := by
  refine .bind (.liftDel (by simp [under, pkgPath, schemasP, List.isPrefixOf])) fun _ => ?_
  refine .bind (.of_raw _ fun _ => rfl) fun s => .bind (.ofOpt _ _ _) fun info => ?_
  refine .bind (.of_raw _ fun _ => rfl) fun _ => .bind (.of_raw _ fun _ => rfl) fun s => ?_
  split
  · exact .of_raw _ fun _ => rfl
  · refine .bind (.of_raw _ fun _ => rfl) fun _ => .bind (.of_raw _ fun _ => rfl) fun s => ?_
    exact .ite (.liftDel (by simp [under, packagesP, schemasP, List.isPrefixOf]))
      (.of_raw _ fun _ => rfl)

/-- loop body of `schemaUnregister` over the providers -/
def usedRmStep (ref : SRef) : PkgId → M Unit := fun pkg => do
  let s ← getSt
  let cur ← ofOpt .key (alGet s.c.used pkg)
  modC fun c => { c with used := alSet c.used pkg (setRemove cur ref) }
  if (setRemove cur ref).isEmpty then pkgUnregister pkg

theorem usedRmStep_keeps (ref : SRef) (pkg : PkgId) : Keeps schemasP (usedRmStep ref pkg) :=
  .bind (.of_raw _ fun _ => rfl) fun _ => .bind (.ofOpt _ _ _) fun _ => .bind (.of_raw _ fun _ => rfl) fun _ =>
    .ite (pkgUnregister_keeps pkg) (.of_raw _ fun _ => rfl)

theorem gen_schema_unregister (ref : SRef) (s : St) (hc : PClosed s.raw) :
    TOCSchemas._unregister upcM pkgUnregister ref s = schemaUnregister ref s := by
  simp only [TOCSchemas._unregister, schemaUnregister, bind_pure_unit, gen_schema_path_for, mstep]
  cases h1 : rawDel s.raw (schemaDir ref) with
  | error er => rfl
  | ok t1 =>
    simp only [mstep]
    by_cases hin : ref ∈ s.c.schemas
    · simp only [hin, mstep, upcM]
      cases alGet s.c.parents ref with
      | none => simp only [mstep]
      | some ps =>
        simp only [mstep]
        cases upcRemove ref (setRemove s.c.schemas ref) s.c.parents s.c.children ps with
        | error er => simp only [mstep]
        | ok r =>
          simp only [mstep]
          cases alGet s.c.providers ref with
          | none => simp only [mstep]
          | some provs =>
            simp only [mstep]
            rw [forEachM_congr (usedRmStep ref)]
            · refine bind_run_congr fun _ s4 h4 => ?_
              simp only [run_rawRequireGroup_bind, (Keeps.forEachM (usedRmStep_keeps ref) provs).run h4, parent_after_del (p := schemasP) hc h1, mstep, groupKeys, List.isEmpty_map]
            · intro pkg; funext s
              simp only [usedRmStep, mstep]
              cases hu : alGet s.c.used pkg with
              | none => rfl
              | some cur =>
                by_cases hm : ref ∈ cur
                · simp [hm, mstep]
                · simp [hm, mstep, setRemove_not_mem, alSet_same _ _ _ hu]
    · simp only [hin, mstep]

theorem gen_versions (name : String) (ver : Option Ver) (s : St) :
    TOCSchemas.versions name ver s = (.ok (tocVersions s.c name ver), s) := by
  cases ver <;> simp [TOCSchemas.versions, tocVersions]

theorem gen_parent_path (name : String) (v : Ver) (s : St) :
    TOCSchemas.parent_path (name, some v) none s = ofOpt .key (alGet s.c.parents ⟨name, v⟩) s := by
  simp [TOCSchemas.parent_path, pluginArgs, optValue, dictGetItem]

theorem gen_children (name : String) (kv ver : Option Ver) (s : St) (hk : (alKeys s.c.children).Nodup) :
    ∃ l, TOCSchemas.children (name, kv) ver s = (.ok l, s) ∧
      ∀ x, x ∈ l ↔ match (pluginArgs (name, kv) ver).2 with
        | some v => x ∈ tocChildren s.c ⟨name, v⟩
        | none => x ∈ tocChildrenByName s.c name := by
  simp only [TOCSchemas.children]
  cases (pluginArgs (name, kv) ver).2 with
  | none =>
    refine ⟨_, rfl, fun x => ?_⟩
    simp only [mem_pyUnion, tocChildrenByName, List.mem_flatten, List.mem_map, List.mem_filter, List.mem_filterMap,
      pluginArgs, id, beq_iff_eq]
    constructor
    · rintro ⟨l, ⟨o, ⟨r, ⟨⟨a, hm, rfl⟩, hn⟩, rfl⟩, ho⟩, hx⟩
      exact ⟨l, ⟨(a.1, l), ⟨(mem_iff_alGet hk _ _).mpr ho, hn⟩, rfl⟩, hx⟩
    · rintro ⟨l, ⟨⟨r, cs⟩, ⟨hm, hn⟩, rfl⟩, hx⟩
      exact ⟨cs, ⟨some cs, ⟨r, ⟨⟨(r, cs), hm, rfl⟩, hn⟩, (mem_iff_alGet hk _ _).mp hm⟩, rfl⟩, hx⟩
  | some v =>
    refine ⟨_, rfl, fun x => ?_⟩
    simp only [mem_pyUnion, tocChildren, pluginArgs]
    cases h : alGet s.c.children ⟨name, v⟩ <;> simp [h]

theorem alSet_absent {α β : Type} [DecidableEq α] : ∀ (l : List (α × β)) (a : α) (b : β), a ∉ alKeys l →
    alSet l a b = l ++ [(a, b)]
  | [], a, b, _ => rfl
  | (k, v) :: t, a, b, h => by
    simp only [alKeys, List.map_cons, List.mem_cons, not_or] at h
    have hk : ¬ k = a := fun e => h.1 e.symm
    simp only [alSet, hk, if_false, List.cons_append]
    rw [alSet_absent t a b h.2]

/-- the loop `for pkg in self._pkgs.keys(): self._used[pkg] = set()` builds the list the model starts from -/
theorem foldl_alSet_nil {α β : Type} [DecidableEq α] : ∀ (l : List α) (u : List (α × List β)), l.Nodup →
    (∀ k ∈ l, k ∉ alKeys u) → l.foldl (fun u k => alSet u k []) u = u ++ l.map fun k => (k, [])
  | [], u, _, _ => by simp
  | k :: l, u, hn, hf => by
    simp only [List.nodup_cons] at hn
    have hk := alSet_absent u k [] (hf k (by simp))
    rw [List.foldl_cons, foldl_alSet_nil l _ hn.2, hk]
    · simp
    · intro k' hk'
      simp only [hk, alKeys, List.map_append, List.map_cons, List.map_nil, List.mem_append, List.mem_singleton, not_or]
      exact ⟨hf k' (by simp [hk']), fun e => hn.1 (e ▸ hk')⟩

/-- the fold of `loadSchemas` over the providers of a schema -/
def loadUsedF (r : SRef) (u : List (PkgId × List SRef)) (pkg : PkgId) : List (PkgId × List SRef) :=
  alSet u pkg (setAdd ((alGet u pkg).getD []) r)

theorem usedAddStep_fun (ref : SRef) : usedAddStep ref = (fun pkg => do
    let s ← getSt
    let cur ← ofOpt .key (alGet s.c.used pkg)
    modC fun c => { c with used := alSet c.used pkg (setAdd cur ref) }) := rfl

/-- the fold function of `loadSchemas` -/
def loadSchemaF (t : Tree) (c : Caches) (kn : Key × Node) : Caches :=
  match kn.1 with
  | .ep r =>
    match get? t (schemaDir r ++ [.compat]) with
    | some (.ds (.compat parents)) =>
      { c with schemas := setAdd c.schemas r,
               parents := (upcAdd r c.parents c.children [] parents).1,
               children := (upcAdd r c.parents c.children [] parents).2,
               used := ((alGet c.providers r).getD []).foldl (loadUsedF r) c.used }
    | _ => c
  | _ => c

theorem loadSchemas_eq (t : Tree) (pi : List (PkgId × List SRef)) (pv : List (SRef × List PkgId)) :
    loadSchemas t pi pv = (children t schemasP).foldl (loadSchemaF t)
      { pkginfos := pi, providers := pv, used := pi.map fun e => (e.1, []) } := rfl

/-- every package that provides something has a `_used` entry -/
def UsedDom (pv : List (SRef × List PkgId)) (used : List (PkgId × List SRef)) : Prop :=
  ∀ r ps pk, alGet pv r = some ps → pk ∈ ps → (alGet used pk).isSome

theorem isSome_foldl_loadUsedF (r : SRef) (pk : PkgId) : ∀ (l : List PkgId) (u : List (PkgId × List SRef)),
    (alGet u pk).isSome → (alGet (l.foldl (loadUsedF r) u) pk).isSome
  | [], u, h => h
  | a :: l, u, h => by
    apply isSome_foldl_loadUsedF r pk l
    simp only [loadUsedF, alGet_alSet]
    split <;> simp [h]

/-- what `TOCSchemas.__init__` relies on (tree shape below `schemas/`, and the package caches loaded before) -/
structure SchemaInitOK (s : St) : Prop where
  keys : KeysOK s.raw
  closed : PClosed s.raw
  dir : get? s.raw schemasP = none ∨ get? s.raw schemasP = some .grp
  ep : ∀ k n, get? s.raw (schemasP ++ [k]) = some n → ∃ r, k = .ep r ∧ n = .grp
  compat : ∀ r, get? s.raw (schemaDir r) ≠ none → ∃ ps, get? s.raw (schemaDir r ++ [.compat]) = some (.ds (.compat ps))
  prov : ∀ r, get? s.raw (schemaDir r) ≠ none → (alGet s.c.providers r).isSome
  provpk : ∀ r ps pk, alGet s.c.providers r = some ps → pk ∈ ps → pk ∈ alKeys s.c.pkginfos
  pkgs_nodup : (alKeys s.c.pkginfos).Nodup

theorem gen_schemas_init (s : St) (h : SchemaInitOK s) :
    TOCSchemas.__init__ upcM s =
      (.ok (), { s with c := { loadSchemas s.raw s.c.pkginfos s.c.providers with tocPath := s.c.tocPath } }) := by
  simp only [TOCSchemas.__init__, bind_pure_unit, mstep]
  rw [run_bind_ok (forEachM_fold (fun u => { s with c := { s.c with schemas := [], parents := [], children := [], used := u } })
    (fun u k => alSet u k []) (fun _ => True) _ [] trivial fun _ _ _ _ => ⟨rfl, trivial⟩),
    foldl_alSet_nil _ _ (by simpa [alKeys] using h.pkgs_nodup) (by simp [alKeys]), loadSchemas_eq]
  simp only [mstep, List.nil_append, List.map_map, Function.comp_def]
  rcases h.dir with hd | hd
  · simp [children_eq_nil h.keys h.closed hd, has, hd, mstep]
  · simp only [has, hd, run_rawRequireGroup_bind, mstep, groupItems, forEachM_map]
    refine forEachM_fold (fun c => { s with c := { c with tocPath := s.c.tocPath } }) (loadSchemaF s.raw)
      (fun c => c.providers = s.c.providers ∧ UsedDom s.c.providers c.used) _
      { pkginfos := s.c.pkginfos, providers := s.c.providers, used := s.c.pkginfos.map fun e => (e.1, []) }
      ⟨rfl, fun r ps pk h1 h2 => ?_⟩ fun kn hm c hc => ?_
    · rw [alGet_isSome_iff]
      simpa [alKeys] using h.provpk r ps pk h1 h2
    · have hg := (mem_children h.keys (k := kn.1) (n := kn.2)).mp hm
      obtain ⟨r, hk', hn'⟩ := h.ep kn.1 kn.2 hg
      obtain ⟨k, n⟩ := kn
      subst hk' hn'
      have hg' : get? s.raw (schemaDir r) = some .grp := hg
      obtain ⟨ps, hps⟩ := h.compat r (by rw [hg']; simp)
      obtain ⟨provs, hprovs⟩ := Option.isSome_iff_exists.mp (h.prov r (by rw [hg']; simp))
      have hp : alGet c.providers r = some provs := hc.1 ▸ hprovs
      have hg2 : get? s.raw (schemasP ++ [Key.ep r]) = some .grp := hg
      have hc2 : get? s.raw (joinKey (schemasP ++ [Key.ep r]) Key.compat) = some (.ds (.compat ps)) := hps
      have href : _schema_ref_for (r.name, r.ver) = r := rfl
      simp only [loadSchemaF, hps, hp, mstep, Key.epName, isGroup, hg2, hc2, isDataset, dsRead, Val.jsonRefs, href,
        upcM]
      refine ⟨forEachM_fold
        (fun u => { s with c := { c with tocPath := s.c.tocPath
                                         schemas := setAdd c.schemas r
                                         parents := (upcAdd r c.parents c.children [] ps).1
                                         children := (upcAdd r c.parents c.children [] ps).2
                                         used := u } })
        (loadUsedF r) (fun u => ∀ pk ∈ provs, (alGet u pk).isSome) _ _
        (fun pk hpk => hc.2 r provs pk hprovs hpk) fun pk hpk u hu => ?_,
        hc.1, fun r' ps' pk h1 h2 => isSome_foldl_loadUsedF _ _ _ _ (hc.2 r' ps' pk h1 h2)⟩
      obtain ⟨cur, hcur⟩ := Option.isSome_iff_exists.mp (hu pk hpk)
      refine ⟨by simp only [mstep, hcur, loadUsedF], fun pk' hpk' => ?_⟩
      rw [loadUsedF, alGet_alSet]
      split
      · rfl
      · exact hu pk' hpk'

end MetadorModel.Bridge.TocFns
