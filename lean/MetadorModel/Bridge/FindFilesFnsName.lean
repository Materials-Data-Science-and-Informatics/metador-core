import MetadorModel.Gen.FindFilesFns
import MetadorModel.Bridge.FindFilesFnsDict
/-!
Bridge (file-name functions): the class constants, `_infer_name` and `_next_patch_filepath` of
`Gen/FindFilesFns.lean` (regenerated from /repo on every run by `harness/translate_c03.py`) equal the
model's `ext`/`infix_`, `inferName`, and the name `createPatch` gives the next container.
-/
namespace MetadorModel.Bridge.FindFilesFns
open MetadorModel MetadorModel.FindFiles MetadorModel.Record MetadorModel.RecordPy

theorem gen_constants :
    Gen.FindFilesFns.FILE_EXT = ext ∧ Gen.FindFilesFns.PATCH_INFIX = infix_ ∧
    Gen.FindFilesFns.OPEN_MODES = [modeStr .r, modeStr .rp, modeStr .a, modeStr .w, modeStr .wm, modeStr .x] := by
  decide

theorem gen_infer_name (f : Name) : Gen.FindFilesFns.infer_name f = inferName f := by
  simp [Gen.FindFilesFns.infer_name, inferName, pyHead_pySplit, gen_constants.1, gen_constants.2.1]

/-- `_next_patch_filepath`: name inferred from the oldest container, index of the newest + 1;
`IndexError` on a record without files -/
theorem gen_next_patch_filepath (files : List (Name × UB)) :
    Gen.FindFilesFns.next_patch_filepath files =
      (match files, lastFile files with
       | (f0, _) :: _, some (_, ul) => .ok (patchFile (inferName f0) (ul.idx + 1))
       | _, _ => .error .indexError) := by
  unfold Gen.FindFilesFns.next_patch_filepath
  rw [pyIdx_zero, pyIdx_lastFile]
  cases files with
  | nil => rfl
  | cons a r =>
    cases h : lastFile (a :: r) with
    | none => simp
    | some x =>
      simp [patchFile, gen_infer_name, pyStrNat_eq, gen_constants.1, gen_constants.2.1]

/-- `create_patch` of the model takes its file name from (the translation of)
`_next_patch_filepath` -/
theorem gen_createPatch_path (s : State) (hc : s.h.closed = false) (ha : s.h.allow = true)
    (hw : hasWritable s.h = false) :
    createPatch s =
      (match Gen.FindFilesFns.next_patch_filepath s.h.files, lastFile s.h.files with
       | .ok path, some (_, ul) =>
         (match newContainer s.disk (fileNames s.h) path (newPatchUB ul s.next) with
          | .error e => fail { s with next := s.next + 1 } e
          | .ok d =>
            { st := { disk := d, next := s.next + 1,
                      h := { s.h with files := s.h.files ++ [(path, newPatchUB ul s.next)], lastRW := true } },
              out := .ok, created := [path] })
       | _, _ => fail s .indexError) := by
  rw [gen_next_patch_filepath]
  unfold createPatch
  simp only [hc, ha, hw, Bool.false_eq_true, if_false, Bool.not_true]
  cases hf : s.h.files with
  | nil => simp
  | cons a r =>
    cases hl : lastFile (a :: r) with
    | none => simp
    | some x => simp; rfl


end MetadorModel.Bridge.FindFilesFns
