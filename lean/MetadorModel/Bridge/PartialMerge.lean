import MetadorModel.Gen.PartialMerge
import MetadorModel.Proofs.Partial
/-!
# Bridge: the Lean text generated from `schema/partial.py` equals the model (C14)

`Gen/PartialMerge.lean` is regenerated from the source of `/repo` on every `./check C14` run by
`harness/translate_c14.py` (`PartialModel._update_field`, `PartialModel.merge_with`, translated
statement by statement over the value dictionary `Py/PartialPy.lean`). The theorems below are
re-checked by `lake build` on every run:

* `gen_update_field`: with enough interpreter stack (`fuel`), the translated `_update_field`
  returns / raises exactly what the model's `updO` (the `None` shortcut + `merge`) says, for **all**
  values, paths, `self`, `allow_overwrite`;
* `gen_merge_with`: the translated `merge_with` on two model instances is the model's `mergeWith`
  (field loop `mergeFields`, result of the left class);
* `gen_no_recursion_error`: under the same fuel bound the translated functions do not run out of stack.

The C14 theorems (`Props/C14.lean`) are about `merge` / `mergeFields` / `mergeWith` / `updO`; through
these equalities they are statements about what the source says now.
-/
-- the `simp only` set of `gen_both` names more lemmas than today's text needs, so that harmless rewrites
-- of the source still pass
set_option linter.unusedSimpArgs false

namespace MetadorModel.Bridge.PartialMerge
open MetadorModel MetadorModel.Partial MetadorModel.PartialPy

/-! ## how much stack a merge needs: one frame per `_update_field`, one per nested `merge_with` -/
mutual
def need : PVal → Nat
  | .atom _ => 1
  | .list _ => 1
  | .set _ => 1
  | .obj _ fs => needF fs + 2
def needF : Fields → Nat
  | [] => 0
  | (_, v) :: r => max (need v) (needF r)
end

def needO : Option PVal → Nat
  | none => 1
  | some v => need v

theorem need_mem {kv : String × PVal} {fs : Fields} (h : kv ∈ fs) : need kv.2 ≤ needF fs := by
  induction fs with
  | nil => simp at h
  | cons a r ih =>
    obtain ⟨k0, v⟩ := a
    simp only [needF]
    rcases List.mem_cons.mp h with rfl | h'
    · exact Nat.le_max_left _ _
    · exact Nat.le_trans (ih h') (Nat.le_max_right _ _)

/-- the outcome of a translated computation in the model's terms: the value, or the error kind;
`none` = the interpreter ran out of stack (`RecursionError`), which the model does not have -/
def out {α β : Type} (f : α → β) (x : M α) : Option (Except Err β) :=
  match x with
  | .ok a => some (.ok (f a))
  | .error e => e.toErr.map .error

@[simp] theorem out_ok {α β : Type} (f : α → β) (a : α) : out f (Except.ok a : M α) = some (.ok (f a)) := rfl
@[simp] theorem out_pure {α β : Type} (f : α → β) (a : α) : out f (pure a : M α) = some (.ok (f a)) := rfl
@[simp] theorem out_error {α β : Type} (f : α → β) (e : PyErr) :
    out f (Except.error e : M α) = e.toErr.map .error := rfl
@[simp] theorem out_throw {α β : Type} (f : α → β) (e : PyErr) :
    out f (throw e : M α) = e.toErr.map .error := rfl

/-! ## the model never reports `invalid` from a merge (the `except ValidationError` fall-through of
`_update_field` is dead code under the model's assumption "cast is the identity") -/

theorem asOpaque_ne_invalid (ow : Bool) (n : PVal) : asOpaque ow n ≠ .error .invalid := by
  cases ow <;> simp [asOpaque]

mutual
theorem merge_ne_invalid (ow : Bool) (o n : PVal) : merge ow o n ≠ .error .invalid := by
  cases o with
  | atom a => rw [merge_atom]; exact asOpaque_ne_invalid ow n
  | list xs => rw [merge_list]; cases n <;> simp
  | set xs => rw [merge_set]; cases n <;> simp
  | obj c1 f1 =>
    cases n with
    | obj c2 f2 =>
      rw [merge_obj_obj]
      split
      · have := mergeFields_ne_invalid ow f1 f2
        generalize mergeFields ow f1 f2 = x at this ⊢
        cases x with
        | ok r => nofun
        | error e => exact fun h => this (Except.error.inj h ▸ rfl)
      · exact asOpaque_ne_invalid ow _
    | _ => exact asOpaque_ne_invalid ow _
theorem mergeFields_ne_invalid (ow : Bool) (acc f2 : Fields) : mergeFields ow acc f2 ≠ .error .invalid := by
  cases f2 with
  | nil => simp [mergeFields_nil]
  | cons a r =>
    obtain ⟨k, v⟩ := a
    rw [mergeFields]
    cases AL.get acc k with
    | none => exact mergeFields_ne_invalid ow _ r
    | some o =>
      have := merge_ne_invalid ow o v
      simp only []
      generalize merge ow o v = x at this ⊢
      cases x with
      | ok m => exact mergeFields_ne_invalid ow _ r
      | error e => simpa using this
end

/-- the result of `merge_with` on an instance of class `c1`, from the result of the field loop -/
def objOf (c1 : Cls) : Except Err Fields → Except Err V
  | .ok r => .ok (some (.obj c1 r))
  | .error e => .error e

@[simp] theorem objOf_ok (c1 : Cls) (r : Fields) : objOf c1 (.ok r) = .ok (some (.obj c1 r)) := rfl
@[simp] theorem objOf_error (c1 : Cls) (e : Err) : objOf c1 (.error e) = .error e := rfl

theorem out_eq_ok {α : Type} {x : M α} {a : α} (h : out id x = some (.ok a)) : x = .ok a := by
  cases x with
  | ok b => cases h; rfl
  | error e => simp at h

theorem out_eq_error {α : Type} {x : M α} {e' : Err} (h : out id x = some (.error e')) :
    ∃ e, x = .error e ∧ e.toErr = some e' := by
  cases x with
  | ok b => cases h
  | error e => exact ⟨e, rfl, by simpa using h⟩

/-- the loop of `merge_with`: a body that does, per field, what `updO` and `AL.ins` do computes
`mergeFields`; `step` stands for the call of the translated `_update_field` one frame down -/
theorem gen_loop (ow : Bool) (c1 : Cls) (step : V → String × PVal → M V) (f2 : Fields)
    (h : ∀ o kv, kv ∈ f2 → out id (step o kv) = some (updO ow o (some kv.2))) (acc : Fields) :
    out id (List.foldlM (fun ret (it : String × PVal) =>
        dictGet ret it.1 >>= fun old => step old it >>= fun m => dictSet ret it.1 m)
        (some (.obj c1 acc)) f2) =
      some (objOf c1 (mergeFields ow acc f2)) := by
  induction f2 generalizing acc with
  | nil => rfl
  | cons a r ih =>
    obtain ⟨k0, v⟩ := a
    have hs := h (AL.get acc k0) (k0, v) List.mem_cons_self
    have ih := ih fun o kv hkv => h o kv (List.mem_cons_of_mem _ hkv)
    rw [List.foldlM_cons, mergeFields_cons]
    simp only [dictGet, pure_bind]
    cases hu : updO ow (AL.get acc k0) (some v) with
    | ok z =>
      obtain ⟨m, rfl⟩ := updO_some_right_ok hu
      rw [hu] at hs
      rw [out_eq_ok hs]
      exact ih _
    | error e' =>
      rw [hu] at hs
      obtain ⟨e, hg, _⟩ := out_eq_error hs
      rw [hg] at hs ⊢
      exact hs

theorem gen_both (k : Nat) :
    (∀ self o n path ow, needO n ≤ k →
      out id (Gen.PartialMerge._update_field k self o n path ow) = some (updO ow o n)) ∧
    (∀ c1 f1 c2 f2 ii ow path, needF f2 + 1 ≤ k →
      out id (Gen.PartialMerge.merge_with k (some (.obj c1 f1)) (some (.obj c2 f2)) ii ow path) =
        some (objOf c1 (mergeFields ow f1 f2))) := by
  induction k with
  | zero =>
    refine ⟨fun self o n path ow h => ?_, fun c1 f1 c2 f2 ii ow path h => by omega⟩
    rcases n with _ | n
    · simp [needO] at h
    · cases n <;> simp [needO, need] at h
  | succ k ih =>
    refine ⟨fun self o n path ow h => ?_, fun c1 f1 c2 f2 ii ow path h => ?_⟩
    · -- `path` only feeds the error message; in each of its three shapes (`None`, `[]`, non-empty)
      -- `path or []` evaluates. Then, on every pair of kinds but two model instances, both sides
      -- evaluate, whatever the order of the tests in the source.
      rcases path with _ | _ | ⟨_, _⟩
      all_goals
        rcases o with _ | o
        · cases n <;> rfl
        rcases n with _ | n
        · rfl
        cases o with
        | atom a => cases n <;> cases ow <;> rfl
        | list xs => cases n <;> rfl
        | set xs => rcases n with (_ | _ | _) | _ | _ | _ <;> rfl
        | obj c1 f1 =>
          cases n with
          | atom b => cases ow <;> rfl
          | list ys => cases ow <;> rfl
          | set ys => cases ow <;> rfl
          | obj c2 f2 =>
            -- one frame of the translated text; the nested `merge_with` stays folded
            rw [updO_some, merge_obj_obj, related]
            simp only [Gen.PartialMerge._update_field, truthyO, truthyL, List.isEmpty_nil, List.isEmpty_cons, isNone,
              isList, isSet, isModel, toPartialVal, toPartial,
              pyType, pyIssubclass, guardModel, pure_bind, bind_pure, Bool.or_self, Bool.and_self, Bool.not_true,
              Bool.not_false, Bool.or_false, Bool.false_or, Bool.and_true, Bool.true_and, Bool.not_not,
              Bool.false_eq_true, if_false, if_true]
            by_cases hr : (sub c2 c1 || sub c1 c2) = true
            · simp only [hr, if_true]
              -- by induction the nested call is the model's field loop, which never reports `invalid`:
              -- the `except ValidationError` arm is not taken
              generalize hX : Gen.PartialMerge.merge_with k _ _ _ _ _ = X
              have h2 : out id X = some (objOf c1 (mergeFields ow f1 f2)) :=
                hX ▸ ih.2 _ _ _ _ _ _ _ (by simp only [needO, need] at h; omega)
              have hni := mergeFields_ne_invalid ow f1 f2
              cases hm : mergeFields ow f1 f2 with
              | ok r =>
                rw [hm] at h2
                rw [out_eq_ok h2]
                rfl
              | error e' =>
                rw [hm] at h2 hni
                obtain ⟨e, rfl, he⟩ := out_eq_error h2
                cases e with
                | validationError => exact absurd (congrArg Except.error (Option.some.inj he).symm) hni
                | _ => exact h2
            · simp only [hr, if_false]
              cases ow <;> rfl
    · simp only [Gen.PartialMerge.merge_with, pyCast, pyCopy, fieldVals, pure_bind, bind_pure]
      exact gen_loop ow c1 _ f2
        (fun o kv hkv => ih.1 _ _ _ _ _ (by have := need_mem hkv; simp only [needO]; omega)) f1

/-- `PartialModel._update_field` as written in the source = `updO` (the `None` shortcut, then `merge`:
list concatenation, set union, recursive merge of related model classes, conflict / overwrite) of the
model, for all values, with the error kinds `ValueError ↦ conflict`, `TypeError ↦ shape`. -/
theorem gen_update_field (fuel : Nat) (self o n : Option PVal) (path : Option (List String)) (ow : Bool)
    (h : needO n ≤ fuel) :
    out id (Gen.PartialMerge._update_field fuel self o n path ow) = some (updO ow o n) :=
  (gen_both fuel).1 self o n path ow h

/-- … in particular on two provided values it is the model's `merge`. -/
theorem gen_update_field_merge (fuel : Nat) (self : Option PVal) (o n : PVal) (path : Option (List String))
    (ow : Bool) (h : need n ≤ fuel) :
    out id (Gen.PartialMerge._update_field fuel self (some o) (some n) path ow) =
      some (match merge ow o n with
        | .ok m => .ok (some m)
        | .error e => .error e) := by
  rw [gen_update_field fuel self (some o) (some n) path ow h]
  rfl

/-- `PartialModel.merge_with` as written in the source (cast of the right operand, copy of the left one,
the field loop) on two model instances = `mergeWith` of the model: the field loop is `mergeFields`, the
result has the class of the left operand; `ignore_invalid` and `_path` do not matter. -/
theorem gen_merge_with (fuel : Nat) (c1 : Cls) (f1 : Fields) (c2 : Cls) (f2 : Fields) (ii ow : Bool)
    (path : Option (List String)) (h : needF f2 + 1 ≤ fuel) :
    out id (Gen.PartialMerge.merge_with fuel (some (.obj c1 f1)) (some (.obj c2 f2)) ii ow path) =
      some (match mergeWith ow (.obj c1 f1) (.obj c2 f2) with
        | .ok r => .ok (some r)
        | .error e => .error e) := by
  rw [(gen_both fuel).2 c1 f1 c2 f2 ii ow path h, mergeWith]
  cases mergeFields ow f1 f2 <;> rfl

/-- with that much stack the translated functions do not raise `RecursionError` -/
theorem gen_no_recursion_error (fuel : Nat) (self o n : Option PVal) (path : Option (List String)) (ow : Bool)
    (h : needO n ≤ fuel) :
    Gen.PartialMerge._update_field fuel self o n path ow ≠ .error .recursionError := by
  intro hx
  have := gen_update_field fuel self o n path ow h
  rw [hx] at this
  simp [PyErr.toErr] at this

/-! ## the generated text computes (non-vacuity of the statements above) -/

/-- a provided `0` survives the merge with an absent value (F5) -/
example : Gen.PartialMerge._update_field 1 none none (some (.atom (.int 0))) none false
    = .ok (some (.atom (.int 0))) := by rfl

/-- a conflict without overwrite permission is a `ValueError`, with it the later value wins -/
example : Gen.PartialMerge._update_field 1 none (some (.atom (.int 0))) (some (.atom (.int 1))) none false
    = .error .valueError := by rfl
example : Gen.PartialMerge._update_field 1 none (some (.atom (.int 0))) (some (.atom (.int 1))) none true
    = .ok (some (.atom (.int 1))) := by rfl

/-- child instance on the left, parent instance on the right: recursive merge, result of the left class,
lists concatenated; needs three frames -/
example : Gen.PartialMerge._update_field 3 none
    (some (.obj ["Par", "Chi"] [("xs", .list [.atom (.int 1)])]))
    (some (.obj ["Par"] [("x", .atom (.int 0)), ("xs", .list [.atom (.int 2)])])) none false
    = .ok (some (.obj ["Par", "Chi"] [("x", .atom (.int 0)), ("xs", .list [.atom (.int 1), .atom (.int 2)])])) := by
  rfl
example : Gen.PartialMerge._update_field 2 none
    (some (.obj ["Par", "Chi"] [("xs", .list [.atom (.int 1)])]))
    (some (.obj ["Par"] [("xs", .list [.atom (.int 2)])])) none false
    = .error .recursionError := by
  rfl

end MetadorModel.Bridge.PartialMerge
