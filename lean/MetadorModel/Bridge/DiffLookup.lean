import MetadorModel.Bridge.DiffCompare
import MetadorModel.Bridge.DiffGet
/-! Bridge (C18): the generated `DiffNode.compare` and `DirDiff.get` composed. -/
namespace MetadorModel.Bridge.Diff
open MetadorModel MetadorModel.Diff MetadorModel.DiffPy

/-- `DirDiff.compare(prev, curr).get(p)`: the translated functions composed find the node the
model finds (with the insertion order of its buckets forgotten), whatever the iteration order. -/
theorem gen_get_compare (ord : IterOrd) (hord : PermOrd ord) (fuel : Nat) (a b : DirTree)
    (ha : a.wf = true) (hb : b.wf = true) (hd : max (depthT a) (depthT b) < fuel) (p : Path) :
    ∃ r g, Gen.Diff.compare ord fuel (some a) (some b) [] = .ok r ∧ Gen.Diff.get r p = .ok g ∧
      g.map canon = Diff.get (Diff.compare a b) p := by
  obtain ⟨r, h1, h2⟩ := gen_compare_top ord hord fuel a b ha hb hd
  refine ⟨r, Diff.get r p, h1, gen_get r p, ?_⟩
  rw [← h2, get_canon r p]
  intro d hr
  subst hr
  exact sortedD_compareAt (some a) (some b) ha hb [] _ h2.symm

end MetadorModel.Bridge.Diff
