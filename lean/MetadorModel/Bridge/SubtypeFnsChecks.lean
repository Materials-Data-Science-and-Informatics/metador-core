import MetadorModel.Bridge.SubtypeFns
/-! Bridge (continued): `check_allowed_types`, `detect_field_overrides`, `check_overrides` of schema/core.py, translated
on every `./check C13` run (`Gen/SubtypeFns.lean`), equal the model's `checkAllowed`, `detectOverrides`,
`checkOverrides` (`Model/Subtype.lean`). -/
namespace MetadorModel.Bridge.SubtypeFns
open MetadorModel MetadorModel.Codec MetadorModel.Subtype MetadorModel.SubtypePy

/-! ## schema/core.py: `check_allowed_types` -/

theorem filter_isUndef (l : List Hint) : List.filter isUndefVersion l = [] := by
  induction l with
  | nil => rfl
  | cons a l ih => simp [List.filter, isUndefVersion, ih]

/-- what `check_allowed_types` requires of one entry of `_typehints` -/
def allowedHint : Str × Hint → Bool
  | (_, .ty t) => mergeable true t
  | _ => true

/-- `check_allowed_types` is the model's `checkAllowed`: public field names, enough interpreter stack -/
theorem gen_check_allowed_types (T : Table) (fuel : Nat) (n : Str) (c : ClassDef) (hc : find T n = some c)
    (hpub : ∀ x ∈ dictKeys (clsTypehints T (.cls n)), PubName x)
    (hfuel : ∀ p ∈ typeHints T n, tyDepth p.2 < fuel) (h0 : 0 < fuel) :
    Gen.SubtypeFns.check_allowed_types T fuel (.cls n) = ofRefusal (checkAllowed T c) := by
  have hn : c.name = n := C13.find_name T n c hc
  have hall : (clsTypehints T (.cls n)).all allowedHint = (typeHints T n).all (fun p => mergeable true p.2) := by
    simp [clsTypehints, hintsOf, anyOf, List.all_append, List.all_map, Function.comp_def, allowedHint]
  simp only [Gen.SubtypeFns.check_allowed_types]
  rw [foldlM_check' _ allowedHint .typeError]
  · rw [hall, checkAllowed, hn]
    cases (typeHints T n).all (fun p => mergeable true p.2) <;> simp [ofRefusal] <;> rfl
  · intro it hit
    have hp := gen_is_public_name it.1 (hpub it.1 (by simp only [dictKeys, List.mem_map]; exact ⟨it, hit, rfl⟩))
    obtain ⟨k, h⟩ := it
    simp only [hp, pure_bind, Bool.not_true, Bool.false_eq_true, if_false,
      Gen.SubtypeFns.is_mergeable_type, filter_isUndef, List.head?_nil]
    simp only [clsTypehints, List.mem_append, hintsOf, anyOf, List.mem_map] at hit
    rcases hit with ⟨p, hp', hpe⟩ | ⟨p, hp', hpe⟩
    · obtain ⟨rfl, rfl⟩ := Prod.mk.inj hpe.symm
      rw [gen_check_type_mergeable fuel p.2 true (hfuel p hp')]
      simp only [pure_bind, allowedHint]
      by_cases hm : mergeable true p.2 = true <;> simp [hm]
    · obtain ⟨rfl, rfl⟩ := Prod.mk.inj hpe.symm
      rw [gen_ctm_other fuel h0 .any true (by decide)]
      simp [allowedHint]


/-! ## schema/core.py: `detect_field_overrides`, `check_overrides` -/

/-- the recursive equations of `typeHints` / `allConsts` at the class `c` named `n` (they hold for every
class of a table whose parent links are acyclic; the model cuts recursion off by fuel) -/
structure Unfolds (T : Table) (n : Str) (c : ClassDef) : Prop where
  hints : typeHints T n = ((ownHints (baseHints T c) c).foldl (fun acc (p : Str × Ty) => setHint p.1 p.2 acc)
      (baseHints T c)).filter (fun p => !hasKey p.1 c.consts)
  consts : allConsts T n = c.consts.foldl (fun acc (p : Str × Json) => setKey p.1 p.2 acc) (baseConsts T c)

theorem isEmpty_filter {α : Type} (p : α → Bool) (l : List α) : (l.filter p).isEmpty = !l.any p := by
  induction l with
  | nil => rfl
  | cons a l ih => cases h : p a <;> simp [h, ih]

theorem all_congr_mem {α : Type} (g : α → Bool) (l1 l2 : List α) (h : ∀ x, x ∈ l1 ↔ x ∈ l2) : l1.all g = l2.all g := by
  rw [Bool.eq_iff_iff]
  simp only [List.all_eq_true]
  constructor
  · intro h1 x hx; exact h1 x ((h x).mpr hx)
  · intro h1 x hx; exact h1 x ((h x).mp hx)

theorem any_congr_mem {α : Type} (g : α → Bool) (l1 l2 : List α) (h : ∀ x, x ∈ l1 ↔ x ∈ l2) : l1.any g = l2.any g := by
  rw [Bool.eq_iff_iff]
  simp only [List.any_eq_true]
  constructor
  · rintro ⟨x, hx, hg⟩; exact ⟨x, (h x).mp hx, hg⟩
  · rintro ⟨x, hx, hg⟩; exact ⟨x, (h x).mpr hx, hg⟩

theorem mem_setDiff (x : Str) (a b : List Str) : x ∈ setDiff a b ↔ x ∈ a ∧ x ∉ b := by
  simp [setDiff]

theorem mem_setInter (x : Str) (a b : List Str) : x ∈ setInter a b ↔ x ∈ a ∧ x ∈ b := by
  simp [setInter]

theorem mem_dictKeys_filter_key {α : Type} (x : Str) (p : Str → Bool) (d : List (Str × α)) :
    x ∈ dictKeys (d.filter (fun it => p it.1)) ↔ x ∈ dictKeys d ∧ p x = true := by
  simp only [dictKeys, List.mem_map, List.mem_filter]
  constructor
  · rintro ⟨q, ⟨hq, hp⟩, rfl⟩; exact ⟨⟨q, hq, rfl⟩, hp⟩
  · rintro ⟨⟨q, hq, rfl⟩, hp⟩; exact ⟨q, ⟨hq, hp⟩, rfl⟩

theorem dictHas_base (T : Table) (n : Str) (c : ClassDef) (hc : find T n = some c) (x : Str) :
    dictHas (clsBaseTypehints T (.cls n)) x = ((getHint x (baseHints T c)).isSome || hasKey x (baseConsts T c)) := by
  simp only [clsBaseTypehints, hc, dictHas_append, dictHas_hintsOf, dictHas_anyOf]

theorem dictHas_anns (T : Table) (n : Str) (c : ClassDef) (hc : find T n = some c) (x : Str) :
    dictHas (clsAnnotations T (.cls n)) x = (dictHas (ownHints (baseHints T c) c) x || hasKey x c.consts) := by
  simp only [clsAnnotations, hc, dictHas_dictUpdate, dictHas_anyOf]
  rw [show dictHas (hintsOf (ownHints (baseHints T c) c)) x = dictHas (ownHints (baseHints T c) c) x by
    rw [dictHas_hintsOf, getHint_eq_dictGet?]; rfl]

/-- `detect_field_overrides` yields the members of the model's `detectOverrides` -/
theorem gen_detect_field_overrides (T : Table) (n : Str) (c : ClassDef) (hc : find T n = some c)
    (hu : Unfolds T n c) (hpub : ∀ x ∈ dictKeys (clsAnnotations T (.cls n)), PubName x) :
    ∃ A, Gen.SubtypeFns.detect_field_overrides T (.cls n) = pure A ∧ ∀ x, x ∈ A ↔ x ∈ detectOverrides T c := by
  have hn : c.name = n := C13.find_name T n c hc
  refine ⟨setInter (dictKeys (clsBaseTypehints T (.cls n)))
    (dictKeys ((clsAnnotations T (.cls n)).filter (fun it => !hasKey it.1 (allConsts T n)))), ?_, ?_⟩
  · simp only [Gen.SubtypeFns.detect_field_overrides]
    rw [filterM_pure _ (fun it => !hasKey it.1 (allConsts T n))]
    · rfl
    · intro it hit
      have hp := gen_is_public_name it.1 (hpub it.1 (by simp only [dictKeys, List.mem_map]; exact ⟨it, hit, rfl⟩))
      simp [Gen.SubtypeFns.is_pub_instance_field, hp, clsConstants, dictHas_eq_hasKey]
  · intro x
    have hk : hasKey x (allConsts T n) = (hasKey x (baseConsts T c) || hasKey x c.consts) := by
      rw [hu.consts, hasKey_foldl_setKey]
    rw [mem_setInter, mem_dictKeys_filter_key x (fun k => !hasKey k (allConsts T n)), ← dictHas_iff, ← dictHas_iff,
      detectOverrides, hn, List.mem_filter, show x ∈ (ownHints (baseHints T c) c).map (·.1) ↔ _ from (dictHas_iff _ x).symm]
    simp only [dictHas_base T n c hc, dictHas_anns T n c hc, hk, ← Bool.and_eq_true]
    generalize (getHint x (baseHints T c)).isSome = g
    generalize hasKey x (baseConsts T c) = kb
    generalize dictHas (ownHints (baseHints T c) c) x = o
    generalize hasKey x c.consts = kc
    revert g kb o kc
    decide

theorem mem_of_getHint (x : Str) (h : Ty) : ∀ l : List (Str × Ty), getHint x l = some h → (x, h) ∈ l
  | [], hh => by cases hh
  | (k, v) :: l, hh => by
    simp only [getHint] at hh
    split at hh
    · rename_i hk
      cases hh
      rw [beq_iff_eq.mp hk]
      exact List.mem_cons_self ..
    · exact List.mem_cons_of_mem _ (mem_of_getHint x h l hh)

theorem dictGet_hintsOf_append (x : Str) (h : Ty) (l : List (Str × Ty)) (r : List (Str × Hint))
    (hh : getHint x l = some h) : dictGet (hintsOf l ++ r) x = pure (.ty h) := by
  simp [dictGet, dictGet?_append, dictGet?_hintsOf, hh]

/-- an override the model detects is annotated in the class (its own annotation survives the filter on constants)
and in a base -/
theorem detected_hints (T : Table) (n : Str) (c : ClassDef) (hn : c.name = n) (hu : Unfolds T n c) (x : Str)
    (hx : x ∈ detectOverrides T c) :
    ∃ h ph, getHint x (typeHints T n) = some h ∧ getHint x (baseHints T c) = some ph := by
  simp only [detectOverrides, hn, List.mem_filter, Bool.and_eq_true, Bool.not_eq_true'] at hx
  obtain ⟨hown, hnc, hbase⟩ := hx
  rw [hu.consts, hasKey_foldl_setKey, Bool.or_eq_false_iff] at hnc
  have hth : (getHint x (typeHints T n)).isSome = true := by
    rw [hu.hints, getHint_filter_key x (fun k => !hasKey k c.consts), hnc.2, Bool.not_false, if_pos rfl,
      isSome_foldl_setHint, (dictHas_iff _ x).mpr hown, Bool.or_true]
  obtain ⟨h, hh⟩ := Option.isSome_iff_exists.mp hth
  obtain ⟨ph, hph⟩ := Option.isSome_iff_exists.mp hbase
  exact ⟨h, ph, hh, hph⟩

/-- the test `check_overrides` makes for one undeclared override -/
def okOverride (T : Table) (n : Str) (c : ClassDef) (x : Str) : Bool :=
  match getHint x (typeHints T n), getHint x (baseHints T c) with
  | some h, some ph => isSubtype T h ph
  | _, _ => true

/-- `check_overrides` is the model's `checkOverrides`, whatever order the interpreter iterates the set of
undeclared overrides in -/
theorem gen_check_overrides (T : Table) (setOrder : List Str → List Str) (fuel : Nat) (n : Str) (c : ClassDef)
    (hc : find T n = some c) (hu : Unfolds T n c)
    (hpub : ∀ x ∈ dictKeys (clsAnnotations T (.cls n)), PubName x)
    (hord : ∀ l x, x ∈ setOrder l ↔ x ∈ l)
    (hfuel : ∀ p ∈ typeHints T n, annDepth p.2 < fuel) :
    Gen.SubtypeFns.check_overrides T setOrder fuel (.cls n) = ofRefusal (checkOverrides T c) := by
  have hn : c.name = n := C13.find_name T n c hc
  obtain ⟨A, hA, hmem⟩ := gen_detect_field_overrides T n c hc hu hpub
  simp only [Gen.SubtypeFns.check_overrides, hA, pure_bind]
  have hU : (setDiff (clsOverrides T (.cls n)) (dictKeys (clsBaseTypehints T (.cls n)))).isEmpty =
      !c.overrides.any (fun m => (getHint m (baseHints T c)).isNone && !hasKey m (baseConsts T c)) := by
    simp only [setDiff, isEmpty_filter, clsOverrides, hc, contains_dictKeys, dictHas_base T n c hc]
    congr 2; funext m
    cases getHint m (baseHints T c) <;> rfl
  have hM : (setDiff (clsOverrides T (.cls n)) A).isEmpty =
      !c.overrides.any (fun m => !(detectOverrides T c).contains m) := by
    simp only [setDiff, isEmpty_filter, clsOverrides, hc]
    congr 2; funext m
    rw [Bool.eq_iff_iff]
    simp [hmem m]
  rw [hU, hM]
  unfold checkOverrides
  simp only [hn]
  rcases Bool.eq_false_or_eq_true (c.overrides.any fun m =>
    (getHint m (baseHints T c)).isNone && !hasKey m (baseConsts T c)) with h1 | h1
  · simp only [h1]; rfl
  rcases Bool.eq_false_or_eq_true (c.overrides.any fun m => !(detectOverrides T c).contains m) with h2 | h2
  · simp only [h1, h2]; rfl
  simp only [h1, h2, Bool.not_false, Bool.not_true, Bool.false_eq_true, if_false]
  rw [foldlM_check' _ (okOverride T n c) .typeError]
  · have hundecl : ∀ x, x ∈ setOrder (setDiff A (clsOverrides T (.cls n))) ↔
        x ∈ (detectOverrides T c).filter (fun m => !c.overrides.contains m) := by
      intro x
      rw [hord, mem_setDiff, hmem]
      simp [clsOverrides, hc]
    rw [all_congr_mem _ _ _ hundecl, firstErr_check _ (okOverride T n c) .typeError]
    · cases ((detectOverrides T c).filter (fun m => !c.overrides.contains m)).all (okOverride T n c) <;> rfl
    · intro m _
      unfold okOverride
      cases getHint m (typeHints T n) with
      | none => rfl
      | some h => cases getHint m (baseHints T c) <;> rfl
  · intro x hx
    rw [hord, mem_setDiff, hmem] at hx
    obtain ⟨h, ph, hh, hph⟩ := detected_hints T n c hn hu x hx.1
    simp only [clsTypehints, clsBaseTypehints, hc, dictGet_hintsOf_append _ _ _ _ hh, dictGet_hintsOf_append _ _ _ _ hph,
      pure_bind, gen_is_subtype T fuel h ph (hfuel (x, h) (mem_of_getHint x h _ hh)), okOverride, hh, hph]
    cases isSubtype T h ph <;> simp

end MetadorModel.Bridge.SubtypeFns
