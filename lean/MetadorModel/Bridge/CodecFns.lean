import MetadorModel.Bridge.CodecFnsBase
import MetadorModel.Bridge.CodecFnsCore
import MetadorModel.Bridge.CodecFnsMeta
import MetadorModel.Bridge.CodecFnsParser
import MetadorModel.Bridge.CodecFnsNum
import MetadorModel.Proofs.CodecParsers
import MetadorModel.Props.C12
/-!
# Bridge (C12): the C12 theorems, stated about the functions translated from the source

`Gen/CodecFns.lean` is regenerated from `/repo` on every `./check C12` run (`harness/translate_c12.py`). The
modules `Bridge/CodecFnsBase|Enc|Core|Meta|Parser|Num.lean` prove each generated function equal to its hand-written
model in `Model/CodecParsers.lean` (one theorem per source function). Here the property-level facts
(`Props/C12.lean`, `Proofs/CodecParsers.lean`) are transferred to the generated functions, so that they are
statements about what the source says now:

* every class created by `DynEncoderModelMetaclass`, `SchemaMagic` or `SchemaMetaclass` dumps with the dynamic
  encoder registry that `schema/types.py` fills (`gen_encoder_reaches_all_classes`, cf. F4);
* `parse_raw(o.json())`, `parse_raw(bytes(o))`, `parse_raw(o.yaml())` give `o` back (`gen_roundtrip_*`);
* the `Env` of the C12 theorems is the one the translated parser pipeline defines (`gen_env_norm`, `gen_env_crash`);
* `override_consts` leaves `decode` unchanged and `json_dict` shows the constants; `NumValue` accepts its own output.
-/
namespace MetadorModel.Bridge.CodecFns
open MetadorModel MetadorModel.Codec MetadorModel.CodecParsers MetadorModel.CodecPy MetadorModel.C12

/-- the metaclasses the source defines for schema classes -/
def schemaMetaclasses : List String := ["DynEncoderModelMetaclass", "SchemaMagic", "SchemaMetaclass"]

/-- **every class produced by the metaclass chain gets the registry** (the pinned tree failed here for
`SchemaMagic`, F4): whatever metaclass of the chain creates the class, starting from pydantic's own encoder,
`.json()` of an instance is the dump of `Model/Codec.lean` — durations, units and quantities included -/
theorem gen_encoder_reaches_all_classes (L : Lib) (m : String) (hm : m ∈ schemaMetaclasses)
    (reg : Registry) (hreg : Gen.CodecFns.registry = .ok reg) (cs : Dict) (bases : List ClsSt) (v : PyVal) :
    ∃ st, Gen.CodecFns.classInit L reg m ⟨pydanticLeaf, cs⟩ bases = .ok st ∧
      Gen.CodecFns.BaseModelPlus.json L st.jsonEncoder v [] = .ok (L.jsonDumps [] (encode v)) := by
  rw [gen_registry] at hreg
  cases hreg
  simp only [schemaMetaclasses, List.mem_cons, List.not_mem_nil, or_false] at hm
  rcases hm with rfl | rfl | rfl
  · exact ⟨_, gen_class_init_DynEncoderModelMetaclass L _ _ _, by rw [gen_json]; exact jsonText_default L v⟩
  · exact ⟨_, gen_class_init_SchemaMagic L _ _ _, by rw [gen_json]; exact jsonText_default L v⟩
  · exact ⟨_, gen_class_init_SchemaMetaclass L _ _ _, by rw [gen_json]; exact jsonText_default L v⟩

/-- the declared metaclasses of `BaseModelPlus` and `MetadataSchema` are among them -/
theorem gen_declared_metaclasses :
    Gen.CodecFns.BaseModelPlus.metaclass ∈ schemaMetaclasses ∧ Gen.CodecFns.MetadataSchema.metaclass ∈ schemaMetaclasses := by
  decide

/-- `S.parse_raw(o.json()) == o` for the translated `json` / `parse_raw` -/
theorem gen_roundtrip_json (L : Lib) (hl : TextLaws L) (t : Ty) (v : PyVal) (h : Valid (envOf L) t v) :
    ∃ s, Gen.CodecFns.BaseModelPlus.json L (classLeaf L registryModel) v [] = .ok s ∧
      Gen.CodecFns.BaseModelPlus.parse_raw L t s [] = .ok v := by
  simpa only [gen_json, gen_parse_raw] using parseRaw_own_json L hl t v h

/-- `S.parse_raw(bytes(o)) == o` -/
theorem gen_roundtrip_bytes (L : Lib) (hl : TextLaws L) (t : Ty) (v : PyVal) (h : Valid (envOf L) t v) :
    ∃ s, Gen.CodecFns.BaseModelPlus.__bytes__ L (classLeaf L registryModel) v = .ok s ∧
      Gen.CodecFns.BaseModelPlus.parse_raw L t s [] = .ok v := by
  simpa only [gen_bytes, gen_parse_raw] using parseRaw_own_bytes L hl t v h

/-- `S.parse_raw(o.yaml()) == o` -/
theorem gen_roundtrip_yaml (L : Lib) (hl : TextLaws L) (t : Ty) (v : PyVal) (h : Valid (envOf L) t v) (kw : Dict) :
    ∃ s, Gen.CodecFns.BaseModelPlus.yaml L (classLeaf L registryModel) v kw = .ok s ∧
      Gen.CodecFns.BaseModelPlus.parse_raw L t s [] = .ok v := by
  simpa only [gen_yaml, gen_parse_raw] using parseRaw_own_yaml L hl t v h

/-- `o.json_dict()` of a parsed schema instance has every constant with its constant value -/
theorem gen_json_dict_constants (L : Lib) (hl : TextLaws L) (n : Str) (ex : Extra) (fs : List Field) (cs : Dict)
    (j : Json) (v : PyVal) (hdisj : ∀ f ∈ fs, hasKey (fieldName f) cs = false)
    (h : decode (envOf L) (.model n ex fs cs) j = .ok v) :
    Gen.CodecFns.BaseModelPlus.json_dict L (classLeaf L registryModel) v [] = .ok (.obj (dumped v)) ∧
      ∀ k, hasKey k cs = true → lookup k (dumped v) = lookup k cs := by
  refine ⟨?_, constants_forced (envOf L) n ex fs cs j v hdisj h⟩
  rw [gen_json_dict, jsonDict_default L hl v]
  obtain ⟨_, fvs, xs, _, _, rfl⟩ := decode_model_shape (envOf L) n ex fs cs j v h
  rw [encode_obj]

/-- constants on input are ignored: the translated pre-validator does not change what `decode` returns -/
theorem gen_override_consts_decode (L : Lib) (n : Str) (ex : Extra) (fs : List Field) (cls : SchemaCls) (kvs : Dict)
    (hdisj : ∀ f ∈ fs, hasKey (fieldName f) cls.constants = false) :
    ∃ kvs', Gen.CodecFns.SchemaBase.override_consts cls kvs = .ok kvs' ∧
      decode (envOf L) (.model n ex fs cls.constants) (.obj kvs') = decode (envOf L) (.model n ex fs cls.constants) (.obj kvs) :=
  ⟨_, gen_override_consts cls kvs, decode_overrideConsts (envOf L) n ex fs cls.constants kvs hdisj⟩

/-- the `Env` of the C12 theorems, read off the translated parser pipeline: `norm k s` is the text of the instance
that `run_parser(Parser, field.type_, s)` returns … -/
theorem gen_env_norm (L : Lib) (k : Opq) (s : Str) :
    (envOf L).norm k s = (match Gen.CodecFns.run_parser (genParserCls L k) (.opq k) (.json (.str s)) with
      | .ok (.inst _ n) => some n
      | _ => none) := by
  rw [gen_validate_opq]; rfl

/-- … and `crash` an exception of it that pydantic does not turn into a validation error -/
theorem gen_env_crash (L : Lib) (k : Opq) (s : Str) :
    (envOf L).crash k s = (match Gen.CodecFns.run_parser (genParserCls L k) (.opq k) (.json (.str s)) with
      | .error e => !e.isValidation
      | .ok _ => false) := by
  rw [gen_validate_opq]; rfl

/-- `NumValue`: the translated parser refuses booleans (F20) and accepts its own output, giving back an equal
value (F29) -/
theorem gen_num_own_output (L : Lib) (hl : NumLaws L) (cfg : NumCfg) (q : QV) (h : GoodOut cfg q) (b : Bool) :
    Gen.CodecFns.NumValue.Parser.parse L cfg (.json (.obj (dumpQV q))) = .ok (.qv q) ∧
      Gen.CodecFns.NumValue.Parser.parse L cfg (.json (.bool b)) = .error .typeError := by
  simp only [gen_num_parse]
  exact ⟨numParse_own_output L hl cfg q h, rfl⟩

end MetadorModel.Bridge.CodecFns
