import MetadorModel.Bridge.TocFnsPaths
import MetadorModel.Proofs.ContainerInv
/-!
# Bridge: translated `MetadorMeta` = the model's `Handle.*`

`self` of a `MetadorMeta` method is the model's `Handle` (`_base_dir`, `_objs`); a method that updates
`self._objs` returns the new handle, as the model's functions do.
-/
namespace MetadorModel.Bridge.TocFns
open MetadorModel.Container MetadorModel.CtrPy MetadorModel.Gen.TocFns

/-- the model's `_require_schema` as an operation of `M` -/
def requireSchemaM (e : Env) (name : String) (ver : Option Ver) : M SInfo := fun s => liftE (e.requireSchema name ver) s

theorem gen_require_schema (e : Env) : MetadorMeta._require_schema e = requireSchemaM e := by
  funext name ver s
  simp only [MetadorMeta._require_schema, requireSchemaM, Env.requireSchema, envGetUnsafe, run_bind]
  cases e.resolve name ver with
  | none => rfl
  | some r =>
    simp only []
    cases e.info r with
    | none => rfl
    | some i =>
      simp only [run_ofOpt_some]
      cases ha : i.aux <;> simp [liftE]

theorem gen_get_raw (h : Handle) (name : String) (ver : Option Ver) :
    MetadorMeta._get_raw h name ver = h.getRaw name ver := by
  simp only [MetadorMeta._get_raw, Handle.getRaw]
  cases ver with
  | none => cases alGet h.objs name <;> rfl
  | some v =>
    cases alGet h.objs name with
    | none => simp
    | some st => simp

/-- the model's `register` on a `StoredMetadata` -/
def linkRegisterM (e : Env) (st : Stored) : M Unit := linkRegister e st.schema st.uuid st.path

theorem rawCreate_has {t t' : Tree} {p : Path} {n : Node} (h : rawCreate t p n = .ok t') : get? t' p = some n := by
  rw [rawCreate_get? h p]; simp

theorem gen_set_raw (e : Env) (h : Handle) (ref : SRef) (tok : String) :
    MetadorMeta._set_raw freshUuid (linkRegisterM e) h ref tok = h.setRaw e ref tok := by
  funext s
  simp only [MetadorMeta._set_raw, Handle.setRaw, joinObj, gen_ep_name_for, linkRegisterM]
  refine bind_run_congr fun u s1 _ => ?_
  simp only [mstep]
  cases hc : rawCreate s1.raw (h.baseDir ++ [Key.obj ⟨ref.name, ref.ver⟩ u]) (Node.ds (Val.data tok)) with
  | error er => simp only [mstep]
  | ok t1 => simp only [mstep, has, rawCreate_has hc, isDataset]

theorem gen_del_raw (h : Handle) (name : String) (unlink : Bool)
    (hk : ∀ st, alGet h.objs name = some st → (alGet h.objs st.schema.name).isSome) :
    MetadorMeta._del_raw linkUnregister h name unlink = h.delRaw name unlink := by
  funext s
  simp only [MetadorMeta._del_raw, Handle.delRaw, bind_pure_unit, mstep]
  cases ho : alGet h.objs name with
  | none => simp only [mstep]
  | some st =>
    cases unlink
    on_goal 2 => simp only [mstep]; refine bind_run_congr fun _ s _ => ?_
    all_goals
      simp only [mstep, hk st ho]
      cases rawDel s.raw st.path with
      | error er => simp only [mstep]
      | ok t1 =>
        simp only [mstep]
        cases (alErase h.objs st.schema.name).isEmpty <;> simp only [mstep]

theorem destroy_loop (unlink : Bool) : ∀ (l : List String) (h : Handle),
    (do let _ ← pyFoldM l h (fun h n => do let h ← Handle.delRaw h n unlink; pure h); pure ()) =
      Handle.destroy.go unlink h l
  | [], h => rfl
  | n :: ns, h => by
    funext s
    have ih := fun h' => congrFun (destroy_loop unlink ns h')
    simp only [pyFoldM, Handle.destroy.go, mstep, run_bind] at ih ⊢
    rcases Handle.delRaw h n unlink s with ⟨r, s1⟩
    cases r with
    | error er => rfl
    | ok h' => exact ih h' s1

/-- `_destroy` (the handle it returns is dropped: the model's `destroy` returns nothing) -/
theorem gen_destroy (h : Handle) (unlink : Bool) :
    (do let _ ← MetadorMeta._destroy (fun h n u => Handle.delRaw h n u) h unlink; pure ()) = h.destroy unlink := by
  simp only [MetadorMeta._destroy, Handle.destroy]
  rw [← destroy_loop]

theorem gen_setitem (e : Env) (h : Handle) (name : String) (ver : Option Ver) (valid : Bool) (tok : String) :
    MetadorMeta.__setitem__ (requireSchemaM e) (fun h r t => Handle.setRaw e h r t) h (name, ver) (valid, tok)
      = h.set e name ver valid tok := by
  funext s
  simp only [MetadorMeta.__setitem__, Handle.set, pluginArgs, gen_get_raw, mstep, run_bind, requireSchemaM, parseValue]
  cases h.getRaw name none with
  | some st => simp
  | none =>
    simp only [Option.isSome_none, Bool.false_eq_true, if_false, mstep]
    cases e.requireSchema name ver with
    | error er => rfl
    | ok info =>
      simp only [liftE, mstep]
      cases valid with
      | false => simp
      | true =>
        simp only [if_true, Bool.not_true, Bool.false_eq_true, if_false, mstep]

theorem gen_delitem (h : Handle) (name : String) (ver : Option Ver) :
    MetadorMeta.__delitem__ (fun h n u => Handle.delRaw h n u) h (name, ver) = h.del name := by
  funext s
  simp only [MetadorMeta.__delitem__, Handle.del, pluginArgs, gen_get_raw, mstep, run_bind]
  cases h.getRaw name none with
  | none => simp
  | some st =>
    simp only [Option.isNone_some, Bool.false_eq_true, if_false, mstep]

theorem find?_foldl_setAdd {α : Type} [DecidableEq α] (p : α → Bool) : ∀ (l acc : List α),
    (l.foldl setAdd acc).find? p = (acc ++ l).find? p
  | [], acc => by simp
  | a :: l, acc => by
    rw [List.foldl_cons, find?_foldl_setAdd p l]
    by_cases ha : a ∈ acc
    · simp only [setAdd, ha, if_true, List.find?_append, List.find?_cons]
      cases hf : acc.find? p with
      | some x => simp
      | none =>
        have : p a = false := by
          have := List.find?_eq_none.mp hf a ha
          simpa using this
        simp [this]
    · simp [setAdd, ha]

theorem head?_filter_pySetOf {α : Type} [DecidableEq α] (p : α → Bool) (l : List α) :
    ((pySetOf l).filter p).head? = (l.filter p).head? := by
  simp [List.head?_filter, pySetOf, find?_foldl_setAdd]

theorem mem_pySetOf {α : Type} [DecidableEq α] (x : α) (l : List α) : x ∈ pySetOf l ↔ x ∈ l := by
  simp [pySetOf, mem_foldl_setAdd]

/-- the model's `versions` as an operation of `M` -/
def versionsM (name : String) (ver : Option Ver) : M (List SRef) := fun s => (.ok (tocVersions s.c name ver), s)

/-- what `MetadorMeta.query` needs of `TOCSchemas.children` (a set: only membership counts); `gen_children`
shows that the translated `children` has it when the keys of `_children` are distinct -/
def ChildrenSpec (ch : (String × Option Ver) → Option Ver → M (List SRef)) (s : St) : Prop :=
  ∀ r : SRef, ∃ l, ch (r.name, some r.ver) none s = (.ok l, s) ∧ ∀ x, x ∈ l ↔ x ∈ tocChildren s.c r

theorem gen_query (ch : (String × Option Ver) → Option Ver → M (List SRef)) (h : Handle)
    (name : String) (kv ver : Option Ver) (s : St)
    (hch : ChildrenSpec ch s) (hn : name ≠ "") (hk : (alKeys h.objs).Nodup) :
    ∃ l, MetadorMeta.query ch versionsM h (name, kv) ver s = (.ok l, s) ∧
      l.head? = (h.query s.c name (pluginArgs (name, kv) ver).2).head? ∧
      ∀ x, x ∈ l ↔ x ∈ h.query s.c name (pluginArgs (name, kv) ver).2 := by
  generalize hv : (pluginArgs (name, kv) ver).2 = v'
  have hpa : pluginArgs (name, kv) ver = (name, v') := by rw [← hv]; rfl
  -- the two comprehensions; `g r` is the list `ch` returns for the version `r`
  obtain ⟨g, hg⟩ : ∃ g : SRef → List SRef, ∀ r, ch (r.name, some r.ver) none s = (.ok (g r), s) ∧
      ∀ x, x ∈ g r ↔ x ∈ tocChildren s.c r := ⟨fun r => (hch r).choose, fun r => (hch r).choose_spec⟩
  have hls := pyMapM_map s id g (f := fun ref_ => ch (ref_.name, some ref_.ver) none) (tocVersions s.c name v')
    fun r _ => (hg r).1
  rw [List.map_id] at hls
  have hbs := pyMapM_map s (·.1) (·.2.schema) (f := fun s_ => do
      let tmp4 ← ofOpt .other (h.getRaw s_ none)
      pure tmp4.schema) h.objs fun e he => by
    simp only [Handle.getRaw, (mem_iff_alGet hk _ _).mp he, mstep]
  have hcompat : ∀ x, x ∈ pyUnion ((tocVersions s.c name v').map g) ↔
      x ∈ ((tocVersions s.c name v').map (tocChildren s.c)).flatten := fun x => by
    simp only [mem_pyUnion, List.mem_flatten, List.mem_map, exists_exists_and_eq_and, (hg _).2]
  have hfilter : ∀ (l : List SRef), l.filter (fun x => decide (x ∈ pyUnion ((tocVersions s.c name v').map g))) =
      l.filter (fun x => decide (x ∈ ((tocVersions s.c name v').map (tocChildren s.c)).flatten)) := by
    intro l; apply List.filter_congr; intro x _; simp [hcompat x]
  have hne : (!(name != "")) = false := by simpa using hn
  simp only [MetadorMeta.query, hpa, gen_get_raw, Handle.query, List.map_id', hne, Bool.false_eq_true, if_false]
  cases h.getRaw name v' with
  | none =>
    refine ⟨_, (by simp only [mstep, run_bind, versionsM, hls, hbs]; rfl), ?_, fun x => ?_⟩
    · simp only [List.nil_append, hfilter, head?_filter_pySetOf]
    · simp only [List.nil_append, List.mem_filter, mem_pySetOf, hcompat x, decide_eq_true_eq]
  | some st =>
    refine ⟨_, (by simp only [mstep, run_bind, versionsM, hls, hbs]; rfl), ?_, fun x => ?_⟩
    · simp
    · simp only [List.nil_append, List.mem_append, List.mem_filter, mem_pySetOf, hcompat x, decide_eq_true_eq,
        List.mem_cons, List.not_mem_nil, or_false]

theorem gen_contains (qM : Handle → (String × Option Ver) → Option Ver → M (List SRef)) (h : Handle)
    (name : String) (ver : Option Ver) (s : St)
    (hq : name ≠ "" → ∃ l, qM h (name, ver) none s = (.ok l, s) ∧ l.head? = (h.query s.c name ver).head?) :
    MetadorMeta.__contains__ qM h (name, ver) s = (.ok (h.contains s.c name ver), s) := by
  simp only [MetadorMeta.__contains__, Handle.contains, Bool.false_or, Bool.true_and]
  by_cases hn : name = ""
  · simp [hn]
  · obtain ⟨l, hl, hh⟩ := hq hn
    simp only [beq_iff_eq, hn, if_false, mstep, run_bind, hl, hh]
    cases h.query s.c name ver <;> simp

/-- `get`: Python parses the first candidate `query` yields; the model tries the candidates in turn. They agree
when the first candidate can be read (which `Inv` guarantees for every candidate). -/
theorem gen_get (e : Env) (qM : Handle → (String × Option Ver) → Option Ver → M (List SRef)) (h : Handle)
    (name : String) (kv ver : Option Ver) (s : St)
    (hq : ∃ l, qM h (name, none) (pluginArgs (name, kv) ver).2 s = (.ok l, s) ∧
      l.head? = (h.query s.c name (pluginArgs (name, kv) ver).2).head?)
    (hfirst : ∀ q, (h.query s.c name (pluginArgs (name, kv) ver).2).head? = some q →
      ∃ st tok, h.getRaw q.name (some q.ver) = some st ∧ get? s.raw st.path = some (.ds (.data tok))) :
    MetadorMeta.get qM (requireSchemaM e) h (name, kv) ver s =
      liftE ((h.get e s name (pluginArgs (name, kv) ver).2).map (Option.map fun r => (r.parsedAs, r.tok))) s := by
  generalize hv : (pluginArgs (name, kv) ver).2 = v' at hq hfirst ⊢
  have hpa : pluginArgs (name, kv) ver = (name, v') := by rw [← hv]; rfl
  obtain ⟨l, hl, hh⟩ := hq
  simp only [MetadorMeta.get, hpa, mstep, run_bind, hl, hh, gen_get_raw, Handle.get, Handle.getAll]
  cases hqs : h.query s.c name v' with
  | nil => simp [liftE, Except.map]
  | cons q rest =>
    obtain ⟨st, tok, hst, hd⟩ := hfirst q (by simp [hqs])
    simp only [List.head?_cons]
    cases hr : e.requireSchema name v' with
    | error er => simp [liftE, Except.map, requireSchemaM, hr]
    | ok info =>
      simp [liftE, mstep, run_bind, hst, dsRead, hd, parseStored, Except.map, requireSchemaM, hr]

/-- what `MetadorMeta.__init__` relies on: a metadata directory holds metadata objects only -/
structure MetaDirOK (t : Tree) (base : Path) : Prop where
  keys : KeysOK t
  closed : PClosed t
  objs : ∀ k n, get? t (base ++ [k]) = some n → ∃ r u v, k = .obj r u ∧ n = .ds v

theorem gen_meta_init (node : Path) (s : St) (h : MetaDirOK s.raw (metaBase node (isDataset s.raw node))) :
    MetadorMeta.__init__ node s = (.ok (openHandle s node (isDataset s.raw node)), s) := by
  simp only [MetadorMeta.__init__, mstep, openHandle_eq]
  generalize metaBase node (isDataset s.raw node) = base at h ⊢
  rw [rawGet]
  cases hh : has s.raw base with
  | false => rw [children_eq_nil h.keys h.closed (has_false_iff.mp hh)]; rfl
  | true =>
    simp only [↓reduceIte, groupValues, pyFoldM_map]
    refine pyFoldM_foldl s (Handle.mk base) (loadStep base) _ [] fun kn hm objs => ?_
    have hg := (mem_children h.keys (k := kn.1) (n := kn.2)).mp hm
    obtain ⟨r, u, v, hk, hn⟩ := h.objs kn.1 kn.2 hg
    obtain ⟨k, n⟩ := kn
    subst hk hn
    simp [mstep, isDataset, hg, storedFromNode, objOfPath, loadStep]

end MetadorModel.Bridge.TocFns
