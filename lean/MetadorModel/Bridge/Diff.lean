import MetadorModel.Bridge.DiffCompare
import MetadorModel.Bridge.DiffNodes
/-! Bridge between the Lean text generated from `util/diff.py` in /repo (`Gen/Diff.lean`, regenerated on
every run by `harness/translate_c18.py`) and the hand-written model `Model/Diff.lean` the C18 theorems
are about: `gen_type`, `gen_prev_curr_type`, `gen_status`, `gen_children`, `gen_compare(_top)`,
`gen_nodes`, `gen_get` (one module each, so that a changed function breaks its own obligation) and,
here, their composition `gen_nodes_compare`. -/
namespace MetadorModel.Bridge.Diff
open MetadorModel MetadorModel.Diff MetadorModel.DiffPy

/-- `DiffNode.compare(prev, curr, path).nodes()`: the translated functions composed give the
listing of the model, whatever the iteration order of sets and input dicts. -/
theorem gen_nodes_compare (ord : IterOrd) (hord : PermOrd ord) (fuel fuel' : Nat)
    (prev curr : Option DirTree) (path : Path)
    (hp : wfO prev) (hc : wfO curr) (hd : max (depthO prev) (depthO curr) < fuel) :
    ∃ r, Gen.Diff.compare ord fuel prev curr path = .ok r ∧ r.map canon = compareAt path prev curr ∧
      ∀ d, r = some d → ndepth d < fuel' →
        ∃ l, Gen.Diff.nodes fuel' d = .ok l ∧ l.map DNode.rec' = nodesO (compareAt path prev curr) := by
  obtain ⟨r, h1, h2⟩ := gen_compare ord hord fuel prev curr path hp hc hd
  refine ⟨r, h1, h2, fun d hr hd' => ?_⟩
  obtain ⟨l, h3, h4⟩ := gen_nodes fuel' d hd'
  refine ⟨l, h3, ?_⟩
  subst hr
  rw [h4, ← h2]
  rfl

end MetadorModel.Bridge.Diff
