import MetadorModel.Gen.Diff
import MetadorModel.Bridge.DiffBase
/-! Bridge (C18): the generated `DiffNode.children` equals the model's `children`. -/
namespace MetadorModel.Bridge.Diff
open MetadorModel MetadorModel.Diff MetadorModel.DiffPy

theorem gen_children (d : DNode) : Gen.Diff.children d = .ok (Diff.children d) := by
  obtain ⟨p, pv, cv, rm, md, ad⟩ := d
  simp [Gen.Diff.children, Diff.children, chain, values, DNode.removed, DNode.modified, DNode.added]

end MetadorModel.Bridge.Diff
