import MetadorModel.Bridge.SubtypeFnsChecks
/-!
Bridge for `check_types` (schema/core.py), translated on every `./check C13` run into `Gen.SubtypeFns.check_types`:
a function in the state monad `SM` (the `__types_checked__` marks of all classes; the list object `_walk` shared
between the recursive calls lives on a heap of list objects), recursive on the interpreter's remaining stack (`fuel`).

  an inner call `check_types(d, _walk=walk)`  =  the model's `checkTypesF`  (marks, result; the newly marked classes are
                                                 appended to `walk` in order)                gen_check_types_inner
  the call `PGSchema.check_plugin` makes       =  the model's `loadPlugin` (a refused walk takes back every mark it set)
                                                                                              gen_check_types, gen_check_types_loadPlugin
for every iteration order of the set of undeclared overrides, under `TableOk` (acyclic table, public names, hints
nested less than `D` deep) and with `fuel ≥ D + number of unexamined classes`.
-/
namespace MetadorModel.Bridge.SubtypeFns
open MetadorModel MetadorModel.Codec MetadorModel.Subtype MetadorModel.SubtypePy

def run {α : Type} (m : SM α) (s : St) : Except PyErr α × St := m s

theorem SM.ext {α : Type} (m m' : SM α) (h : ∀ s, run m s = run m' s) : m = m' := funext h

@[simp] theorem run_pure {α : Type} (a : α) (s : St) : run (pure a : SM α) s = (.ok a, s) := rfl
theorem run_bind {α β : Type} (m : SM α) (f : α → SM β) (s : St) :
    run (m >>= f) s = (match run m s with
      | (.ok a, s') => run (f a) s'
      | (.error e, s') => (.error e, s')) := by
  show (bind m f) s = _
  simp only [bind, run]
  split <;> simp_all
@[simp] theorem run_throw {α : Type} (e : PyErr) (s : St) : run (SM.throw e : SM α) s = (.error e, s) := rfl
theorem run_tryCatch {α : Type} (m : SM α) (h : PyErr → SM α) (s : St) :
    run (SM.tryCatch m h) s = (match run m s with
      | (.ok a, s') => (.ok a, s')
      | (.error e, s') => run (h e) s') := by
  simp only [SM.tryCatch, run]
  split <;> simp_all
@[simp] theorem run_liftE {α : Type} (m : E α) (s : St) : run (liftE m) s = (m, s) := rfl

instance : LawfulMonad SM := LawfulMonad.mk'
  (id_map := by
    intro α x; apply SM.ext; intro s
    show run (x >>= fun a => pure (id a)) s = run x s
    rw [run_bind]; rcases h : run x s with ⟨r, s'⟩; cases r <;> simp)
  (pure_bind := by intro α β x f; apply SM.ext; intro s; rw [run_bind]; simp)
  (bind_assoc := by
    intro α β γ x f g; apply SM.ext; intro s
    simp only [run_bind]
    rcases h : run x s with ⟨r, s'⟩; cases r <;> simp)

theorem bind_pure_unit (m : SM Unit) : (m >>= fun _ => pure ()) = m := bind_pure m


/-- outcome `out` of a piece of the walk that the model describes by `res`, started with the marks `marks` and the
heap `heap`, the list object `r` being the `_walk` list: the result and the marks are the model's, the classes
newly marked (none of them was marked before) have been appended to `r` in the order of marking, no other
list object has changed -/
def WalkPost (marks : List Str) (heap : List (List PyCls)) (r : Ref) (res : List Str × Except Refusal Unit)
    (out : Except PyErr Unit × St) : Prop :=
  out.1 = ofRefusal res.2 ∧ out.2.marks = res.1 ∧
  ∃ new : List Str, res.1 = new.reverse ++ marks ∧ (∀ x ∈ new, x ∉ marks) ∧
    out.2.heap = heap.set r (heap[r]?.getD [] ++ new.map PyCls.cls)

theorem WalkPost.refl (marks : List Str) (heap : List (List PyCls)) (r : Ref) :
    WalkPost marks heap r (marks, .ok ()) (.ok (), ⟨marks, heap⟩) := by
  refine ⟨rfl, rfl, [], rfl, by simp, ?_⟩
  simp only [List.map_nil, List.append_nil]
  cases h : heap[r]? with
  | none => simp [List.set_eq_of_length_le (List.getElem?_eq_none_iff.mp h)]
  | some l =>
    obtain ⟨hr, rfl⟩ := List.getElem?_eq_some_iff.mp h
    simp

theorem WalkPost.heap_length {marks : List Str} {heap : List (List PyCls)} {r : Ref}
    {res : List Str × Except Refusal Unit} {out : Except PyErr Unit × St} (h : WalkPost marks heap r res out) :
    out.2.heap.length = heap.length := by
  obtain ⟨_, _, new, _, _, hh⟩ := h
  rw [hh, List.length_set]

theorem WalkPost.sub {marks : List Str} {heap : List (List PyCls)} {r : Ref}
    {res : List Str × Except Refusal Unit} {out : Except PyErr Unit × St} (h : WalkPost marks heap r res out) :
    ∀ b ∈ marks, b ∈ res.1 := by
  obtain ⟨_, _, new, hn, _, _⟩ := h
  intro b hb; rw [hn]; simp [hb]

theorem WalkPost.trans {marks : List Str} {heap : List (List PyCls)} {r : Ref} (hr : r < heap.length)
    {res1 res2 : List Str × Except Refusal Unit} {out1 out2 : Except PyErr Unit × St}
    (h1 : WalkPost marks heap r res1 out1) (h2 : WalkPost res1.1 out1.2.heap r res2 out2) :
    WalkPost marks heap r res2 out2 := by
  obtain ⟨_, _, new1, hn1, hd1, hh1⟩ := h1
  obtain ⟨ho2, hm2, new2, hn2, hd2, hh2⟩ := h2
  refine ⟨ho2, hm2, new1 ++ new2, ?_, ?_, ?_⟩
  · rw [hn2, hn1]; simp
  · intro x hx
    rcases List.mem_append.mp hx with hx | hx
    · exact hd1 x hx
    · intro hm; exact hd2 x hx (by rw [hn1]; simp [hm])
  · rw [hh2, hh1]
    have : (heap.set r (heap[r]?.getD [] ++ new1.map PyCls.cls))[r]? = some (heap[r]?.getD [] ++ new1.map PyCls.cls) := by
      rw [List.getElem?_set]; simp [hr]
    rw [this]
    simp [List.set_set, List.append_assoc]

/-- a walk that started by marking `n` and appending it to the `_walk` list, seen from before that step -/
theorem WalkPost.cons {marks : List Str} {heap : List (List PyCls)} {r : Ref} {n : Str}
    {res : List Str × Except Refusal Unit} {out : Except PyErr Unit × St} (hr : r < heap.length) (hn : n ∉ marks)
    (h : WalkPost (n :: marks) (heap.set r (heap[r]?.getD [] ++ [PyCls.cls n])) r res out) :
    WalkPost marks heap r res out := by
  obtain ⟨h1, h2, new, h3, h4, h5⟩ := h
  refine ⟨h1, h2, n :: new, by rw [h3]; simp, fun x hx hm => ?_, ?_⟩
  · rcases List.mem_cons.mp hx with rfl | hx
    · exact hn hm
    · exact h4 x hx (List.mem_cons_of_mem _ hm)
  · rw [h5, List.getElem?_set]
    simp [hr, List.set_set]

/-- model side of `m >>= f`: a refusal ends the walk, otherwise `g` goes on from the marks reached -/
def andThen (res : List Str × Except Refusal Unit) (g : List Str → List Str × Except Refusal Unit) :
    List Str × Except Refusal Unit :=
  match res.2 with
  | .error e => (res.1, .error e)
  | .ok () => g res.1

/-- sequencing: what `m` left behind, then what `f` leaves behind from there (on whatever heap `m` produced) -/
theorem WalkPost.bind {marks : List Str} {heap : List (List PyCls)} {r : Ref} (hr : r < heap.length)
    (m : SM Unit) (f : Unit → SM Unit) (s : St) {res1 : List Str × Except Refusal Unit}
    {g : List Str → List Str × Except Refusal Unit} (h1 : WalkPost marks heap r res1 (run m s))
    (h2 : ∀ heap' : List (List PyCls), heap'.length = heap.length → (∀ b ∈ marks, b ∈ res1.1) →
      WalkPost res1.1 heap' r (g res1.1) (run (f ()) ⟨res1.1, heap'⟩)) :
    WalkPost marks heap r (andThen res1 g) (run (m >>= f) s) := by
  rw [run_bind]
  rcases hm : run m s with ⟨o, s1⟩
  rw [hm] at h1
  rcases res1 with ⟨m1, r1⟩
  cases r1 with
  | error e =>
    have ho : o = ofRefusal (.error e) := h1.1
    subst ho
    cases e <;> exact h1
  | ok u =>
    cases u
    have ho : o = .ok () := h1.1
    have hs : s1 = ⟨m1, s1.heap⟩ := by have := h1.2.1; cases s1; simp_all
    subst ho
    have := WalkPost.trans hr h1 (h2 s1.heap h1.heap_length h1.sub)
    rw [hs]
    exact this

def stepCls (T : Table) (fuel : Nat) (acc : List Str × Except Refusal Unit) : PyCls → List Str × Except Refusal Unit
  | .root => acc
  | .cls d => C13.ctStep T fuel acc d

theorem foldl_stepCls_error (T : Table) (fuel : Nat) (ds : List PyCls) (s : List Str) (e : Refusal) :
    List.foldl (stepCls T fuel) (s, .error e) ds = (s, .error e) := by
  induction ds with
  | nil => rfl
  | cons d ds ih => cases d <;> simpa [List.foldl, stepCls, C13.ctStep] using ih

theorem foldl_stepCls_andThen (T : Table) (fuel : Nat) (ds : List PyCls) (acc : List Str × Except Refusal Unit) :
    List.foldl (stepCls T fuel) acc ds = andThen acc (fun m => List.foldl (stepCls T fuel) (m, .ok ()) ds) := by
  rcases acc with ⟨m, r⟩
  cases r with
  | error e => exact foldl_stepCls_error T fuel ds m e
  | ok u => rfl

/-- a loop over classes whose body calls `check_types` (the inner calls being described by `hcall`) is the model's
fold over the dependencies -/
theorem fold_spec (T : Table) (D fuel : Nat) (r : Ref) (call : PyCls → SM Unit)
    (hcall : ∀ d marks heap, r < heap.length → D + C13.unexamined T marks ≤ fuel →
      WalkPost marks heap r (checkTypesF T fuel marks d) (run (call (.cls d)) ⟨marks, heap⟩))
    (hroot : ∀ st, run (call .root) st = (.ok (), st)) :
    ∀ (ds : List PyCls) (F : Unit → PyCls → SM Unit) (keep : PyCls → Bool),
      (∀ it, F () it = if keep it then call it else pure ()) →
      ∀ marks heap, r < heap.length → D + C13.unexamined T marks ≤ fuel →
        WalkPost marks heap r ((ds.filter keep).foldl (stepCls T fuel) (marks, .ok ()))
          (run (List.foldlM F () ds) ⟨marks, heap⟩) := by
  intro ds F keep hF
  induction ds with
  | nil => intro marks heap _ _; exact WalkPost.refl marks heap r
  | cons it ds ih =>
    intro marks heap hr hfu
    rw [List.foldlM_cons, hF it, List.filter_cons]
    cases hk : keep it with
    | false =>
      rw [if_neg Bool.false_ne_true, if_neg Bool.false_ne_true, run_bind]
      exact ih marks heap hr hfu
    | true =>
      rw [if_pos rfl, if_pos rfl]
      cases it with
      | root => rw [run_bind, hroot]; exact ih marks heap hr hfu
      | cls d =>
        have h1 := hcall d marks heap hr hfu
        rw [List.foldl_cons, foldl_stepCls_andThen]
        exact WalkPost.bind hr _ _ _ h1 fun heap' hlen _ => ih (checkTypesF T fuel marks d).1 heap' (hlen ▸ hr)
          (by have := C13.unexamined_mono T marks _ h1.sub; omega)

theorem foldlM_nested (G : Unit → PyCls → SM Unit) (fis : List FieldInsp) :
    List.foldlM (fun (_ : Unit) (fi : FieldInsp) => List.foldlM G () (dictValues fi.schemas) >>= fun _ => pure ()) () fis
      = List.foldlM G () (fis.flatMap (fun fi => dictValues fi.schemas)) := by
  induction fis with
  | nil => rfl
  | cons fi fis ih =>
    rw [List.foldlM_cons, List.flatMap_cons, List.foldlM_append, bind_pure_unit]
    congr 1; funext u; cases u; exact ih

theorem clsFieldsF_flat (T : Table) : ∀ (fuel : Nat) (n : Str),
    (dictValues (clsFieldsF T fuel n)).flatMap (fun fi => dictValues fi.schemas) = (fieldSchemasF T fuel n).map PyCls.cls := by
  intro fuel
  induction fuel with
  | zero => intro n; rfl
  | succ fuel ih =>
    intro n
    simp only [clsFieldsF, fieldSchemasF]
    cases hf : find T n with
    | none => rfl
    | some c =>
      simp only [dictValues, List.map_append, List.flatMap_append, List.map_map, List.map_flatMap]
      congr 1
      · simp [List.flatMap_map, Function.comp_def, List.map_map]
      · cases c.parent with
        | none => rfl
        | some p => simpa [dictValues] using ih p

theorem annDepth_le_tyDepth (t : Ty) : annDepth t ≤ tyDepth t := by
  fun_induction annDepth t
  · simp only [tyDepth]; omega
  · exact Nat.zero_le _

/-- what the bridge of `check_types` assumes about the class table: the recursive equations of `typeHints` /
`allConsts` at every class (acyclic parent links), public field names, hints nested less than `D` deep -/
structure TableOk (T : Table) (D : Nat) : Prop where
  unfolds : ∀ n c, find T n = some c → Unfolds T n c
  pubAnn : ∀ n c, find T n = some c → ∀ x ∈ dictKeys (clsAnnotations T (.cls n)), PubName x
  pubHints : ∀ n c, find T n = some c → ∀ x ∈ dictKeys (clsTypehints T (.cls n)), PubName x
  depth : ∀ n c, find T n = some c → ∀ p ∈ typeHints T n, tyDepth p.2 < D
  dpos : 0 < D

/-- `check_allowed_types(schema); check_overrides(schema)` -/
theorem checks_spec (T : Table) (D : Nat) (hT : TableOk T D) (ord : List Str → List Str)
    (hord : ∀ l x, x ∈ ord l ↔ x ∈ l) (fuel : Nat) (hfu : D ≤ fuel) (n : Str) (c : ClassDef) (hc : find T n = some c) (s : St) :
    run (liftE (Gen.SubtypeFns.check_allowed_types T fuel (.cls n)) >>= fun _ =>
         liftE (Gen.SubtypeFns.check_overrides T ord fuel (.cls n))) s =
      (ofRefusal (match checkAllowed T c with
        | .error e => .error e
        | .ok () => checkOverrides T c), s) := by
  have h0 : 0 < fuel := by have := hT.dpos; omega
  rw [gen_check_allowed_types T fuel n c hc (hT.pubHints n c hc) (fun p hp => by have := hT.depth n c hc p hp; omega) h0,
    gen_check_overrides T ord fuel n c hc (hT.unfolds n c hc) (hT.pubAnn n c hc) hord
      (fun p hp => by have := hT.depth n c hc p hp; have := annDepth_le_tyDepth p.2; omega)]
  rw [run_bind, run_liftE]
  cases checkAllowed T c with
  | error e => cases e <;> rfl
  | ok u => cases u; rfl

theorem unmark_all (xs : List Str) (F : Unit → PyCls → SM Unit) (hF : ∀ s, F () s = setChecked s false) :
    ∀ (m : List Str) (h : List (List PyCls)),
      run (List.foldlM F () (xs.map PyCls.cls)) ⟨m, h⟩ = (.ok (), ⟨m.filter (fun x => !xs.contains x), h⟩) := by
  induction xs with
  | nil =>
    intro m h
    have : m.filter (fun _ => true) = m := List.filter_eq_self.mpr (fun _ _ => rfl)
    simp [this]
  | cons x xs ih =>
    intro m h
    rw [List.map_cons, List.foldlM_cons, run_bind, hF]
    refine (ih (m.filter fun y => y != x) h).trans ?_
    rw [List.filter_filter]
    congr 2
    exact List.filter_congr fun y _ => by simp only [List.contains_cons, Bool.not_or, bne, Bool.and_comm]

theorem run_getChecked (n : Str) (s : St) : run (getChecked (.cls n)) s = (.ok (s.marks.contains n), s) := rfl
theorem run_setChecked_true (n : Str) (m : List Str) (h : List (List PyCls)) (hn : m.contains n = false) :
    run (setChecked (.cls n) true) ⟨m, h⟩ = (.ok (), ⟨n :: m, h⟩) := by
  have hn' : n ∉ m := by simpa using hn
  simp [run, setChecked, hn']
theorem run_newList (m : List Str) (h : List (List PyCls)) : run newList ⟨m, h⟩ = (.ok h.length, ⟨m, h ++ [[]]⟩) := rfl
theorem run_listAppend (r : Ref) (x : PyCls) (m : List Str) (h : List (List PyCls)) (hr : r < h.length) :
    run (listAppend (some r) x) ⟨m, h⟩ = (.ok (), ⟨m, h.set r (h[r]?.getD [] ++ [x])⟩) := by
  simp [run, listAppend, List.getElem?_eq_getElem hr]
theorem run_listItems (r : Ref) (m : List Str) (h : List (List PyCls)) (hr : r < h.length) :
    run (listItems (some r)) ⟨m, h⟩ = (.ok (h[r]?.getD []), ⟨m, h⟩) := by
  simp [run, listItems, List.getElem?_eq_getElem hr]

/-- proving something about `m >>= f` from what `m` did -/
theorem run_bind_spec {α β : Type} (m : SM α) (f : α → SM β) (s : St) (Q : Except PyErr β × St → Prop)
    (h : ∀ o s', run m s = (o, s') → match o with
      | .ok a => Q (run (f a) s')
      | .error e => Q (.error e, s')) : Q (run (m >>= f) s) := by
  rw [run_bind]
  rcases hm : run m s with ⟨o, s'⟩
  have := h o s' hm
  cases o <;> simpa using this

theorem run_tryCatch_spec {α : Type} (m : SM α) (h : PyErr → SM α) (s : St) (Q : Except PyErr α × St → Prop)
    (hq : ∀ o s', run m s = (o, s') → match o with
      | .ok a => Q (.ok a, s')
      | .error e => Q (run (h e) s')) : Q (run (SM.tryCatch m h) s) := by
  rw [run_tryCatch]
  rcases hm : run m s with ⟨o, s'⟩
  have := hq o s' hm
  cases o <;> simpa using this

/-- the model's dependency list, as the two loops of `check_types` see it -/
theorem stepCls_deps (T : Table) (fuel : Nat) (n : Str) (c : ClassDef) (hf : find T n = some c)
    (acc : List Str × Except Refusal Unit) :
    List.foldl (stepCls T fuel) acc
      ((clsBases T (.cls n)).filter isSchemaClass ++
        ((fieldSchemasF T (T.length + 1) n).map PyCls.cls).filter (fun it => !(it == PyCls.cls n) && isSchemaClass it)) =
      List.foldl (C13.ctStep T fuel) acc (C13.ctDeps T c n) := by
  have hmap : ∀ (l : List Str) (a : List Str × Except Refusal Unit),
      List.foldl (stepCls T fuel) a (l.map PyCls.cls) = List.foldl (C13.ctStep T fuel) a l := by
    intro l
    induction l with
    | nil => intro a; rfl
    | cons d l ih => intro a; simp only [List.map_cons, List.foldl_cons, stepCls, ih]
  have hfil : ((fieldSchemasF T (T.length + 1) n).map PyCls.cls).filter (fun it => !(it == PyCls.cls n) && isSchemaClass it) =
      ((fieldSchemasF T (T.length + 1) n).filter (fun s => s != n)).map PyCls.cls := by
    rw [List.filter_map]
    congr 1
    apply List.filter_congr
    intro x _
    simp only [isSchemaClass, Bool.and_true, bne, Function.comp_apply]
    rw [Bool.eq_iff_iff, Bool.not_eq_true', Bool.not_eq_true', beq_eq_false_iff_ne, beq_eq_false_iff_ne, ne_eq, ne_eq,
      PyCls.cls.injEq]
  rw [List.foldl_append, hfil, hmap, C13.ctDeps, List.foldl_append]
  congr 1
  simp only [clsBases, hf]
  cases c.parent with
  | none => rfl
  | some p => rfl

/-- the model's step for a class not yet marked, in the order of `check_types`: the bases, the schemas nested in the
fields, then the two checks on the class itself -/
theorem checkTypesF_succ_andThen (T : Table) (fuel : Nat) (marks : List Str) (n : Str) (c : ClassDef)
    (hc : marks.contains n = false) (hf : find T n = some c) :
    checkTypesF T (fuel + 1) marks n =
      andThen (List.foldl (stepCls T fuel) (n :: marks, .ok ()) ((clsBases T (.cls n)).filter isSchemaClass))
        fun m => andThen (List.foldl (stepCls T fuel) (m, .ok ())
            (((fieldSchemasF T (T.length + 1) n).map PyCls.cls).filter fun it => !(it == PyCls.cls n) && isSchemaClass it))
          fun m' => (m', match checkAllowed T c with
            | .error e => .error e
            | .ok () => checkOverrides T c) := by
  rw [C13.checkTypesF_succ T fuel marks n c hc hf, ← stepCls_deps T fuel n c hf, List.foldl_append, foldl_stepCls_andThen]
  generalize List.foldl (stepCls T fuel) (n :: marks, .ok ()) _ = R1
  rcases R1 with ⟨m, r⟩
  cases r with
  | error e => rfl
  | ok u =>
    simp only [andThen]
    generalize List.foldl (stepCls T fuel) (m, .ok ()) _ = R2
    rcases R2 with ⟨m', r'⟩
    cases r' with
    | error e => rfl
    | ok u' => cases checkAllowed T c <;> rfl

theorem WalkPost.with_result {marks : List Str} {heap : List (List PyCls)} {r : Ref}
    {res : List Str × Except Refusal Unit} {o : Except PyErr Unit} {s : St} (h : WalkPost marks heap r res (o, s))
    (x : Except Refusal Unit) : WalkPost marks heap r (res.1, x) (ofRefusal x, s) :=
  ⟨rfl, h.2.1, h.2.2⟩

/-- `loadPlugin` with the fuel as a parameter (`loadPlugin T = loadPluginF T (2 * T.length + 2)`) -/
def loadPluginF (T : Table) (fuel : Nat) (marks : List Str) (n : Str) : List Str × Except Refusal Unit :=
  let r := checkTypesF T fuel marks n
  match r.2 with
  | .error e => (marks, .error e)
  | .ok () => (r.1, .ok ())

theorem loadPlugin_eq (T : Table) : loadPlugin T = loadPluginF T (2 * T.length + 2) := rfl

/-- the contract of one call `check_types(n, _walk=w)` -/
def CallSpec (T : Table) (fuel : Nat) (w : Option Ref) (marks : List Str) (heap : List (List PyCls)) (n : Str)
    (out : Except PyErr Unit × St) : Prop :=
  match w with
  | some r => WalkPost marks heap r (checkTypesF T fuel marks n) out
  | none => out.1 = ofRefusal (loadPluginF T fuel marks n).2 ∧ out.2.marks = (loadPluginF T fuel marks n).1 ∧
      ∃ hs, out.2.heap = heap ++ hs

/-- a call on a class that is marked already, or is no class of the table, does nothing -/
theorem CallSpec.nothing {T : Table} {fuel : Nat} {marks : List Str} {n : Str} (w : Option Ref) (heap : List (List PyCls))
    (hm : checkTypesF T fuel marks n = (marks, .ok ())) : CallSpec T fuel w marks heap n (.ok (), ⟨marks, heap⟩) := by
  cases w with
  | some r => simp only [CallSpec, hm]; exact WalkPost.refl marks heap r
  | none =>
    simp only [CallSpec, loadPluginF, hm]
    refine ⟨?_, ?_, [], ?_⟩ <;> simp [ofRefusal]

/-- `walk = [] if top else _walk`: the list object the call appends to -/
theorem run_walkList (w : Option Ref) (marks : List Str) (heap : List (List PyCls)) (hw : ∀ r, w = some r → r < heap.length) :
    ∃ r heap1, run (if w.isNone = true then newList >>= fun t2 => pure (some t2) else pure w) ⟨marks, heap⟩ =
        (.ok (some r), ⟨marks, heap1⟩) ∧ r < heap1.length ∧
      (match w with
        | some r' => r = r' ∧ heap1 = heap
        | none => r = heap.length ∧ heap1 = heap ++ [[]]) := by
  cases w with
  | some r' => exact ⟨r', heap, rfl, hw r' rfl, rfl, rfl⟩
  | none =>
    refine ⟨heap.length, heap ++ [[]], ?_, by simp, rfl, rfl⟩
    simp only [Option.isNone_none, if_true]
    rw [run_bind, run_newList]
    rfl

theorem walk_step (T : Table) (D : Nat) (hT : TableOk T D) (ord : List Str → List Str)
    (hord : ∀ l x, x ∈ ord l ↔ x ∈ l) (fuel : Nat)
    (hcall : ∀ r d marks heap, r < heap.length → D + C13.unexamined T marks ≤ fuel →
      WalkPost marks heap r (checkTypesF T fuel marks d)
        (run (Gen.SubtypeFns.check_types T ord fuel (.cls d) false (some r)) ⟨marks, heap⟩))
    (hroot0 : 0 < fuel → ∀ r st, run (Gen.SubtypeFns.check_types T ord fuel .root false (some r)) st = (.ok (), st)) :
    ∀ (w : Option Ref) (marks : List Str) (heap : List (List PyCls)) (n : Str),
      (∀ r, w = some r → r < heap.length) → D + C13.unexamined T marks ≤ fuel + 1 →
      CallSpec T (fuel + 1) w marks heap n
        (run (Gen.SubtypeFns.check_types T ord (fuel + 1) (.cls n) false w) ⟨marks, heap⟩) := by
  intro w marks heap n hw hfu
  simp only [Gen.SubtypeFns.check_types]
  rw [run_bind, run_getChecked]
  simp only [Bool.not_false, Bool.and_true]
  cases hc : marks.contains n with
  | true =>
    simp only [Bool.or_true, if_true, run_pure]
    exact CallSpec.nothing w heap (C13.checkTypesF_seen T fuel marks n hc)
  | false =>
    cases hf : find T n with
    | none =>
      simp only [isMetadataSchema, hf, Option.isNone_none, Bool.true_or, if_true, run_pure]
      exact CallSpec.nothing w heap (C13.checkTypesF_unknown T fuel marks n hc hf)
    | some c =>
      simp only [isMetadataSchema, hf, Option.isNone_some, Bool.or_false, Bool.false_eq_true, if_false]
      have hnm : n ∉ marks := by simpa using hc
      obtain ⟨r, heap1, hjv, hr1, hw1⟩ := run_walkList w marks heap hw
      rw [run_bind, hjv]
      simp only []
      rw [run_bind, run_setChecked_true n marks heap1 hc]
      simp only []
      rw [run_bind, run_listAppend r _ _ _ hr1]
      simp only []
      rw [bind_pure_unit]
      have hr2 : r < (heap1.set r (heap1[r]?.getD [] ++ [PyCls.cls n])).length := by rw [List.length_set]; exact hr1
      have hfu2 : D + C13.unexamined T (n :: marks) ≤ fuel := by
        have := C13.unexamined_lt T marks n c hnm hf; omega
      have hroot := hroot0 (by have := hT.dpos; omega)
      apply run_tryCatch_spec
      intro oB sB hB
      have hpost : WalkPost marks heap1 r (checkTypesF T (fuel + 1) marks n) (oB, sB) := by
        refine WalkPost.cons hr1 hnm ?_
        rw [← hB, checkTypesF_succ_andThen T fuel marks n c hc hf]
        -- first loop: the bases
        refine WalkPost.bind hr2 _ _ _ (fold_spec T D fuel r (fun it => Gen.SubtypeFns.check_types T ord fuel it false (some r))
          (hcall r) (hroot r) _ _ isSchemaClass (by intro it; simp only [bind_pure_unit]) _ _ hr2 hfu2) fun heap3 hlen3 hsub3 => ?_
        -- second loop: the schemas nested in the fields
        rw [foldlM_nested, show (dictValues (clsFields T (.cls n))).flatMap (fun fi => dictValues fi.schemas) =
          (fieldSchemasF T (T.length + 1) n).map PyCls.cls from clsFieldsF_flat T (T.length + 1) n]
        have hr3 : r < heap3.length := hlen3 ▸ hr2
        refine WalkPost.bind hr3 _ _ _ (fold_spec T D fuel r (fun it => Gen.SubtypeFns.check_types T ord fuel it false (some r))
          (hcall r) (hroot r) _ _ (fun it => !(it == PyCls.cls n) && isSchemaClass it) (by intro it; simp only [bind_pure_unit])
          _ _ hr3 (by have := C13.unexamined_mono T (n :: marks) _ hsub3; omega)) fun heap4 _ _ => ?_
        -- the two checks
        simp only [bind_pure_unit]
        rw [checks_spec T D hT ord hord fuel (by omega) n c hf]
        exact (WalkPost.refl _ heap4 r).with_result _
      cases w with
      | some r' =>
        obtain ⟨rfl, rfl⟩ := hw1
        cases oB with
        | ok a => exact hpost
        | error e =>
          simp only [Option.isNone_some, Bool.false_eq_true, if_false]
          rw [run_bind, run_pure]
          exact hpost
      | none =>
        obtain ⟨rfl, rfl⟩ := hw1
        obtain ⟨hk1, hk2, new, hk3, hk4, hk5⟩ := hpost
        have hheapN : sB.heap = heap ++ [new.map PyCls.cls] := by rw [hk5]; simp
        simp only [CallSpec, loadPluginF]
        generalize checkTypesF T (fuel + 1) marks n = res at hk1 hk2 hk3 ⊢
        rcases res with ⟨m', r'⟩
        cases r' with
        | ok u =>
          cases u
          rw [show oB = .ok () from hk1]
          exact ⟨rfl, hk2, _, hheapN⟩
        | error e =>
          obtain ⟨e', he'⟩ : ∃ e', oB = .error e' ∧ .error e' = ofRefusal (.error e) := by
            cases e <;> exact ⟨_, hk1, rfl⟩
          -- the top-level call takes back every mark the walk has set
          rw [he'.1]
          simp only [Option.isNone_none, if_true]
          rw [run_bind, run_bind, show sB = ⟨m', sB.heap⟩ by cases sB; simp_all,
            run_listItems _ _ _ (by rw [hheapN]; simp)]
          simp only []
          rw [show sB.heap[heap.length]?.getD [] = new.map PyCls.cls by rw [hheapN]; simp, run_bind,
            unmark_all new _ (by intro s; simp only [bind_pure_unit])]
          simp only [run_pure, run_throw]
          refine ⟨he'.2, ?_, _, hheapN⟩
          rw [show m' = new.reverse ++ marks from hk3, List.filter_append, List.filter_eq_nil_iff.mpr (by simp),
            List.filter_eq_self.mpr fun x hx => by simpa using fun hmem => hk4 x hmem hx]
          rfl

theorem run_check_types_root (T : Table) (ord : List Str → List Str) (fuel : Nat) (h : 0 < fuel) (w : Option Ref) (st : St) :
    run (Gen.SubtypeFns.check_types T ord fuel .root false w) st = (.ok (), st) := by
  obtain ⟨f, rfl⟩ : ∃ f, fuel = f + 1 := ⟨fuel - 1, by omega⟩
  simp only [Gen.SubtypeFns.check_types]
  rw [run_bind]
  simp [run, getChecked, isMetadataSchema]
  rfl

/-- an inner call `check_types(d, _walk=walk)` is the model's `checkTypesF` -/
theorem gen_check_types_inner (T : Table) (D : Nat) (hT : TableOk T D) (ord : List Str → List Str)
    (hord : ∀ l x, x ∈ ord l ↔ x ∈ l) :
    ∀ (fuel : Nat) (r : Ref) (d : Str) (marks : List Str) (heap : List (List PyCls)),
      r < heap.length → D + C13.unexamined T marks ≤ fuel →
      WalkPost marks heap r (checkTypesF T fuel marks d)
        (run (Gen.SubtypeFns.check_types T ord fuel (.cls d) false (some r)) ⟨marks, heap⟩) := by
  intro fuel
  induction fuel with
  | zero => intro r d marks heap _ h; have := hT.dpos; omega
  | succ fuel ih =>
    intro r d marks heap hr hfu
    exact walk_step T D hT ord hord fuel ih (fun h r st => run_check_types_root T ord fuel h (some r) st)
      (some r) marks heap d (fun r' h => by cases h; exact hr) hfu

/-- **`check_types` as `PGSchema.check_plugin` calls it** (no `recheck`, no `_walk`): outcome and marks afterwards are
the model's `loadPluginF` - in particular a refused walk leaves the marks as they were -, for every iteration order
of sets, with enough interpreter stack (`fuel`) for the classes not yet examined plus the nesting of the hints -/
theorem gen_check_types (T : Table) (D : Nat) (hT : TableOk T D) (ord : List Str → List Str)
    (hord : ∀ l x, x ∈ ord l ↔ x ∈ l) (fuel : Nat) (marks : List Str) (heap : List (List PyCls)) (n : Str)
    (hfu : D + C13.unexamined T marks ≤ fuel) :
    (run (Gen.SubtypeFns.check_types T ord fuel (.cls n) false none) ⟨marks, heap⟩).1 = ofRefusal (loadPluginF T fuel marks n).2 ∧
    (run (Gen.SubtypeFns.check_types T ord fuel (.cls n) false none) ⟨marks, heap⟩).2.marks = (loadPluginF T fuel marks n).1 := by
  obtain ⟨f, rfl⟩ : ∃ f, fuel = f + 1 := ⟨fuel - 1, by have := hT.dpos; omega⟩
  have h := walk_step T D hT ord hord f (gen_check_types_inner T D hT ord hord f)
    (fun h r st => run_check_types_root T ord f h (some r) st) none marks heap n (by intro r h; cases h) hfu
  exact ⟨h.1, h.2.1⟩


/-! ## the model's walk does not depend on the fuel once it exceeds the number of unexamined classes -/

theorem foldl_ctStep_stable (T : Table) (fuel : Nat)
    (ih : ∀ marks n, C13.unexamined T marks < fuel → checkTypesF T (fuel + 1) marks n = checkTypesF T fuel marks n) :
    ∀ (ds : List Str) (acc : List Str × Except Refusal Unit), C13.unexamined T acc.1 < fuel →
      List.foldl (C13.ctStep T (fuel + 1)) acc ds = List.foldl (C13.ctStep T fuel) acc ds := by
  intro ds
  induction ds with
  | nil => intro acc _; rfl
  | cons d ds ihd =>
    rintro ⟨m, r⟩ hacc
    cases r with
    | error e => rw [C13.foldl_ctStep_error, C13.foldl_ctStep_error]
    | ok u =>
      rw [List.foldl_cons, List.foldl_cons, show C13.ctStep T (fuel + 1) (m, .ok u) d = C13.ctStep T fuel (m, .ok u) d from
        ih m d hacc]
      have hacc' : C13.unexamined T m < fuel := hacc
      exact ihd (checkTypesF T fuel m d)
        (by have := C13.unexamined_mono T m _ (C13.checkTypesF_mono T fuel m d); omega)

theorem checkTypesF_stable (T : Table) : ∀ (fuel : Nat) (marks : List Str) (n : Str),
    C13.unexamined T marks < fuel → checkTypesF T (fuel + 1) marks n = checkTypesF T fuel marks n := by
  intro fuel
  induction fuel with
  | zero => intro marks n h; omega
  | succ fuel ih =>
    intro marks n h
    cases hc : marks.contains n with
    | true => rw [C13.checkTypesF_seen T (fuel + 1) marks n hc, C13.checkTypesF_seen T fuel marks n hc]
    | false =>
      cases hf : find T n with
      | none => rw [C13.checkTypesF_unknown T (fuel + 1) marks n hc hf, C13.checkTypesF_unknown T fuel marks n hc hf]
      | some c =>
        have hnm : n ∉ marks := by simpa using hc
        have hlt := C13.unexamined_lt T marks n c hnm hf
        rw [C13.checkTypesF_succ T (fuel + 1) marks n c hc hf, C13.checkTypesF_succ T fuel marks n c hc hf,
          foldl_ctStep_stable T fuel ih _ _ (by simp only []; omega)]

theorem checkTypesF_stable_le (T : Table) (fuel : Nat) (marks : List Str) (n : Str) (h : C13.unexamined T marks < fuel) :
    ∀ k, checkTypesF T (fuel + k) marks n = checkTypesF T fuel marks n := by
  intro k
  induction k with
  | zero => rfl
  | succ k ih => rw [← Nat.add_assoc, checkTypesF_stable T (fuel + k) marks n (by omega), ih]

theorem loadPluginF_eq_loadPlugin (T : Table) (fuel : Nat) (marks : List Str) (n : Str) (h : C13.unexamined T marks < fuel) :
    loadPluginF T fuel marks n = loadPlugin T marks n := by
  have hL := C13.unexamined_le T marks
  unfold loadPluginF loadPlugin
  rw [← checkTypesF_stable_le T fuel marks n h (2 * T.length + 2), Nat.add_comm,
    checkTypesF_stable_le T (2 * T.length + 2) marks n (by omega) fuel]
  rfl

/-- **`check_types(n)` of the source is the model's `loadPlugin`** (the function the load-order theorems
`refused_stays_refused`, `loads_examine_every_ancestor` … of `Props/C13.lean` are about) -/
theorem gen_check_types_loadPlugin (T : Table) (D : Nat) (hT : TableOk T D) (ord : List Str → List Str)
    (hord : ∀ l x, x ∈ ord l ↔ x ∈ l) (fuel : Nat) (marks : List Str) (heap : List (List PyCls)) (n : Str)
    (hfu : D + C13.unexamined T marks ≤ fuel) :
    (run (Gen.SubtypeFns.check_types T ord fuel (.cls n) false none) ⟨marks, heap⟩).1 = ofRefusal (loadPlugin T marks n).2 ∧
    (run (Gen.SubtypeFns.check_types T ord fuel (.cls n) false none) ⟨marks, heap⟩).2.marks = (loadPlugin T marks n).1 := by
  rw [← loadPluginF_eq_loadPlugin T fuel marks n (by have := hT.dpos; omega)]
  exact gen_check_types T D hT ord hord fuel marks heap n hfu

/-- the hypotheses of the `check_types` bridge hold for a concrete three-level table with a widened field -/
theorem tableOk_tblDecl : TableOk C13.tblDecl 2 := by
  have hcases : ∀ n c, find C13.tblDecl n = some c →
      (n = "Ga".toList ∨ n = "Pa".toList ∨ n = "Ch".toList) := by
    intro n c h
    have hm := List.mem_of_find?_eq_some h
    have hn := C13.find_name _ n c h
    simp only [C13.tblDecl, List.mem_cons, List.mem_nil_iff, or_false] at hm
    rcases hm with rfl | rfl | rfl <;> simp [← hn]
  -- every key list of the three classes is `["f"]`
  have hpub : ∀ l : List Str, l = ["f".toList] → ∀ x ∈ l, PubName x := by
    rintro _ rfl x hx
    rw [List.mem_singleton.mp hx]
    exact ⟨'f', [], rfl, by decide⟩
  refine ⟨?_, ?_, ?_, ?_, by omega⟩
  · intro n c h
    rcases hcases n c h with rfl | rfl | rfl <;>
      (have hc : some c = _ := h.symm.trans rfl
       cases Option.some.inj hc
       exact ⟨rfl, rfl⟩)
  · intro n c h
    rcases hcases n c h with rfl | rfl | rfl <;> exact hpub _ rfl
  · intro n c h
    rcases hcases n c h with rfl | rfl | rfl <;> exact hpub _ rfl
  · intro n c h
    rcases hcases n c h with rfl | rfl | rfl <;> decide

/-- non-vacuity of `gen_check_types_loadPlugin`: on that table the translated `check_types`, started without marks,
refuses the leaf class with a `TypeError` and leaves no mark behind - whatever order sets are iterated in -/
example (ord : List Str → List Str) (hord : ∀ l x, x ∈ ord l ↔ x ∈ l) (heap : List (List PyCls)) :
    (run (Gen.SubtypeFns.check_types C13.tblDecl ord 5 (.cls "Ch".toList) false none) ⟨[], heap⟩).1 = .error .typeError ∧
    (run (Gen.SubtypeFns.check_types C13.tblDecl ord 5 (.cls "Ch".toList) false none) ⟨[], heap⟩).2.marks = [] := by
  have h := gen_check_types_loadPlugin C13.tblDecl 2 tableOk_tblDecl ord hord 5 [] heap "Ch".toList (by decide)
  have hl : loadPlugin C13.tblDecl [] "Ch".toList = ([], .error .typeError) := rfl
  rw [hl] at h
  exact h

end MetadorModel.Bridge.SubtypeFns
