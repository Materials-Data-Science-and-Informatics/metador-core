import MetadorModel.Py.DiffPy
import MetadorModel.Proofs.DiffReport
import MetadorModel.Proofs.Paths
/-!
# Lemmas for the translation tie of `util/diff.py` (C18) that do not mention the generated text

Facts about the value dictionary `Py/DiffPy.lean` (the exception monad, loops as `foldlM`,
dict-style buckets, key sets, `sorted(..., key=path)`, `Path.parents`) and about the model
`Model/Diff.lean` (nesting depths, the listing as nodes, its buckets in ascending order of the
paths). The bridge theorems proper are in `Bridge/DiffType|DiffStatus|DiffChildren|
DiffCompare|DiffNodes|DiffGet.lean` and `Bridge/Diff.lean`; only those import `Gen/Diff.lean`.
-/
namespace MetadorModel.Bridge.Diff
open MetadorModel MetadorModel.Diff MetadorModel.DiffPy

@[simp] theorem ok_bind {α β : Type} (x : α) (f : α → M β) : (Except.ok x >>= f) = f x := rfl
@[simp] theorem error_bind {α β : Type} (e : PyErr) (f : α → M β) :
    ((Except.error e : M α) >>= f) = Except.error e := rfl
@[simp] theorem pure_eq_ok {α : Type} (x : α) : (pure x : M α) = Except.ok x := rfl
@[simp] theorem throw_eq_error {α : Type} (e : PyErr) : (throw e : M α) = Except.error e := rfl

/-- a `for` loop whose state after the elements `pre` is `S pre` -/
theorem foldlM_state {σ α : Type} (f : σ → α → M σ) (S : List α → σ) (xs : List α)
    (h : ∀ pre x suf, xs = pre ++ x :: suf → f (S pre) x = .ok (S (pre ++ [x]))) :
    xs.foldlM f (S []) = .ok (S xs) := by
  suffices ∀ suf pre, xs = pre ++ suf → suf.foldlM f (S pre) = .ok (S xs) from this xs [] rfl
  intro suf
  induction suf with
  | nil => intro pre h'; simp at h'; simp [h']
  | cons x suf ih =>
    intro pre h'
    rw [List.foldlM_cons, h pre x suf h']
    simp only [ok_bind]
    apply ih
    simp [h']

theorem bucketPut_fresh (b : List DNode) (x : DNode) (h : ∀ y ∈ b, y.path ≠ x.path) :
    bucketPut b x = b ++ [x] := by
  induction b with
  | nil => rfl
  | cons y r ih =>
    simp only [bucketPut]
    rw [if_neg (h y (by simp)), ih (fun z hz => h z (by simp [hz]))]
    rfl

/-- the core of every loop of `compare`: the elements `xs` have distinct keys, `g a` is the node
stored for `a` under `path / key a` (or nothing), `mk' b` is the node with the bucket `b`. -/
theorem loop_core {α : Type} (xs : List α) (key : α → String) (hn : (xs.map key).Nodup)
    (path : Path) (g : α → Option DNode) (hg : ∀ a ∈ xs, ∀ y, g a = some y → y.path = path ++ [key a])
    (mk' : List DNode → DNode) (f : DNode → α → M DNode)
    (hf : ∀ b a, a ∈ xs → f (mk' b) a =
      match g a with
      | none => .ok (mk' b)
      | some y => bucketSet b (path ++ [key a]) y >>= fun b' => .ok (mk' b')) :
    xs.foldlM f (mk' []) = .ok (mk' (xs.filterMap g)) := by
  apply foldlM_state f (fun pre => mk' (pre.filterMap g)) xs
  intro pre a suf e
  have ha : a ∈ xs := by simp [e]
  rw [hf _ a ha]
  cases hga : g a with
  | none => simp [List.filterMap_append, hga]
  | some y =>
    have hy := hg a ha y hga
    have hfresh : ∀ z ∈ pre.filterMap g, z.path ≠ y.path := by
      intro z hz
      obtain ⟨a', ha', hz'⟩ := List.mem_filterMap.mp hz
      rw [hg a' (by simp [e, ha']) z hz', hy]
      intro e'
      have : key a' = key a := by simpa using e'
      have hn' : (pre.map key ++ key a :: suf.map key).Nodup := by simpa [e] using hn
      exact (List.nodup_append.mp hn').2.2 (key a) (this ▸ List.mem_map_of_mem ha') (key a) List.mem_cons_self rfl
    simp only [bucketSet, hy, if_true, pure_eq_ok, ok_bind, bucketPut_fresh _ _ hfresh]
    simp [List.filterMap_append, hga]

theorem pySet_nodup {l : List String} (h : l.Nodup) : pySet l = l := by
  induction l with
  | nil => rfl
  | cons k r ih =>
    rw [List.nodup_cons] at h
    simp only [pySet, ih h.2]
    congr 1
    rw [List.filter_eq_self]
    intro x hx
    simp only [bne_iff_ne, ne_eq]
    rintro rfl
    exact h.1 hx

theorem contains_keys {V : Type} (l : List (String × V)) (k : String) :
    (l.map Prod.fst).contains k = (AL.get l k).isSome :=
  Bool.eq_iff_iff.mpr (List.contains_iff_mem.trans (AL.mem_keys l k))

theorem mem_setDiff (a b : List String) (k : String) : k ∈ setDiff a b ↔ k ∈ a ∧ k ∉ b := by
  simp [setDiff]

/-- `(a | b) - (b - a) - (a - b)` keeps the elements of `a` that are in `b` -/
theorem inter_eq (A B : List String) :
    setDiff (setDiff (setUnion A B) (setDiff B A)) (setDiff A B) = A.filter (fun k => B.contains k) := by
  have h1 : (B.filter fun k => !A.contains k).filter (fun k => !(setDiff B A).contains k) = [] := by
    rw [List.filter_filter, List.filter_eq_nil_iff]
    intro k hk
    simp [mem_setDiff, hk]
  have h2 : A.filter (fun k => !(setDiff B A).contains k) = A :=
    List.filter_eq_self.mpr fun k hk => by simp [mem_setDiff, hk]
  simp only [setUnion, setDiff] at h1 h2 ⊢
  rw [List.filter_append, h1, h2, List.append_nil]
  apply List.filter_congr
  intro k hk
  simp [hk]

/-- `curr_keys - prev_keys`, `prev_keys - curr_keys` -/
theorem only_keys_eq {es fs : Entries} (he : AL.sorted es = true) (hs : AL.sorted fs = true) :
    setDiff (pySet (fs.map Prod.fst)) (pySet (es.map Prod.fst)) = only fs es := by
  rw [pySet_nodup (AL.keys_nodup he), pySet_nodup (AL.keys_nodup hs), setDiff, only]
  congr 1
  funext k
  rw [contains_keys]
  cases AL.get es k <;> rfl

/-- `(prev_keys | curr_keys) - added - removed` -/
theorem both_keys_eq {es fs : Entries} (he : AL.sorted es = true) (hs : AL.sorted fs = true) :
    setDiff (setDiff (setUnion (pySet (es.map Prod.fst)) (pySet (fs.map Prod.fst)))
      (setDiff (pySet (fs.map Prod.fst)) (pySet (es.map Prod.fst))))
      (setDiff (pySet (es.map Prod.fst)) (pySet (fs.map Prod.fst))) = both es fs := by
  rw [pySet_nodup (AL.keys_nodup he), pySet_nodup (AL.keys_nodup hs), inter_eq, both]
  congr 1
  funext k
  rw [contains_keys]

/-! ## nesting depth (what the recursion limit has to exceed) -/

mutual
def depthT : DirTree → Nat
  | .file _ => 0
  | .dir es => depthEs es + 1
def depthEs : Entries → Nat
  | [] => 0
  | (_, t) :: r => max (depthT t) (depthEs r)
end

def depthO : Option DirTree → Nat
  | none => 0
  | some t => depthT t

theorem depth_get {es : Entries} {k : String} {t : DirTree} (h : AL.get es k = some t) : depthT t ≤ depthEs es := by
  induction es with
  | nil => simp at h
  | cons a r ih =>
    obtain ⟨k', t'⟩ := a
    simp only [depthEs]
    rw [AL.get_cons] at h
    split_ifs at h with h1
    · cases h; exact Nat.le_max_left _ _
    · exact Nat.le_trans (ih h) (Nat.le_max_right _ _)

/-- the entries at a name are less deep; if there is one, the limit `n + 1` was not `1` -/
theorem depthO_child {x : Option DirTree} {n : Nat} (h : depthO x < n + 1) (k : String) :
    ((AL.get (entriesO x) k).isSome = true → 0 < n) ∧ (0 < n → depthO (AL.get (entriesO x) k) < n) := by
  rcases x with _ | s | es
  · exact ⟨nofun, id⟩
  · exact ⟨nofun, id⟩
  · have h' : depthEs es < n := Nat.lt_of_succ_lt_succ h
    refine ⟨fun _ => Nat.zero_lt_of_lt h', fun hn => ?_⟩
    cases hg : AL.get (entriesO (some (.dir es))) k with
    | none => exact hn
    | some u => exact Nat.lt_of_le_of_lt (depth_get (es := es) hg) h'

mutual
/-- nesting depth of a diff node (what the recursion limit of `nodes` has to exceed) -/
def ndepth : DNode → Nat
  | .mk _ _ _ rm md ad => max (ndepthL rm) (max (ndepthL md) (ndepthL ad)) + 1
def ndepthL : List DNode → Nat
  | [] => 0
  | d :: r => max (ndepth d) (ndepthL r)
end

theorem ndepth_mem {l : List DNode} {d : DNode} (h : d ∈ l) : ndepth d ≤ ndepthL l := by
  induction l with
  | nil => simp at h
  | cons a r ih =>
    simp only [ndepthL]
    rcases List.mem_cons.mp h with e | e
    · subst e; exact Nat.le_max_left _ _
    · exact Nat.le_trans (ih e) (Nat.le_max_right _ _)

/-- all paths of `l` are greater than `p` -/
def pathsAbove (p : Path) : List DNode → Bool
  | [] => true
  | d :: r => pathLt p d.path && pathsAbove p r

/-- the paths of `l` are strictly ascending -/
def pathSorted : List DNode → Bool
  | [] => true
  | d :: r => pathsAbove d.path r && pathSorted r

mutual
/-- every bucket of the node, recursively, holds its nodes in ascending order of their paths -/
def sortedD : DNode → Bool
  | .mk _ _ _ rm md ad =>
    pathSorted rm && sortedDL rm && (pathSorted md && sortedDL md) && (pathSorted ad && sortedDL ad)
def sortedDL : List DNode → Bool
  | [] => true
  | d :: r => sortedD d && sortedDL r
end

theorem sortedDL_iff {l : List DNode} : sortedDL l = true ↔ ∀ d ∈ l, sortedD d = true := by
  induction l with
  | nil => simp [sortedDL]
  | cons a r ih => rw [sortedDL, Bool.and_eq_true, ih, List.forall_mem_cons]

theorem pathLt_asymm (p q : Path) (h : pathLt p q = true) : pathLt q p = false := by
  induction p generalizing q with
  | nil => cases q with
    | nil => cases h
    | cons b q => rfl
  | cons a p ih => cases q with
    | nil => cases h
    | cons b q =>
      simp only [pathLt, Bool.or_eq_true, decide_eq_true_eq, Bool.and_eq_true, beq_iff_eq] at h
      simp only [pathLt, Bool.or_eq_false_iff, decide_eq_false_iff_not, Bool.and_eq_false_imp, beq_iff_eq]
      rcases h with h | ⟨h1, h2⟩
      · exact ⟨lt_asymm h, fun e => absurd (e ▸ h) (lt_irrefl _)⟩
      · subst h1; exact ⟨lt_irrefl _, fun _ => ih q h2⟩

theorem pathsAbove_iff (p : Path) (l : List DNode) :
    pathsAbove p l = true ↔ ∀ d ∈ l, pathLt p d.path = true := by
  induction l with
  | nil => simp [pathsAbove]
  | cons x r ih => simp [pathsAbove, ih]

theorem pathSorted_iff (l : List DNode) :
    pathSorted l = true ↔ l.Pairwise (fun a b => pathLt a.path b.path = true) := by
  induction l with
  | nil => simp [pathSorted]
  | cons x r ih => simp [pathSorted, pathsAbove_iff, ih]

theorem insertByPath_middle (x : DNode) (s1 s2 : List DNode)
    (h1 : ∀ y ∈ s1, pathLt y.path x.path = true) (h2 : ∀ z ∈ s2, pathLt x.path z.path = true) :
    insertByPath x (s1 ++ s2) = s1 ++ x :: s2 := by
  induction s1 with
  | nil =>
    cases s2 with
    | nil => rfl
    | cons z r => simp [insertByPath, pathLt_asymm _ _ (h2 z (by simp))]
  | cons y r ih =>
    simp only [List.cons_append, insertByPath, h1 y (by simp), if_true]
    rw [ih (fun y hy => h1 y (by simp [hy]))]

theorem sortedByPath_perm_sorted : ∀ (l s : List DNode), l.Perm s → pathSorted s = true → sortedByPath l = s := by
  intro l
  induction l with
  | nil => intro s h _; have := List.Perm.nil_eq h; subst this; rfl
  | cons x l ih =>
    intro s h hs
    have hx : x ∈ s := h.subset (by simp)
    obtain ⟨s1, s2, rfl⟩ := List.append_of_mem hx
    have hp : l.Perm (s1 ++ s2) := (List.perm_cons x).mp (h.trans List.perm_middle)
    rw [pathSorted_iff] at hs
    have hs' : (s1 ++ s2).Pairwise (fun a b => pathLt a.path b.path = true) :=
      hs.sublist (by simp)
    rw [sortedByPath, ih (s1 ++ s2) hp ((pathSorted_iff _).mpr hs')]
    rw [List.pairwise_append] at hs
    apply insertByPath_middle
    · intro y hy; exact hs.2.2 y hy x (by simp)
    · intro z hz; exact (List.pairwise_cons.mp hs.2.1).1 z hz

/-- `for v in xs: ret += g(v)` -/
theorem loop_extend {f : List DNode → DNode → M (List DNode)} {g : DNode → List DNode}
    (l : List DNode) (ret0 : List DNode)
    (hf : ∀ ret v, v ∈ l → f ret v = .ok (ret ++ g v)) :
    l.foldlM f ret0 = .ok (ret0 ++ l.flatMap g) := by
  have := foldlM_state f (fun pre => ret0 ++ pre.flatMap g) l (by
    intro pre x suf e
    rw [hf _ x (by simp [e])]
    simp)
  simpa using this

mutual
/-- the node with every bucket, recursively, put in ascending order of the paths: what the insertion
order of the three dicts (which depends on Python's set iteration order) is forgotten to -/
def canon : DNode → DNode
  | .mk p pv cv rm md ad =>
    .mk p pv cv (sortedByPath (canonL rm)) (sortedByPath (canonL md)) (sortedByPath (canonL ad))
def canonL : List DNode → List DNode
  | [] => []
  | d :: r => canon d :: canonL r
end

theorem canon_path (d : DNode) : (canon d).path = d.path := by
  obtain ⟨p, pv, cv, rm, md, ad⟩ := d; simp [canon, DNode.path]

theorem canonL_map (l : List DNode) : canonL l = l.map canon := by
  induction l with
  | nil => rfl
  | cons d r ih => simp [canonL, ih]

theorem insertByPath_map (f : DNode → DNode) (hf : ∀ d, (f d).path = d.path) (x : DNode) (l : List DNode) :
    insertByPath (f x) (l.map f) = (insertByPath x l).map f := by
  induction l with
  | nil => rfl
  | cons y r ih =>
    simp only [List.map_cons, insertByPath, hf]
    split_ifs <;> simp [ih]

theorem sortedByPath_map (f : DNode → DNode) (hf : ∀ d, (f d).path = d.path) (l : List DNode) :
    sortedByPath (l.map f) = (sortedByPath l).map f := by
  induction l with
  | nil => rfl
  | cons x r ih => simp only [List.map_cons, sortedByPath, ih, insertByPath_map f hf]

theorem perm_insertByPath (x : DNode) (l : List DNode) : (insertByPath x l).Perm (x :: l) := by
  induction l with
  | nil => simp [insertByPath]
  | cons y r ih =>
    simp only [insertByPath]
    split_ifs
    · exact (List.Perm.cons y ih).trans (List.Perm.swap x y r)
    · exact List.Perm.refl _

theorem perm_sortedByPath (l : List DNode) : (sortedByPath l).Perm l := by
  induction l with
  | nil => exact List.Perm.refl _
  | cons x r ih => exact (perm_insertByPath x _).trans (List.Perm.cons x ih)

theorem nodesL_flatMap (l : List DNode) : nodesL l = l.flatMap nodes := by
  induction l with
  | nil => simp
  | cons d r ih => simp [nodesL_cons, ih]

theorem nodes_canon (p : Path) (pv cv : Option DirTree) (rm md ad : List DNode) :
    nodes (canon (.mk p pv cv rm md ad)) =
      (sortedByPath rm).flatMap (fun v => nodes (canon v)) ++
        ((sortedByPath md).flatMap (fun v => nodes (canon v)) ++
          (⟨p, pv, cv⟩ :: (sortedByPath ad).flatMap (fun v => nodes (canon v)))) := by
  simp only [canon, nodes_mk, canonL_map, sortedByPath_map canon canon_path, nodesL_flatMap,
    List.flatMap_map]

mutual
theorem canon_sorted : (d : DNode) → sortedD d = true → canon d = d
  | .mk p pv cv rm md ad, h => by
    simp only [sortedD, Bool.and_eq_true] at h
    simp only [canon, canonL_sorted rm h.1.1.2, canonL_sorted md h.1.2.2, canonL_sorted ad h.2.2,
      sortedByPath_perm_sorted _ _ (.refl _) h.1.1.1, sortedByPath_perm_sorted _ _ (.refl _) h.1.2.1,
      sortedByPath_perm_sorted _ _ (.refl _) h.2.1]
theorem canonL_sorted : (l : List DNode) → sortedDL l = true → canonL l = l
  | [], _ => rfl
  | d :: r, h => by
    simp only [sortedDL, Bool.and_eq_true] at h
    simp only [canonL, canon_sorted d h.1, canonL_sorted r h.2]
end

theorem pathLt_append_single (p : Path) (k k' : String) :
    pathLt (p ++ [k]) (p ++ [k']) = decide (k < k') := by
  induction p with
  | nil => simp [pathLt]
  | cons a p ih => simp [pathLt, ih]

theorem pathSorted_keys {ks : List String} (hk : ks.Pairwise (· < ·)) (path : Path)
    (g : String → Option DNode) (hg : ∀ k y, g k = some y → y.path = path ++ [k]) :
    pathSorted (ks.filterMap g) = true := by
  rw [pathSorted_iff, List.pairwise_filterMap]
  refine hk.imp fun hab b hb b' hb' => ?_
  rw [hg _ _ hb, hg _ _ hb', pathLt_append_single]
  exact decide_eq_true hab

theorem only_pairwise {es : Entries} (h : AL.sorted es = true) (fs : Entries) :
    (only es fs).Pairwise (· < ·) ∧ (both es fs).Pairwise (· < ·) :=
  ⟨(AL.keys_pairwise h).filter _, (AL.keys_pairwise h).filter _⟩

theorem kid_path {x y : Option DirTree} (hx : wfO x) (hy : wfO y) (p : Path) (k : String) (d : DNode)
    (h : kid p x y k = some d) : d.path = p ++ [k] :=
  compareAt_path (wfO_get hx k) (wfO_get hy k) h

theorem sortedDL_filterMap {α : Type} {f : α → Option DNode} {l : List α}
    (h : ∀ a d, f a = some d → sortedD d = true) : sortedDL (l.filterMap f) = true :=
  sortedDL_iff.mpr fun d hd => by
    obtain ⟨a, _, ha⟩ := List.mem_filterMap.mp hd
    exact h a d ha

theorem sortedD_compareAt : ∀ x y, wfO x → wfO y → ∀ (p : Path) (d : DNode),
    compareAt p x y = some d → sortedD d = true := by
  apply pair_induction
  · intro p d h; cases h
  · intro x y hx hy ih p d h
    by_cases hxy : x = y
    · subst hxy; rw [compareAt_eq hx] at h; cases h
    · rw [compareAt_ne hx hy hxy] at h
      cases h
      have he := only_pairwise (wfO_entries hx).1 (entriesO y)
      have hf := only_pairwise (wfO_entries hy).1 (entriesO x)
      have hD := fun ks => sortedDL_filterMap (f := kid p x y) (l := ks) fun k d h => ih k (p ++ [k]) d h
      simp only [sortedD, pathSorted_keys he.1 p _ (kid_path hx hy p), pathSorted_keys he.2 p _ (kid_path hx hy p),
        pathSorted_keys hf.1 p _ (kid_path hx hy p), hD, Bool.and_self]

theorem sortedDL_cmpEs : (es fs : Entries) → (p : Path) → wfEs es = true → wfEs fs = true →
    sortedDL (cmpEs p es fs) = true := by
  intro es fs p h hf
  induction es with
  | nil => rfl
  | cons a r ih =>
    obtain ⟨k, t⟩ := a
    have hw := (wfEs_cons k t r).mp h
    rw [cmpEs_cons]
    cases hg : AL.get fs k with
    | none => exact ih hw.2
    | some u =>
      dsimp only
      cases hc : cmpT (p ++ [k]) t u with
      | none => exact ih hw.2
      | some d =>
        simp only [sortedDL, ih hw.2, Bool.and_true]
        exact sortedD_compareAt (some t) (some u) hw.1 (wfEs_get hf hg) _ d hc

/-- what the bridge assumes of the iteration order of sets and input dicts -/
def PermOrd (ord : IterOrd) : Prop := ∀ (α : Type) (l : List α), (ord α l).Perm l

example : PermOrd (fun _ l => l) := fun _ _ => List.Perm.refl _
example : PermOrd (fun _ l => l.reverse) := fun _ l => List.reverse_perm l

theorem insertByPath_ne_nil (x : DNode) (l : List DNode) : insertByPath x l ≠ [] := by
  cases l with
  | nil => simp [insertByPath]
  | cons y r => simp only [insertByPath]; split_ifs <;> simp

theorem isEmpty_of_canon {B S : List DNode} (h : sortedByPath (canonL B) = S) : B.isEmpty = S.isEmpty := by
  cases B with
  | nil => subst h; rfl
  | cons x r =>
    cases S with
    | nil => exact absurd h (by simp only [canonL, sortedByPath]; exact insertByPath_ne_nil _ _)
    | cons _ _ => rfl

/-- The loops of `compare`: over (a permutation of) `xs`, whose names `key a` ascend, the body
stores the result `rk (key a)` of the recursive call for the entries at that name, if any. The
bucket then holds those results in the order of the loop … -/
theorem loop_kids {ord : IterOrd} (hord : PermOrd ord) {α : Type} (xs : List α) (key : α → String)
    (hk : xs.Pairwise fun a b => key a < key b) {path : Path} {x y : Option DirTree} (hx : wfO x) (hy : wfO y)
    (rk : String → Option DNode) (hrk : ∀ a ∈ xs, (rk (key a)).map canon = kid path x y (key a))
    (mk' : List DNode → DNode) (f : DNode → α → M DNode)
    (hf : ∀ b a, a ∈ xs → f (mk' b) a =
      match rk (key a) with
      | none => .ok (mk' b)
      | some d => bucketSet b (path ++ [key a]) d >>= fun b' => .ok (mk' b')) :
    (ord _ xs).foldlM f (mk' []) = .ok (mk' ((ord _ xs).filterMap fun a => rk (key a))) := by
  have hp := hord _ xs
  apply loop_core _ key ((hp.map key).nodup_iff.mpr ((List.pairwise_map.mpr hk).imp ne_of_lt)) path _ _ mk' f
  · intro b a ha; exact hf b a (hp.subset ha)
  · intro a ha d hd
    have h1 := hrk a (hp.subset ha)
    rw [hd, Option.map_some] at h1
    rw [← canon_path, kid_path hx hy path _ _ h1.symm]

/-- … and, with the insertion order forgotten, is the model's bucket. -/
theorem canon_kids {ord : IterOrd} (hord : PermOrd ord) {α : Type} (xs : List α) (key : α → String)
    (hk : xs.Pairwise fun a b => key a < key b) {path : Path} {x y : Option DirTree} (hx : wfO x) (hy : wfO y)
    (rk : String → Option DNode) (hrk : ∀ a ∈ xs, (rk (key a)).map canon = kid path x y (key a)) :
    sortedByPath (canonL ((ord _ xs).filterMap fun a => rk (key a))) = (xs.map key).filterMap (kid path x y) := by
  have hp := hord _ xs
  apply sortedByPath_perm_sorted _ _ _ (pathSorted_keys (List.pairwise_map.mpr hk) path _ (kid_path hx hy path))
  rw [canonL_map, List.map_filterMap, List.filterMap_map,
    List.filterMap_congr fun a ha => hrk a (hp.subset ha)]
  exact hp.filterMap _

/-! ### `get` does not depend on the insertion order of the buckets -/

theorem findPath_append (p : Path) (l1 l2 : List DNode) :
    findPath p (l1 ++ l2) = (findPath p l1).orElse (fun _ => findPath p l2) := by
  induction l1 with
  | nil => rfl
  | cons d r ih =>
    rw [List.cons_append, findPath, findPath]
    split_ifs
    · rfl
    · exact ih

theorem pathLt_irrefl (p : Path) : pathLt p p = false := by
  cases h : pathLt p p with
  | false => rfl
  | true => exact absurd (pathLt_asymm p p h) (by simp [h])

theorem findPath_eq_some {l : List DNode} (hn : (l.map DNode.path).Nodup) (q : Path) (d : DNode) :
    findPath q l = some d ↔ d ∈ l ∧ d.path = q := by
  induction l with
  | nil => simp [findPath]
  | cons x r ih =>
    simp only [List.map_cons, List.nodup_cons] at hn
    simp only [findPath]
    split_ifs with hx
    · constructor
      · intro h; cases h; exact ⟨by simp, hx⟩
      · rintro ⟨hm, hq⟩
        rcases List.mem_cons.mp hm with rfl | hm
        · rfl
        · exact absurd (List.mem_map_of_mem (f := DNode.path) hm) (by rw [hq, ← hx]; exact hn.1)
    · rw [ih hn.2]
      constructor
      · rintro ⟨hm, hq⟩; exact ⟨by simp [hm], hq⟩
      · rintro ⟨hm, hq⟩
        rcases List.mem_cons.mp hm with rfl | hm
        · exact absurd hq hx
        · exact ⟨hm, hq⟩

theorem findPath_map_canon (q : Path) (l : List DNode) :
    findPath q (l.map canon) = (findPath q l).map canon := by
  induction l with
  | nil => rfl
  | cons x r ih =>
    simp only [List.map_cons, findPath, canon_path, ih]
    split_ifs <;> rfl

/-- the sorted bucket has the same nodes, and no two of them share a path -/
theorem findPath_canon_bucket (q : Path) (b : List DNode) (hs : pathSorted (sortedByPath (canonL b)) = true) :
    findPath q (sortedByPath (canonL b)) = (findPath q b).map canon := by
  have hp := perm_sortedByPath (canonL b)
  have hn : ((sortedByPath (canonL b)).map DNode.path).Nodup := by
    rw [List.nodup_iff_pairwise_ne, List.pairwise_map]
    exact ((pathSorted_iff _).mp hs).imp fun {a b} hab e => by rw [e, pathLt_irrefl] at hab; cases hab
  rw [← findPath_map_canon, ← canonL_map]
  exact Option.ext fun d => by
    rw [findPath_eq_some hn, findPath_eq_some ((hp.map _).nodup_iff.mp hn), hp.mem_iff]

theorem findPath_children_canon (q : Path) (cur : DNode) (hs : sortedD (canon cur) = true) :
    findPath q (Diff.children (canon cur)) = (findPath q (Diff.children cur)).map canon := by
  obtain ⟨p, pv, cv, rm, md, ad⟩ := cur
  simp only [canon, sortedD, Bool.and_eq_true] at hs
  simp only [canon, Diff.children, findPath_append, findPath_canon_bucket q rm hs.1.1.1,
    findPath_canon_bucket q md hs.1.2.1, findPath_canon_bucket q ad hs.2.1]
  cases findPath q rm <;> cases findPath q md <;> cases findPath q ad <;> rfl

theorem mem_children_canon {cur c : DNode} (hc : c ∈ Diff.children cur) : canon c ∈ Diff.children (canon cur) := by
  obtain ⟨p, pv, cv, rm, md, ad⟩ := cur
  simp only [Diff.children, canon, List.mem_append, canonL_map] at hc ⊢
  have hm : ∀ b : List DNode, c ∈ b → canon c ∈ sortedByPath (b.map canon) := fun b h =>
    (perm_sortedByPath _).symm.subset (List.mem_map_of_mem h)
  rcases hc with h | h | h
  · exact Or.inl (hm _ h)
  · exact Or.inr (Or.inl (hm _ h))
  · exact Or.inr (Or.inr (hm _ h))

theorem sortedD_child {m c : DNode} (hs : sortedD m = true) (hc : c ∈ Diff.children m) : sortedD c = true := by
  obtain ⟨p, pv, cv, rm, md, ad⟩ := m
  simp only [sortedD, Bool.and_eq_true] at hs
  simp only [Diff.children, List.mem_append] at hc
  rcases hc with h | h | h
  · exact sortedDL_iff.mp hs.1.1.2 _ h
  · exact sortedDL_iff.mp hs.1.2.2 _ h
  · exact sortedDL_iff.mp hs.2.2 _ h

theorem findPath_mem {q : Path} {l : List DNode} {d : DNode} (h : findPath q l = some d) : d ∈ l := by
  induction l with
  | nil => simp [findPath] at h
  | cons x r ih =>
    simp only [findPath] at h
    split_ifs at h
    · cases h; simp
    · simp [ih h]

theorem getFrom_canon : ∀ (rest : Path) (cur : DNode) (pre : Path), sortedD (canon cur) = true →
    getFrom (canon cur) pre rest = (getFrom cur pre rest).map canon := by
  intro rest
  induction rest with
  | nil => intro cur pre _; simp [getFrom]
  | cons k r ih =>
    intro cur pre hs
    simp only [getFrom, findPath_children_canon _ cur hs]
    cases h : findPath (pre ++ [k]) (Diff.children cur) with
    | none => rfl
    | some c =>
      simp only [Option.map_some]
      exact ih c (pre ++ [k]) (sortedD_child hs (mem_children_canon (findPath_mem h)))

theorem get_canon (r : Option DNode) (p : Path) (hs : ∀ d, r = some d → sortedD (canon d) = true) :
    Diff.get (r.map canon) p = (Diff.get r p).map canon := by
  cases r with
  | none => rfl
  | some d => exact getFrom_canon p d [] (hs d rfl)

theorem nextOrNone_eq_findPath (q : Path) (l : List DNode) :
    nextOrNone (fun x => pathEq x.path q) l = findPath q l := by
  induction l with
  | nil => rfl
  | cons d r ih => rw [nextOrNone, findPath, ih]; simp [pathEq]

theorem inits_eq_cons (p : Path) : inits p = [] :: (inits p).tail := by
  cases p <;> simp [inits]

theorem inits_getLast (p : Path) : (inits p).getLast? = some p := by
  induction p with
  | nil => simp [inits]
  | cons k r ih => simp [inits, List.getLast?_cons, List.getLast?_map, ih]

/-- `prefixes = [path] + list(path.parents); prefixes.pop()` leaves the non-empty prefixes of the
path, longest first -/
theorem prefixes_pop (p : Path) :
    listPop ([p] ++ parents p) = .ok (((inits p).tail).reverse, []) := by
  have h1 : [p] ++ parents p = (inits p).reverse := by
    have := List.dropLast_append_getLast? p (inits_getLast p)
    rw [parents]
    conv_rhs => rw [← this]
    simp
  rw [h1]
  obtain ⟨t, ht⟩ : ∃ t, inits p = [] :: t := ⟨_, inits_eq_cons p⟩
  rw [ht]
  simp [listPop]

/-- the `while prefixes:` loop of `get` -/
theorem loop_get {body : DNode → Path → M (Sum (Option DNode) DNode)}
    (hb : ∀ cur q, body cur q = .ok (match findPath q (Diff.children cur) with
      | none => .inl none
      | some c => .inr c)) :
    ∀ (rest : Path) (cur : DNode) (pre : Path),
      forRet body ((inits rest).tail.map (fun q => pre ++ q)) cur =
        .ok (match getFrom cur pre rest with
          | none => .inl none
          | some c => .inr c) := by
  intro rest
  induction rest with
  | nil => intro cur pre; simp [inits, forRet, getFrom]
  | cons k r ih =>
    intro cur pre
    have h1 : (inits (k :: r)).tail.map (fun q => pre ++ q) =
        (pre ++ [k]) :: (inits r).tail.map (fun q => (pre ++ [k]) ++ q) := by
      obtain ⟨t, ht⟩ : ∃ t, inits r = [] :: t := ⟨_, inits_eq_cons r⟩
      simp [inits, ht]
    rw [h1, forRet, hb, getFrom]
    cases findPath (pre ++ [k]) (Diff.children cur) with
    | none => simp
    | some c => simpa using ih c (pre ++ [k])

theorem loop_get_top {body : DNode → Path → M (Sum (Option DNode) DNode)} (p : Path) (r : DNode)
    (hb : ∀ cur q, body cur q = .ok (match findPath q (Diff.children cur) with
      | none => .inl none
      | some c => .inr c)) :
    forRet body (inits p).tail r = .ok (match getFrom r [] p with
          | none => .inl none
          | some c => .inr c) := by
  simpa using loop_get hb p r []

end MetadorModel.Bridge.Diff
