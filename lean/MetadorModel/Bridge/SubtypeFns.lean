import MetadorModel.Gen.SubtypeFns
import MetadorModel.Props.C13
/-!
Bridge between the Lean text generated from the override-check code of /repo (`Gen/SubtypeFns.lean`, regenerated on
every `./check C13` run by `harness/translate_c13.py` from util/typing.py, util/__init__.py, schema/partial.py,
schema/core.py and schema/decorators.py) and the hand-written model `Model/Subtype.lean` the C13 theorems are about.
A change of one of the translated functions changes the generated definitions and these equalities have to be
re-proved. The value dictionary is `Py/SubtypePy.lean`.

This file: `_has_literal`, `is_subtype`, `_check_type_mergeable` are the model's `hasLit`, `isSubtype`, `mergeable`;
the dictionary entry `traverseTypehint` is `make_tree_traversal(get_args)`; facts about the dictionary's loops and
association lists that the other three files (`SubtypeFnsChecks`, `SubtypeFnsDeco`, `SubtypeFnsWalk`) use.
-/
namespace MetadorModel.Bridge.SubtypeFns
open MetadorModel MetadorModel.Codec MetadorModel.Subtype MetadorModel.SubtypePy

@[simp] theorem origin_beq (a b : Origin) : (a == b) = decide (a = b) := rfl
@[simp] theorem extra_beq (a b : Extra) : (a == b) = decide (a = b) := rfl
@[simp] theorem shape_beq (a b : Shape) : (a == b) = decide (a = b) := rfl

/-! ## the dictionary entry `traverseTypehint` is `make_tree_traversal(get_args)` -/

theorem travTys_eq (ts : List Ty) : travTys ts = (ts.map Hint.ty).flatMap traverseTypehint := by
  induction ts with
  | nil => rfl
  | cons t ts ih => simp [travTys, ih, traverseTypehint]

theorem traverse_unfold (h : Hint) : traverseTypehint h = h :: (getArgs h).flatMap traverseTypehint := by
  cases h with
  | ty t =>
    cases t with
    | opt t =>
      cases t <;> simp [traverseTypehint, travTy, getArgs, tyArgs, isUnionTy, travTys_eq]
    | union ts => simp [traverseTypehint, travTy, getArgs, travTys_eq]
    | lit vs =>
      have : ∀ vs : List Lit, (vs.map Hint.val).flatMap traverseTypehint = vs.map Hint.val := by
        intro vs
        induction vs with
        | nil => rfl
        | cons v vs ih => simp only [List.map_cons, List.flatMap_cons, ih]; rfl
      simp only [traverseTypehint, travTy, getArgs, this]
    | _ => simp [traverseTypehint, travTy, getArgs]
  | _ => simp [traverseTypehint, getArgs]

/-! ## util/typing.py -/

@[simp] theorem gen_is_list (h : Hint) : Gen.SubtypeFns.is_list h = (getOrigin h == .List) := rfl
@[simp] theorem gen_is_set (h : Hint) : Gen.SubtypeFns.is_set h = (getOrigin h == .Set) := rfl
@[simp] theorem gen_is_union (h : Hint) : Gen.SubtypeFns.is_union h = (getOrigin h == .Union) := rfl
@[simp] theorem gen_is_classvar (h : Hint) : Gen.SubtypeFns.is_classvar h = false := by
  cases h <;> try rfl
  rename_i t; cases t <;> rfl
@[simp] theorem gen_is_annotated (t : Ty) : Gen.SubtypeFns.is_annotated (.ty t) = isAnn t := by
  cases t <;> rfl
@[simp] theorem gen_is_literal (t : Ty) : Gen.SubtypeFns.is_literal (.ty t) = isLit t := by
  cases t <;> rfl
@[simp] theorem gen_is_nonetype (h : Hint) : Gen.SubtypeFns.is_nonetype h = h.isNoneType := rfl

def isLitH (h : Hint) : Bool := getOrigin h == .Literal

theorem gen_is_literal' (h : Hint) : Gen.SubtypeFns.is_literal h = isLitH h := rfl

mutual
theorem trav_any_lit : ∀ t : Ty, (travTy t).any isLitH = hasLit t
  | .opt t => by
    have ih := trav_any_lit t
    have : (if isUnionTy t then (travTy t).tail else travTy t).any isLitH = hasLit t := by
      cases t with
      | union ts => simpa [travTy, isLitH, getOrigin, isUnionTy] using ih
      | _ => simpa [isUnionTy] using ih
    simp [travTy, hasLit, isLitH, getOrigin, this]
  | .union ts => by simp +decide [travTy, hasLit, isLitH, getOrigin, travs_any_lit ts]
  | .list t | .set t | .ann t => by simp +decide [travTy, hasLit, isLitH, getOrigin, trav_any_lit t]
  | .lit vs => by simp +decide [travTy, hasLit, isLitH, getOrigin]
  | .bool | .int | .float | .str | .cstr _ | .opq _ | .model _ _ _ _ => rfl
theorem travs_any_lit : ∀ ts : List Ty, (travTys ts).any isLitH = hasLitAny ts
  | [] => rfl
  | t :: ts => by simp [travTys, hasLitAny, trav_any_lit t, travs_any_lit ts]
end

/-- `_has_literal` is the model's `hasLit` -/
theorem gen_has_literal (t : Ty) : Gen.SubtypeFns._has_literal (.ty t) = hasLit t := by
  simp only [Gen.SubtypeFns._has_literal, traverseTypehint, List.any_map]
  exact trav_any_lit t

def annDepth : Ty → Nat
  | .ann t => annDepth t + 1
  | _ => 0

@[simp] theorem listIdx_zero {α : Type} (x : α) (xs : List α) : listIdx (x :: xs) 0 = pure x := rfl

/-- `is_subtype` is the model's `isSubtype` (with enough interpreter stack for the `Annotated` nesting) -/
theorem gen_is_subtype (T : Table) : ∀ (fuel : Nat) (a b : Ty), annDepth a < fuel →
    Gen.SubtypeFns.is_subtype T fuel (.ty a) (.ty b) = pure (isSubtype T a b) := by
  intro fuel
  induction fuel with
  | zero => intro a b h; omega
  | succ fuel ih =>
    intro a b h
    simp only [Gen.SubtypeFns.is_subtype, gen_is_annotated, gen_is_literal, gen_has_literal]
    cases ha : isAnn a <;> cases hb : isAnn b
    · rw [C13.isSubtype_plain T a b (Or.inl ha), ha, hb]
      simp only [BEq.rfl, Bool.not_true, Bool.false_or, Bool.not_false, if_true, rvIsSubtype, bne]
      split
      · rfl
      · split <;> rfl
    · rw [C13.isSubtype_plain T a b (Or.inl ha), ha, hb]; rfl
    · rw [C13.isSubtype_plain T a b (Or.inr hb), ha, hb]; rfl
    · obtain ⟨a', rfl⟩ : ∃ a', a = .ann a' := by cases a <;> first | exact ⟨_, rfl⟩ | cases ha
      obtain ⟨b', rfl⟩ : ∃ b', b = .ann b' := by cases b <;> first | exact ⟨_, rfl⟩ | cases hb
      rw [isSubtype]
      simpa [isLit, getArgs] using ih a' b' (Nat.lt_of_succ_lt_succ h)

/-! ## schema/partial.py -/

mutual
def tyDepth : Ty → Nat
  | .opt t => tyDepth t + 1
  | .union ts => tysDepth ts + 1
  | .list t => tyDepth t + 1
  | .set t => tyDepth t + 1
  | .ann t => tyDepth t + 1
  | _ => 0
def tysDepth : List Ty → Nat
  | [] => 0
  | t :: ts => max (tyDepth t) (tysDepth ts)
end

@[simp] theorem gen_is_list_or_set (t : Ty) : Gen.SubtypeFns._is_list_or_set (.ty t) = isListOrSet t := by
  cases t <;> rfl

theorem allM_append {α : Type} (f : α → E Bool) (xs ys : List α) :
    allM f (xs ++ ys) = (allM f xs >>= fun b => if b then allM f ys else pure false) := by
  induction xs with
  | nil => simp [allM]
  | cons x xs ih =>
    simp only [List.cons_append, allM, ih, bind_assoc]
    congr 1; funext b; cases b <;> simp

theorem allM_pure_map (g : Hint → E Bool) (p : Ty → Bool) (ts : List Ty)
    (h : ∀ t ∈ ts, g (.ty t) = pure (p t)) : allM g (ts.map .ty) = pure (ts.all p) := by
  induction ts with
  | nil => rfl
  | cons t ts ih =>
    have h1 := h t (by simp)
    have h2 := ih (fun t' ht' => h t' (by simp [ht']))
    simp only [List.map_cons, allM, h1, pure_bind, h2, List.all_cons]
    cases p t <;> simp

theorem mergeableAll_eq (ts : List Ty) : mergeableAll ts = ts.all (mergeable false) := by
  induction ts with
  | nil => rfl
  | cons t ts ih => simp [mergeableAll, ih]

theorem tysDepth_mem (ts : List Ty) (t : Ty) (h : t ∈ ts) : tyDepth t ≤ tysDepth ts := by
  induction ts with
  | nil => simp at h
  | cons x xs ih =>
    simp only [List.mem_cons] at h
    rcases h with rfl | h
    · simp only [tysDepth]; omega
    · have := ih h; simp only [tysDepth]; omega

theorem tysDepth_optArgs (t : Ty) : tysDepth (tyArgs (.opt t)) ≤ tyDepth t := by
  cases t <;> simp [tyArgs, tysDepth, tyDepth]

theorem mergeable_opt_false (t : Ty) : mergeable false (.opt t) = false := by
  cases t <;> rfl

/-- `Optional[t]` in the words of `_check_type_mergeable` -/
theorem mergeable_opt_true (t : Ty) : mergeable true (.opt t) =
    ((!(tyArgs (.opt t)).any isListOrSet || unionArity (.opt t) == 2) && mergeableAll (tyArgs (.opt t))) := by
  cases t with
  | union ts =>
    simp only [mergeable, tyArgs, Bool.not_true, Bool.false_eq_true, if_false]
    exact (show ∀ x m : Bool, (if (!x) = true then false else m) = (x && m) by decide) _ _
  | _ => simp [mergeable, tyArgs, mergeableAll, unionArity, mergeable_opt_false]

theorem allM_singleton {α : Type} (f : α → E Bool) (x : α) : allM f [x] = f x := by
  simp only [allM]
  cases f x with
  | error e => rfl
  | ok b => cases b <;> rfl

theorem any_isListOrSet_map (ts : List Ty) :
    (List.map (fun a => Gen.SubtypeFns._is_list_or_set a) (ts.map Hint.ty)).any id = ts.any isListOrSet := by
  simp [List.any_map, Function.comp_def]

theorem any_isNoneType_map (ts : List Ty) : (ts.map Hint.ty).any Hint.isNoneType = false := by
  simp [List.any_map, Function.comp_def, Hint.isNoneType]

theorem any_is_nonetype_map (ts : List Ty) :
    (List.map (fun a => Gen.SubtypeFns.is_nonetype a) (ts.map Hint.ty)).any id = false := by
  simp [List.any_map, Function.comp_def, Hint.isNoneType]

theorem gen_ctm_other (fuel : Nat) (h0 : 0 < fuel) (h : Hint) (an : Bool)
    (ho : getOrigin h ≠ .List ∧ getOrigin h ≠ .Set ∧ getOrigin h ≠ .Union) :
    Gen.SubtypeFns._check_type_mergeable fuel h an = pure true := by
  obtain ⟨f, rfl⟩ : ∃ f, fuel = f + 1 := ⟨fuel - 1, by omega⟩
  simp [Gen.SubtypeFns._check_type_mergeable, Gen.SubtypeFns._is_list_or_set, ho]

/-- `_check_type_mergeable` is the model's `mergeable` (with enough interpreter stack for the nesting of the hint) -/
theorem gen_check_type_mergeable : ∀ (fuel : Nat) (t : Ty) (an : Bool), tyDepth t < fuel →
    Gen.SubtypeFns._check_type_mergeable fuel (.ty t) an = pure (mergeable an t) := by
  intro fuel
  induction fuel with
  | zero => intro t an h; omega
  | succ fuel ih =>
    intro t an h
    have hall : ∀ ts : List Ty, tysDepth ts < fuel →
        allM (fun a => Gen.SubtypeFns._check_type_mergeable fuel a false) (ts.map .ty) = pure (mergeableAll ts) := by
      intro ts hts
      rw [mergeableAll_eq]
      exact allM_pure_map _ _ ts (fun t' ht' => ih t' false (by have := tysDepth_mem ts t' ht'; omega))
    cases t with
    | list t | set t =>
      simp only [Gen.SubtypeFns._check_type_mergeable, gen_is_list_or_set, isListOrSet, if_true, getArgs, allM_singleton,
        mergeable]
      exact ih t false (Nat.lt_of_succ_lt_succ h)
    | union ts =>
      simp only [Gen.SubtypeFns._check_type_mergeable, gen_is_list_or_set, isListOrSet, gen_is_union, getOrigin,
        Gen.SubtypeFns.is_optional, getArgs, any_isListOrSet_map, any_isNoneType_map, any_is_nonetype_map,
        mergeable, hall ts (Nat.lt_of_succ_lt_succ h)]
      cases ts.any isListOrSet <;> simp
    | opt t =>
      have h0 : 0 < fuel := Nat.lt_of_le_of_lt (Nat.zero_le _) (Nat.lt_of_succ_lt_succ h)
      have hn : Gen.SubtypeFns._is_list_or_set Hint.noneType = false := rfl
      have hlen : ((tyArgs (.opt t)).map Hint.ty ++ [Hint.noneType]).length = unionArity (.opt t) := by
        cases t <;> simp [tyArgs, unionArity]
      simp only [Gen.SubtypeFns._check_type_mergeable, gen_is_list_or_set, isListOrSet, gen_is_union, getOrigin,
        Gen.SubtypeFns.is_optional, getArgs, hlen, List.map_append, List.any_append, any_isListOrSet_map,
        allM_append, hall _ (Nat.lt_of_le_of_lt (tysDepth_optArgs t) (Nat.lt_of_succ_lt_succ h)),
        allM_singleton, gen_ctm_other fuel h0 .noneType false (by decide), pure_bind, any_isNoneType_map,
        List.map_cons, List.map_nil, List.any_cons, List.any_nil, gen_is_nonetype, Hint.isNoneType, hn, id]
      cases an
      · simp [mergeable_opt_false]
      · rw [mergeable_opt_true]
        cases (tyArgs (.opt t)).any isListOrSet <;> cases unionArity (.opt t) == 2 <;>
          cases mergeableAll (tyArgs (.opt t)) <;> rfl
    | _ => exact gen_ctm_other _ (Nat.succ_pos _) _ an (by simp [getOrigin])


/-- a public name: not empty, does not start with an underscore -/
def PubName (n : Str) : Prop := ∃ c r, n = c :: r ∧ c ≠ '_'

theorem gen_is_public_name (n : Str) (h : PubName n) : Gen.SubtypeFns.is_public_name n = pure true := by
  obtain ⟨c, r, rfl, hc⟩ := h
  have : (c == '_') = false := by simpa using hc
  simp [Gen.SubtypeFns.is_public_name, strIdx, this]

/-- a loop whose body only tests its element -/
theorem foldlM_check' {α : Type} (F : Unit → α → E Unit) (g : α → Bool) (e : PyErr) (l : List α)
    (h : ∀ a ∈ l, F () a = if g a then pure () else throw e) :
    List.foldlM F () l = if l.all g then pure () else throw e := by
  induction l with
  | nil => rfl
  | cons a l ih =>
    rw [List.foldlM_cons, h a (by simp), List.all_cons]
    cases g a
    · rfl
    · exact ih (fun b hb => h b (by simp [hb]))

theorem filterM_pure {α : Type} (f : α → E Bool) (g : α → Bool) :
    ∀ (l : List α), (∀ a ∈ l, f a = pure (g a)) → filterM f l = pure (l.filter g) := by
  intro l
  induction l with
  | nil => intro _; rfl
  | cons a l ih =>
    intro h
    have ha := h a (by simp)
    have hl := ih (fun b hb => h b (by simp [hb]))
    simp only [filterM, ha, hl, pure_bind, List.filter_cons]

/-- the model's counterpart of such a loop -/
theorem firstErr_check {α : Type} (f : α → Except Refusal Unit) (g : α → Bool) (e : Refusal) (l : List α)
    (h : ∀ a ∈ l, f a = if g a then .ok () else .error e) :
    firstErr (l.map f) = if l.all g then .ok () else .error e := by
  induction l with
  | nil => rfl
  | cons a l ih =>
    rw [List.map_cons, h a (by simp), List.all_cons]
    cases g a
    · rfl
    · exact ih fun b hb => h b (by simp [hb])

/-! ## association lists

About `dictGet?` / `dictSet` / `dictUpdate` of the dictionary; the model's `getHint` / `setHint` and
`hasKey` / `setKey` are the same functions at the value types `Ty` and `Json`. -/

theorem mem_dictKeys {α : Type} (x : Str) (d : List (Str × α)) : x ∈ dictKeys d ↔ ∃ v, (x, v) ∈ d := by
  simp [dictKeys]

theorem dictHas_cons {α : Type} (x : Str) (p : Str × α) (d : List (Str × α)) :
    dictHas (p :: d) x = (x == p.1 || dictHas d x) := by
  simp only [dictHas, dictGet?]
  cases x == p.1 <;> rfl

theorem dictGet?_isSome {α : Type} (x : Str) (d : List (Str × α)) : (dictGet? x d).isSome = true ↔ x ∈ dictKeys d := by
  induction d with
  | nil => simp [dictGet?, dictKeys]
  | cons p d ih =>
    rw [show (dictGet? x (p :: d)).isSome = dictHas (p :: d) x from rfl, dictHas_cons, Bool.or_eq_true, beq_iff_eq]
    simpa [dictKeys, dictHas] using or_congr_right ih

theorem dictHas_iff {α : Type} (d : List (Str × α)) (x : Str) : dictHas d x = true ↔ x ∈ dictKeys d :=
  dictGet?_isSome x d

theorem contains_dictKeys {α : Type} (x : Str) (d : List (Str × α)) : (dictKeys d).contains x = dictHas d x := by
  rw [Bool.eq_iff_iff, List.contains_iff_mem, dictHas_iff]

theorem dictGet?_dictSet {α : Type} (x k : Str) (v : α) (d : List (Str × α)) :
    dictGet? x (dictSet k v d) = if x = k then some v else dictGet? x d := by
  induction d with
  | nil => simp [dictSet, dictGet?]
  | cons p d ih =>
    simp only [dictSet, dictGet?]
    by_cases hk : k = p.1
    · by_cases hx : x = p.1 <;> simp [dictGet?, hk, hx]
    · by_cases hx : x = p.1
      · simp [dictGet?, hk, hx, Ne.symm hk]
      · simp [dictGet?, hk, hx, ih]

theorem dictHas_dictSet {α : Type} (x k : Str) (v : α) (d : List (Str × α)) :
    dictHas (dictSet k v d) x = (x == k || dictHas d x) := by
  by_cases h : x = k <;> simp [dictHas, dictGet?_dictSet, h]

theorem dictHas_dictUpdate {α : Type} (x : Str) (e d : List (Str × α)) :
    dictHas (dictUpdate d e) x = (dictHas d x || dictHas e x) := by
  unfold dictUpdate
  induction e generalizing d with
  | nil => simp [dictHas, dictGet?]
  | cons p e ih => rw [List.foldl_cons, ih, dictHas_dictSet, dictHas_cons, Bool.or_assoc, Bool.or_left_comm]

theorem dictGet?_append {α : Type} (x : Str) (a b : List (Str × α)) :
    dictGet? x (a ++ b) = (dictGet? x a).orElse (fun _ => dictGet? x b) := by
  induction a with
  | nil => simp [dictGet?]
  | cons p a ih =>
    obtain ⟨k, v⟩ := p
    simp only [List.cons_append, dictGet?]
    split
    · rfl
    · exact ih

theorem dictGet?_map_val {α β : Type} (k : Str) (f : α → β) (l : List (Str × α)) :
    dictGet? k (l.map (fun p => (p.1, f p.2))) = (dictGet? k l).map f := by
  induction l with
  | nil => rfl
  | cons p l ih =>
    obtain ⟨k', v⟩ := p
    simp only [List.map_cons, dictGet?]
    split
    · rfl
    · exact ih

theorem getHint_eq_dictGet? (x : Str) (l : List (Str × Ty)) : getHint x l = dictGet? x l := by
  induction l with
  | nil => rfl
  | cons p l ih => simp only [getHint, dictGet?, ih]

theorem setHint_eq (k : Str) (v : Ty) (l : List (Str × Ty)) : setHint k v l = dictSet k v l := by
  induction l with
  | nil => rfl
  | cons p l ih => simp only [setHint, dictSet, ih]

theorem setKey_eq (k : Str) (v : Json) (l : List (Str × Json)) : setKey k v l = dictSet k v l := by
  induction l with
  | nil => rfl
  | cons p l ih => simp only [setKey, dictSet, ih]

theorem setKey_foldl (l b : List (Str × Json)) :
    l.foldl (fun acc (p : Str × Json) => setKey p.1 p.2 acc) b = dictUpdate b l := by
  simp only [setKey_eq]; rfl

theorem setHint_foldl (l b : List (Str × Ty)) :
    l.foldl (fun acc (p : Str × Ty) => setHint p.1 p.2 acc) b = dictUpdate b l := by
  simp only [setHint_eq]; rfl

theorem dictHas_eq_hasKey (x : Str) (l : List (Str × Json)) : dictHas l x = hasKey x l := by
  induction l with
  | nil => rfl
  | cons p l ih => rw [dictHas_cons, ih, Bool.beq_comm]; rfl

theorem dictGet?_hintsOf (x : Str) (l : List (Str × Ty)) : dictGet? x (hintsOf l) = (getHint x l).map Hint.ty := by
  rw [getHint_eq_dictGet?]
  exact dictGet?_map_val x Hint.ty l

theorem dictHas_append {α : Type} (x : Str) (a b : List (Str × α)) :
    dictHas (a ++ b) x = (dictHas a x || dictHas b x) := by
  simp only [dictHas, dictGet?_append]
  cases dictGet? x a <;> rfl

theorem dictHas_hintsOf (x : Str) (l : List (Str × Ty)) : dictHas (hintsOf l) x = (getHint x l).isSome := by
  simp only [dictHas, dictGet?_hintsOf, Option.isSome_map]

theorem dictHas_anyOf (x : Str) (l : List (Str × Json)) : dictHas (anyOf l) x = hasKey x l := by
  rw [← dictHas_eq_hasKey, dictHas, anyOf, dictGet?_map_val x (fun _ => Hint.any) l, Option.isSome_map]; rfl

theorem dictKeys_hintsOf (l : List (Str × Ty)) : dictKeys (hintsOf l) = l.map (·.1) := by
  simp [dictKeys, hintsOf]

theorem hasKey_foldl_setKey (x : Str) (l b : List (Str × Json)) :
    hasKey x (l.foldl (fun acc (p : Str × Json) => setKey p.1 p.2 acc) b) = (hasKey x b || hasKey x l) := by
  rw [setKey_foldl, ← dictHas_eq_hasKey, dictHas_dictUpdate, dictHas_eq_hasKey, dictHas_eq_hasKey]

theorem isSome_foldl_setHint (x : Str) (l b : List (Str × Ty)) :
    (getHint x (l.foldl (fun acc (p : Str × Ty) => setHint p.1 p.2 acc) b)).isSome =
      ((getHint x b).isSome || dictHas l x) := by
  rw [setHint_foldl, getHint_eq_dictGet?, getHint_eq_dictGet?]
  exact dictHas_dictUpdate x l b

theorem getHint_filter_key (x : Str) (p : Str → Bool) (d : List (Str × Ty)) :
    getHint x (d.filter (fun q => p q.1)) = if p x then getHint x d else none := by
  induction d with
  | nil => simp [getHint]
  | cons q d ih =>
    obtain ⟨k, v⟩ := q
    simp only [List.filter_cons]
    by_cases hk : x = k
    · subst hk
      cases hp : p x <;> simp [getHint, hp, ih]
    · have : (x == k) = false := by simpa using hk
      cases hp : p k <;> simp [getHint, this, ih]

end MetadorModel.Bridge.SubtypeFns
