import MetadorModel.Bridge.FindFilesFns
/-!
Bridge (`IH5Record.__init__`): the translated constructor of `Gen/FindFilesFns.lean` (regenerated from
/repo on every run by `harness/translate_c03.py`) is the model's `openRec`, for every record argument,
mode and on-disk situation.
-/
namespace MetadorModel.Bridge.FindFilesFns
open MetadorModel MetadorModel.FindFiles MetadorModel.Record MetadorModel.RecordPy

/-- the tests `__init__` makes on the mode string -/
theorem modeStr_tests (m : Mode) :
    (((modeStr m).head? == some 'w') || (modeStr m == ['x'])) = (m == .w || m == .wm || m == .x) ∧
    Gen.FindFilesFns.OPEN_MODES.contains (modeStr m) = true ∧
    ((modeStr m == ['a']) || ((modeStr m).head? == some 'r')) = !(m == .w || m == .wm || m == .x) ∧
    (modeStr m != ['a']) = (m != .a) ∧ (modeStr m != ['r']) = (m != .r) ∧ (modeStr m == ['w']) = (m == .w) := by
  cases m <;> decide

/-- **the mode dispatch of `IH5Record.__init__`**: for every record argument (prefix path or
file list), every mode and every on-disk situation, the translated constructor is the model's
`openRec` (on a free handle slot; the model answers `busy` otherwise) -/
theorem gen_init (s : State) (mfcls : Bool) (t : Target) (m : Mode) (hc : s.h.closed = true) :
    Gen.FindFilesFns.init s mfcls t m = openRec s mfcls t m := by
  obtain ⟨h1, h2, h3, h4, h5, h6⟩ := modeStr_tests m
  have hst : (pyStart s).st = s := rfl
  unfold Gen.FindFilesFns.init openRec
  simp only [hc, Bool.not_true, Bool.false_eq_true, if_false, h1, h2, h3, h4, h5, h6, pyTruthy, hst, gen_find_files]
  clear h1 h2 h3 h4 h5 h6
  cases t with
  | list fs =>
    cases m <;> simp +decide only [↓reduceIte]
    case r | rp | a =>
      cases fs with
      | nil => exact pyCtor_raise s (by decide)
      | cons f fs => exact open_chain s mfcls (f :: fs) _
    all_goals exact pyCtor_raise s (by decide)
  | name n =>
    cases m <;> simp +decide only [↓reduceIte]
    case w | wm | x => exact create_chain s mfcls n _
    all_goals
      cases findFiles (names s.disk) n with
      | none => exact pyCtor_raise s (by decide)
      | some l =>
        cases l with
        | nil =>
          -- mode `a` creates the record, `r` / `r+` raise
          first | exact create_chain s mfcls n false | exact pyCtor_raise s (by decide)
        | cons f fs => exact open_chain s mfcls (f :: fs) _
end MetadorModel.Bridge.FindFilesFns
