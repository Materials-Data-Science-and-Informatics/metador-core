import MetadorModel.Gen.Diff
import MetadorModel.Bridge.DiffBase
/-! Bridge (C18): the generated `DiffNode._type / prev_type / curr_type` equal the model's `objType`.
Re-checked on every run against `Gen/Diff.lean` (regenerated from /repo by `harness/translate_c18.py`). -/
namespace MetadorModel.Bridge.Diff
open MetadorModel MetadorModel.Diff MetadorModel.DiffPy

theorem gen_type (self : DNode) (e : Option DirTree) : Gen.Diff._type self e = .ok (objType e) := by
  unfold Gen.Diff._type
  rcases e with _ | ⟨s⟩ | ⟨es⟩
  · simp [isDict, truthy, objType]
  · simp only [isDict, truthy, objType, strFind, Bool.false_eq_true, if_false, ok_bind, pure_eq_ok, Paths.pyFind_eq_zero]
    by_cases h : s = ""
    · simp only [h, bne_self_eq_false, Bool.false_eq_true, if_false, if_true]
    · have : (s != "") = true := by simpa using h
      simp only [this, if_true, h, if_false]
      split_ifs <;> rfl
  · simp [isDict, objType]

theorem gen_prev_curr_type (d : DNode) :
    Gen.Diff.prev_type d = .ok (objType d.prev) ∧ Gen.Diff.curr_type d = .ok (objType d.curr) := by
  simp [Gen.Diff.prev_type, Gen.Diff.curr_type, gen_type]

end MetadorModel.Bridge.Diff
