import MetadorModel.Gen.MergeFns
import MetadorModel.Bridge.MergeFnsTree
import MetadorModel.Bridge.MergeFnsCommit
/-!
# Bridge for C10: `init_stub_skeleton`, `init_stub_base` (ih5/skeleton.py) and `create_stub` (ih5/manifest.py)
as regenerated from the source

`Gen.MergeFns.init_stub_skeleton` computes the reference fold `stubFold` (one node and its attribute
placeholders per skeleton entry), which is the model's `Merge.stubCont`; `init_stub_base` then resets
`prev_patch`, and `create_stub` commits the result with the stub mark.
-/
namespace MetadorModel.Bridge.MergeFns
open MetadorModel.Tree MetadorModel.Overlay MetadorModel.Merge MetadorModel.MergePy MetadorModel.Single
open MetadorModel.Gen.MergeFns
variable {V : Type}

theorem gen_init_stub_skeleton_fold (E : Env V) (ds : Obj V) (sk : Skel)
    (h1 : pyLen ds [] = 0) (h2 : pyLenAttrs ds [] = 0) :
    init_stub_skeleton E ds sk = stubFold E sk ds := by
  unfold init_stub_skeleton
  simp [h1, h2]
  unfold stubFold
  apply pyFor_congr_mem
  rintro ⟨k, g, names⟩ _ b
  unfold stubEntry
  cases g
  · simp
  · simp only [beq_self_eq_true, if_true, bind_assoc]
    cases pyContains b k with
    | error e => rfl
    | ok bb => cases bb <;> rfl

/-- a container that is not empty is refused -/
theorem gen_init_stub_skeleton_refused (E : Env V) (ds : Obj V) (sk : Skel)
    (h : pyLen ds [] ≠ 0 ∨ pyLenAttrs ds [] ≠ 0) :
    init_stub_skeleton E ds sk = .error (.valueError .notEmpty) := by
  unfold init_stub_skeleton
  rcases h with h | h
  · simp [h]; rfl
  · simp [h]; rfl

/-- a fresh record lists only its root, without attributes (by evaluation) -/
theorem pyLen_init (o : Obj V) (h : o.conts = Rec.init) : pyLen o [] = 0 ∧ pyLenAttrs o [] = 0 := by
  simp only [pyLen, pyLenAttrs, pyKeys, h]
  exact ⟨rfl, rfl⟩

/-- **`init_stub_skeleton` writes the model's `stubCont`** into a fresh container, for the skeleton of every record
whose view is a tree listed parents-first -/
theorem gen_init_stub_skeleton (E : Env V) (r : Rec V) (hrep : Replayable (Overlay.listing r)) (ds : Obj V)
    (hds : ds.conts = Rec.init) :
    init_stub_skeleton E ds (skel (Overlay.listing r)) = liftTree ds (stubCont E.empty r) := by
  obtain ⟨h1, h2⟩ := pyLen_init ds hds
  rw [gen_init_stub_skeleton_fold E ds _ h1 h2]
  exact stubFold_eq E r hrep ds hds

/-- `init_stub_base`: the skeleton, then the source block as a base block (`prev_patch` reset) -/
theorem gen_init_stub_base (E : Env V) (t : Obj V) (ub : PUB) (sk : Skel) :
    init_stub_base E t ub sk =
      match init_stub_skeleton E t sk with
      | .ok t' => pyObjSetUblock t' (-1 : Int) { ub with core := { ub.core with prev := none } }
      | .error e => .error e := by
  unfold init_stub_base
  cases h : init_stub_skeleton E t sk with
  | error e => simp [h, bind, Except.bind]
  | ok t' =>
    simp only [h, PUB.with_prev_patch, bind, Except.bind]

theorem pySetIdx_single {α : Type} (x y : α) : pySetIdx [x] (-1 : Int) y = .ok [y] := pySetIdx_last [] x y

/-- **`create_stub`** from the manifest `m` of a record `r` (its skeleton is `skel` of the view of `r`): the stub
container holds `Merge.stubCont`, its user block is the one stored in the manifest with `prev_patch` reset, the
checksum of the stub payload, and the stub mark; nothing else on disk changes but the sidecar of the stub -/
theorem gen_create_stub (E : Env V) (rec : Nat) (mfile : FName) (w : World V) (m : Manifest) (r : Rec V)
    (hmf : aget mfile w.disk = some (.mf m)) (hfree : aget (FName.file rec 0) w.disk = none)
    (hsk : m.skeleton = skel (Overlay.listing r)) (hrep : Replayable (Overlay.listing r)) :
    ∃ c ds w', stubCont E.empty r = .ok [c] ∧
      IH5MFRecord.create_stub E rec mfile w = (.ok ds, w') ∧
      ds.conts = [c] ∧ ds.writable = false ∧ w'.self = w.self ∧
      (∃ ub, ds.ubs = [ub] ∧ aget (FName.file rec 0) w'.disk = some (.cont ub c) ∧
        ub.core = { m.ub.core with prev := none, hash := some (E.H c) } ∧
        (∃ e, ub.ext = some e ∧ e.isStub = true)) ∧
      (∀ f, f ≠ FName.file rec 0 → f ≠ FName.mfOf (FName.file rec 0) → aget f w'.disk = aget f w.disk) := by
  obtain ⟨heq, _⟩ := materialise_eq _ (replayable_stub E.empty (Overlay.listing r) hrep)
  obtain ⟨c, hstub⟩ : ∃ c, stubCont E.empty r = .ok [c] := ⟨_, heq⟩
  refine ⟨c, ?_⟩
  have hsk' := gen_init_stub_skeleton E r hrep
    { cls := Cls.IH5MFRecord, conts := Rec.init, files := [FName.file rec 0], ubs := [newBaseUB w.next], writable := true } rfl
  rw [hstub] at hsk'
  unfold IH5MFRecord.create_stub
  simp only [pyExtUpdate, gen_init_stub_base, pyObjSetUblock, Bool.not_not, run_bind, pyParseManifest, hmf, hsk,
    pyHashsumFile, pyCreate, Bool.false_eq_true, ↓reduceIte, hfree, hsk', liftTree, pySetIdx_single, run_pyLift,
    ne_eq, exists_and_left]
  have hcp := gen_commit_patch_ok E
    { self := { cls := Cls.IH5MFRecord, conts := [c], files := [FName.file rec 0],
                ubs := [{ core := { m.ub.core with prev := none },
                          ext := some { isStub := true, muuid := m.uuid, mhash := E.HM m } }], writable := true },
      disk := aput (FName.file rec 0) (DFile.cont (newBaseUB w.next) Cont.init) w.disk, next := w.next + 2 }
    (some true) none [] _ [] (FName.file rec 0) c [] ⟨rfl, rfl, rfl⟩ rfl rfl rfl
  refine ⟨hstub, ?_⟩
  simp only [pyOn, dispatch_commit_patch, run_bind, run_pySelf, hcp, Bool.false_eq_true, ↓reduceIte, run_pure,
    Prod.mk.injEq, Except.ok.injEq, ↓existsAndEq, and_true, true_and, exists_eq_left', List.cons.injEq,
    List.nil_append]
  refine ⟨?_, ?_⟩
  · simp [aget_aput, ne_mfOf, commitUB]
  · intro f h1 h2
    simp [aget_aput, h1, h2]


/-- the stub's block is the model's `stubUB` when the manifest stores the newest block of the real record (what
`commit_patch` puts there, `gen_commit_patch_ok`) -/
theorem gen_stub_ub (E : Env V) (ubs : List UB) (last : UB) (c : Cont V) (m : Manifest)
    (hl : ubs.getLast? = some last) (hm : m.ub.core = last) :
    stubUB ubs (E.H c) = some { m.ub.core with prev := none, hash := some (E.H c) } := by
  simp [stubUB, hl, hm]

end MetadorModel.Bridge.MergeFns
