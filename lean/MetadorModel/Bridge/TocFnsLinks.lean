import MetadorModel.Bridge.TocFnsPaths
import MetadorModel.Proofs.ContainerTreeOps
/-!
# Bridge: translated `TOCLinks` = model
-/
namespace MetadorModel.Bridge.TocFns
open MetadorModel.Container MetadorModel.CtrPy MetadorModel.Gen.TocFns

theorem gen_link_resolve (u : Nat) (s : St) : TOCLinks.resolve u s = liftE (linkResolve s u) s := by
  simp only [TOCLinks.resolve, linkResolve, mstep]
  cases alGet s.c.tocPath u with
  | none => rfl
  | some tp =>
    obtain ⟨o, hg⟩ : ∃ o, get? s.raw tp = o := ⟨_, rfl⟩
    simp only [mstep, has, hg]
    rcases o with _ | _ | v
    · rfl
    · simp only [mstep, dsRead, hg]
      rfl
    · simp only [mstep, dsRead, hg]
      cases v <;> rfl

theorem gen_link_update : TOCLinks.update = linkUpdate := by
  funext u p
  simp only [TOCLinks.update, linkUpdate, dictGetItem, rawDelItem, rawSetItem, bind_pure_unit]

theorem gen_link_register (e : Env) (st : Stored) :
    TOCLinks.register (schemaRegister e) st = linkRegister e st.schema st.uuid st.path := by
  simp only [TOCLinks.register, linkRegister, gen_link_path_for, joinUuid, rawSetItem, bind_pure_unit]
  rfl

theorem gen_link_unregister (u : Nat) : TOCLinks.unregister schemaUnregister u = linkUnregister u := by
  funext s
  simp only [TOCLinks.unregister, linkUnregister, mstep]
  cases h : alGet s.c.tocPath u with
  | none => simp only [mstep]
  | some tp =>
    simp only [mstep]
    cases has s.raw tp with
    | false => simp only [mstep]
    | true =>
      simp only [mstep]
      by_cases hl : tp.dropLast.dropLast = linksP
      · simp only [hl, mstep]
        cases rawDel s.raw tp with
        | error er => simp only [mstep]
        | ok t1 =>
          have hne : ∀ l : List (Key × Node), (l.length != 0) = !l.isEmpty := fun l => by cases l <;> rfl
          simp only [mstep, h, groupLen, groupKeys, List.length_map, hne, lastEpName]
          cases (children t1 tp.dropLast).isEmpty with
          | false => simp only [mstep]
          | true =>
            simp only [mstep]
            cases tp.dropLast.getLast? with
            | none => simp only [mstep]
            | some k =>
              cases k with
              | ep r =>
                simp only [mstep]
                cases rawDel t1 tp.dropLast with
                | error er => simp only [mstep]
                | ok t2 =>
                  simp only [mstep]
                  refine bind_run_congr fun _ s3 _ => ?_
                  simp only [mstep]
                  cases (children s3.raw linksP).isEmpty <;> simp only [mstep, bind_pure_unit]
              | _ => simp only [mstep]
      · simp [hl, mstep]

/-- the model's `resolve` as an operation of `M` -/
def resolveM (u : Nat) : M Path := fun s => liftE (linkResolve s u) s

/-- the fold function of `findMissing` -/
def fmBody (s : St) (acc : List Path) (q : Path) : Except Err (List Path) :=
  if !inMeta q then .ok acc
  else if isMetaBase q then .ok acc
  else
    match objOfPath q with
    | none => .error .value
    | some (_, u) =>
      if (alGet s.c.tocPath u).isNone then .ok (acc ++ [q])
      else
        match linkResolve s u with
        | .error err => .error err
        | .ok tgt => if tgt ≠ q then .ok (acc ++ [q]) else .ok acc

theorem findMissing_eq (s : St) (p : Path) :
    findMissing s p = (descendants s.raw p).foldlM (fun acc e => fmBody s acc e.1) [] := rfl

theorem run_liftE_ok {α : Type} (a : α) (s : St) : liftE (.ok a) s = (.ok a, s) := rfl
theorem run_liftE_error {α : Type} (e : Err) (s : St) : (liftE (.error e) : M α) s = (.error e, s) := rfl

/-- `find_missing(group)`: the translated traversal is the model's fold (on an existing group
`require_group` returns it unchanged) -/
theorem gen_find_missing (p : Path) (s : St) (hg : get? s.raw p = some .grp) :
    TOCLinks.find_missing resolveM p s = liftE (findMissing s p) s := by
  simp only [TOCLinks.find_missing, run_rawRequireGroup_bind, hg, mstep, visitNodes, pyFoldM_map,
    findMissing_eq]
  refine pyFoldM_fold s (fun acc (e : Path × Node) => fmBody s acc e.1) _ _ fun e _ acc => ?_
  obtain ⟨q, n⟩ := e
  simp only [fmBody, storedFromNode]
  cases inMeta q with
  | false => rfl
  | true =>
    cases isMetaBase q with
    | true => rfl
    | false =>
      simp only [mstep]
      cases objOfPath q with
      | none => rfl
      | some ru =>
        simp only [mstep]
        cases alGet s.c.tocPath ru.2 with
        | none => rfl
        | some tp =>
          simp only [mstep, run_bind, resolveM]
          cases linkResolve s ru.2 with
          | error er => rfl
          | ok tgt =>
            simp only [run_liftE_ok, mstep, Bool.false_or, bne_iff_ne]
            by_cases he : tgt = q <;> simp only [he, mstep] <;> rfl

/-- the loop body of `repairMissing` -/
def rmStep (e : Env) (update : Bool) : Path → M Unit := fun p => do
  match objOfPath p with
  | none => raise .value
  | some (r, u) =>
    let s ← getSt
    if update && (alGet s.c.tocPath u).isSome then
      linkUpdate u p
    else
      let u' ← freshUuid
      let newPath := p.dropLast ++ [.obj r u']
      liftRaw fun t => rawMove t p newPath
      linkRegister e r u' newPath

theorem repairMissing_eq (e : Env) (missing : List Path) (update : Bool) :
    repairMissing e missing update = forEachM missing (rmStep e update) := rfl

theorem gen_repair_missing (e : Env) (missing : List Path) (update : Bool) :
    TOCLinks.repair_missing linkUpdate freshUuid (fun st => linkRegister e st.schema st.uuid st.path) missing update
      = repairMissing e missing update := by
  simp only [TOCLinks.repair_missing, bind_pure_unit, repairMissing_eq]
  refine forEachM_congr _ (fun p => funext fun s => ?_) _
  simp only [rmStep, storedFromNode, gen_to_path]
  cases objOfPath p with
  | none => rfl
  | some ru =>
    simp only [mstep]
    cases update && (alGet s.c.tocPath ru.2).isSome with
    | true => simp only [mstep]
    | false =>
      simp only [mstep]
      refine bind_run_congr fun u' s1 _ => ?_
      simp only [mstep]
      cases hm : rawMove s1.raw p (p.dropLast ++ [Key.obj ru.1 u']) with
      | error er => simp only [mstep]
      | ok t2 => simp only [mstep, rawMove_has_dst hm]

/-- what `TOCLinks.__init__` relies on: below `links/` there are schema groups holding link datasets -/
structure LinkTreeOK (t : Tree) : Prop where
  keys : KeysOK t
  closed : PClosed t
  dir : get? t linksP = none ∨ get? t linksP = some .grp
  ep : ∀ k n, get? t (linksP ++ [k]) = some n → ∃ r, k = .ep r ∧ n = .grp
  link : ∀ r k n, get? t (linkDir r ++ [k]) = some n → ∃ u v, k = .link u ∧ n = .ds v

def setTocPath (s : St) (tp : List (Nat × Path)) : St := { s with c := { s.c with tocPath := tp } }

/-- the inner fold of `loadLinks` -/
def loadLinkF (r : SRef) (acc : List (Nat × Path)) (ln : Key × Node) : List (Nat × Path) :=
  match ln.1 with
  | .link u => alSet acc u (linkPath r u)
  | _ => acc
/-- the outer fold of `loadLinks` -/
def loadLinkDirF (t : Tree) (acc : List (Nat × Path)) (kn : Key × Node) : List (Nat × Path) :=
  match kn.1 with
  | .ep r => (children t (linkDir r)).foldl (loadLinkF r) acc
  | _ => acc
theorem loadLinks_eq (t : Tree) : loadLinks t = (children t linksP).foldl (loadLinkDirF t) [] := rfl

theorem gen_links_init (s : St) (h : LinkTreeOK s.raw) :
    TOCLinks.__init__ s = (.ok (), setTocPath s (loadLinks s.raw)) := by
  simp only [TOCLinks.__init__, bind_pure_unit, mstep, loadLinks_eq]
  rcases h.dir with hd | hd
  · rw [children_eq_nil h.keys h.closed hd]
    simp [has, hd, mstep, setTocPath]
  · simp only [has, hd, run_rawRequireGroup_bind, mstep, groupValues, forEachM_map]
    refine forEachM_fold (setTocPath s) (loadLinkDirF s.raw) (fun _ => True) _ [] trivial
      fun kn hm tp _ => ⟨?_, trivial⟩
    have hg := (mem_children h.keys (k := kn.1) (n := kn.2)).mp hm
    obtain ⟨r, hk', hn'⟩ := h.ep kn.1 kn.2 hg
    obtain ⟨k, n⟩ := kn
    subst hk' hn'
    have hg' : get? s.raw (linksP ++ [Key.ep r]) = some .grp := hg
    simp only [mstep, isGroup, setTocPath, hg', groupItems, forEachM_map, loadLinkDirF]
    refine forEachM_fold (setTocPath s) (loadLinkF r) (fun _ => True) _ tp trivial fun ln hm tp _ => ⟨?_, trivial⟩
    have hgl := (mem_children h.keys (k := ln.1) (n := ln.2)).mp hm
    obtain ⟨u, v, hk', hn'⟩ := h.link r ln.1 ln.2 hgl
    obtain ⟨k, n⟩ := ln
    subst hk' hn'
    have hgl' : get? s.raw [Key.toc, Key.links, Key.ep r, Key.link u] = some (.ds v) := hgl
    simp [mstep, isDataset, setTocPath, hgl', Key.uuidOf, loadLinkF, linkPath, linksP]

end MetadorModel.Bridge.TocFns
