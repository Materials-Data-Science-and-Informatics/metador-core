import MetadorModel.Gen.BytesFns
import MetadorModel.Proofs.Bytes
/-! Bridge theorems for `_h5_wrap_bytes` (part of `Bridge/BytesFns.lean`, which explains the set-up; a separate
module so that a broken proof is attributed to the function group that changed). -/
namespace MetadorModel.Bridge.BytesFns
open MetadorModel MetadorModel.Bytes MetadorModel.BytesPy

theorem gen_h5_wrap_bytes (bs : Bytes) : Gen.BytesFns._h5_wrap_bytes bs = wrapBytes bs := by
  cases bs <;> simp [Gen.BytesFns._h5_wrap_bytes, wrapBytes]

end MetadorModel.Bridge.BytesFns
