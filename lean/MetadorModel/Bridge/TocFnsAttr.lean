import Mathlib.Tactic.Attr.Register
/-! simp set used by the bridge proofs of the translated container bookkeeping: evaluation of the first statement
of a program of the state-and-exception monad `M` on a state (filled in `Bridge/TocFnsBase.lean`) -/
register_simp_attr mstep
