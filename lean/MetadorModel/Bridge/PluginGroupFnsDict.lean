import MetadorModel.Py.PluginPy
import MetadorModel.Proofs.Plugin
/-!
Bridge, part 0 (C16): lemmas about the Python value dictionary `Py/PluginPy.lean` alone. Nothing
generated is imported here, so this module builds whatever the source looks like.

* `Re.test_iff`: the derivative-based matcher decides the language `Re.Matches` of a pattern.
* the dictionary's string functions agree with the model's hand-written ones: `pyStrNat = natToDigits`,
  `pyInt` = `digitsToNat` on digit strings, `pySplit · "." = splitChar '.'`, `pySplit · "__" = splitUU`,
  `pySplitMax · "." 1` has more than one piece iff there is a dot.
* the dict operations on `Table` agree with `Table.get` / `Table.set`.
-/
namespace MetadorModel.Bridge.PluginGroupFns
open MetadorModel MetadorModel.Plugin MetadorModel.PluginPy

theorem flatten_cons_iff {P : Str → Prop} (c : Char) (s : Str) :
    (∃ l : List Str, c :: s = l.flatten ∧ ∀ x ∈ l, P x) ↔
    ∃ s1 s2, s = s1 ++ s2 ∧ P (c :: s1) ∧ ∃ l : List Str, s2 = l.flatten ∧ ∀ x ∈ l, P x := by
  constructor
  · rintro ⟨l, hl, hP⟩
    induction l with
    | nil => simp at hl
    | cons x l ih =>
      cases x with
      | nil =>
        apply ih
        · simpa using hl
        · intro y hy; exact hP y (List.mem_cons_of_mem _ hy)
      | cons d x =>
        simp only [List.flatten_cons, List.cons_append, List.cons.injEq] at hl
        obtain ⟨rfl, rfl⟩ := hl
        exact ⟨x, l.flatten, rfl, hP _ (List.mem_cons_self), l, rfl,
          fun y hy => hP y (List.mem_cons_of_mem _ hy)⟩
  · rintro ⟨s1, s2, rfl, h1, l, rfl, hl⟩
    refine ⟨(c :: s1) :: l, by simp, ?_⟩
    intro x hx
    rcases List.mem_cons.mp hx with rfl | hx
    · exact h1
    · exact hl x hx

theorem Re.nullable_iff (r : Re) : r.nullable = true ↔ r.Matches [] := by
  induction r with
  | empty => simp [Re.nullable, Re.Matches]
  | eps => simp [Re.nullable, Re.Matches]
  | atom a => simp [Re.nullable, Re.Matches]
  | seq r q ihr ihq => simp [Re.nullable, Re.Matches, ihr, ihq]
  | alt r q ihr ihq => simp [Re.nullable, Re.Matches, ihr, ihq]
  | opt r ih => simp [Re.nullable, Re.Matches]
  | star r ih => simp only [Re.nullable, Re.Matches, true_iff]; exact ⟨[], rfl, by simp⟩
  | plus r ih =>
    simp only [Re.nullable, Re.Matches, ih]
    constructor
    · intro h; exact ⟨[], [], rfl, h, by simp⟩
    · rintro ⟨s1, l, h, h1, _⟩
      have : s1 = [] := by
        have := congrArg List.length h
        simp at this
        exact List.eq_nil_of_length_eq_zero (by omega)
      subst this; exact h1

theorem Re.deriv_iff (r : Re) (c : Char) (s : Str) : (r.deriv c).Matches s ↔ r.Matches (c :: s) := by
  induction r generalizing s with
  | empty => simp [Re.deriv, Re.Matches]
  | eps => simp [Re.deriv, Re.Matches]
  | atom a =>
    simp only [Re.deriv]
    split_ifs with h
    · simp [Re.Matches, h]
    · simp [Re.Matches]
      intro _; simpa using h
  | seq r q ihr ihq =>
    -- the first factor of `c :: s` is empty or starts with `c`
    have key : (Re.seq r q).Matches (c :: s) ↔ (r.Matches [] ∧ q.Matches (c :: s)) ∨
        ∃ s1 s2, s = s1 ++ s2 ∧ r.Matches (c :: s1) ∧ q.Matches s2 := by
      simp only [Re.Matches, List.cons_eq_append_iff]
      constructor
      · rintro ⟨s1, s2, ⟨rfl, rfl⟩ | ⟨l, rfl, rfl⟩, h1, h2⟩
        · exact Or.inl ⟨h1, h2⟩
        · exact Or.inr ⟨l, s2, rfl, h1, h2⟩
      · rintro (⟨h1, h2⟩ | ⟨s1, s2, rfl, h1, h2⟩)
        · exact ⟨[], _, Or.inl ⟨rfl, rfl⟩, h1, h2⟩
        · exact ⟨_, s2, Or.inr ⟨s1, rfl, rfl⟩, h1, h2⟩
    rw [key]
    simp only [Re.deriv]
    split_ifs with hn
    · simp only [Re.Matches, ihr, ihq, ← Re.nullable_iff, hn, true_and, or_comm]
    · simp only [Re.Matches, ihr, ← Re.nullable_iff, hn, Bool.false_eq_true, false_and, false_or]
  | alt r q ihr ihq => simp [Re.deriv, Re.Matches, ihr, ihq]
  | opt r ih => simp [Re.deriv, Re.Matches, ih]
  | star r ih =>
    simp only [Re.deriv, Re.Matches, ih]
    exact (flatten_cons_iff (P := r.Matches) c s).symm
  | plus r ih =>
    simp only [Re.deriv, Re.Matches, ih]
    constructor
    · rintro ⟨s1, s2, rfl, h1, l, rfl, hl⟩
      exact ⟨c :: s1, l, rfl, h1, hl⟩
    · rintro ⟨s1, l, h, h1, hl⟩
      cases s1 with
      | nil =>
        simp only [List.nil_append] at h
        exact (flatten_cons_iff (P := r.Matches) c s).mp ⟨l, h, hl⟩
      | cons d s1 =>
        simp only [List.cons_append, List.cons.injEq] at h
        obtain ⟨rfl, rfl⟩ := h
        exact ⟨s1, l.flatten, rfl, h1, l, rfl, hl⟩

theorem Re.test_iff (r : Re) (s : Str) : r.test s = true ↔ r.Matches s := by
  induction s generalizing r with
  | nil => simp [Re.test, Re.nullable_iff]
  | cons c s ih => simp [Re.test, ih, Re.deriv_iff]

theorem digitChar_eq : ∀ d, d < 10 → Nat.digitChar d = digitChar d := by decide

theorem pyStrNat_eq (n : Nat) : pyStrNat n = natToDigits n := by
  unfold pyStrNat
  induction n using Nat.strong_induction_on with
  | _ n ih =>
    rw [natToDigits]
    split_ifs with h
    · rw [Nat.toDigits_of_lt_base h]
      congr 1
      exact digitChar_eq n h
    · have h1 : n = 10 * (n / 10) + n % 10 := by omega
      have h2 : n % 10 < 10 := by omega
      conv_lhs => rw [h1]
      rw [← Nat.toDigits_append_toDigits (by omega) (by omega) h2, ih (n / 10) (by omega),
        Nat.toDigits_of_lt_base h2]
      rw [digitChar_eq _ h2]

theorem pyIsAsciiDigit_eq : pyIsAsciiDigit = isDigit := by
  funext c; simp [pyIsAsciiDigit, isDigit]

theorem pyInt_eq (s : Str) :
    pyInt s = if isDigits s then .ok (digitsToNat s) else .error .unmodelled := by
  have hf : (fun (acc : Nat) (c : Char) => 10 * acc + (c.toNat - 48)) =
      fun acc c => acc * 10 + (c.toNat - '0'.toNat) :=
    funext fun acc => funext fun c => by rw [Nat.mul_comm]; rfl
  simp only [pyInt, isDigits, pyIsAsciiDigit_eq, digitsToNat, hf]
  rfl

theorem pySplit_char (d : Char) (s cur : Str) :
    pySplitGo [d] none 0 s cur =
      match splitChar d s with
      | [] => []
      | h :: t => (cur.reverse ++ h) :: t := by
  induction s generalizing cur with
  | nil => simp [pySplitGo, splitChar]
  | cons c s ih =>
    simp only [pySplitGo, pyStartswith, splitChar, Bool.and_true, List.length_cons, List.length_nil]
    by_cases h : c = d
    · subst h
      simp only [beq_self_eq_true, if_true]
      have := ih []
      simp only [List.reverse_nil, List.nil_append] at this
      rw [show (0 + 1 - 1) = 0 from rfl, this]
      obtain ⟨a, b, hs, -⟩ := splitChar_spec c s
      simp [hs]
    · simp only [beq_iff_eq, h, if_false]
      rw [ih]
      obtain ⟨a, b, hs, -⟩ := splitChar_spec d s
      simp [hs]

theorem pySplit_dot (s : Str) : pySplit s ['.'] = splitChar '.' s := by
  unfold pySplit
  rw [pySplit_char]
  obtain ⟨a, b, hs, -⟩ := splitChar_spec '.' s
  simp [hs]

theorem pySplit_uu_go (s cur : Str) :
    pySplitGo ['_', '_'] none 0 s cur = splitUU s cur := by
  fun_induction splitUU s cur with
  | case1 acc => simp [pySplitGo]
  | case2 rest acc ih =>
    simp only [pySplitGo, pyStartswith, beq_self_eq_true, Bool.and_true, Bool.true_and, if_true,
      List.length_cons, List.length_nil]
    rw [ih]
  | case3 c rest acc hne ih =>
    rw [pySplitGo]
    have hs : pyStartswith (c :: rest) ['_', '_'] = false := by
      cases rest with
      | nil => simp [pyStartswith]
      | cons d rest =>
        simp only [pyStartswith, Bool.and_true]
        by_contra h
        simp at h
        exact hne _ h.1 (by rw [h.2])
    rw [hs]
    simpa using ih

theorem pySplit_uu (s : Str) : pySplit s ['_', '_'] = splitUU s [] := pySplit_uu_go s []

theorem matches_star_atom (a : Atom) (s : Str) :
    (Re.star (.atom a)).Matches s ↔ ∀ c ∈ s, a.ok c = true := by
  simp only [Re.Matches]
  constructor
  · rintro ⟨l, rfl, hl⟩ c hc
    simp only [List.mem_flatten] at hc
    obtain ⟨x, hx, hcx⟩ := hc
    obtain ⟨d, rfl, hd⟩ := hl x hx
    simp only [List.mem_singleton] at hcx
    subst hcx; exact hd
  · intro h
    refine ⟨s.map (fun c => [c]), ?_, ?_⟩
    · induction s with
      | nil => rfl
      | cons c s ih => simp [← ih (fun d hd => h d (List.mem_cons_of_mem _ hd))]
    · intro x hx
      simp only [List.mem_map] at hx
      obtain ⟨c, hc, rfl⟩ := hx
      exact ⟨c, rfl, h c hc⟩

theorem matches_plus_atom (a : Atom) (s : Str) :
    (Re.plus (.atom a)).Matches s ↔ s ≠ [] ∧ ∀ c ∈ s, a.ok c = true := by
  have hs := matches_star_atom a
  simp only [Re.Matches] at hs ⊢
  constructor
  · rintro ⟨_, l, rfl, ⟨c, rfl, hc⟩, hl⟩
    exact ⟨by simp, List.forall_mem_cons.2 ⟨hc, (hs _).mp ⟨l, rfl, hl⟩⟩⟩
  · rintro ⟨hne, h⟩
    cases s with
    | nil => exact absurd rfl hne
    | cons c s =>
      obtain ⟨l, hl, hl2⟩ := (hs s).mpr (fun d hd => h d (List.mem_cons_of_mem _ hd))
      exact ⟨[c], l, by simp [hl], ⟨c, rfl, h c (List.mem_cons_self)⟩, hl2⟩

theorem matches_seqOf_cons (r r' : Re) (rs : List Re) (s : Str) :
    (Re.seqOf (r :: r' :: rs)).Matches s ↔
    ∃ s1 s2, s = s1 ++ s2 ∧ r.Matches s1 ∧ (Re.seqOf (r' :: rs)).Matches s2 := Iff.rfl

theorem matches_seqOf_append (xs ys : List Re) (hx : xs ≠ []) (hy : ys ≠ []) (s : Str) :
    (Re.seqOf (xs ++ ys)).Matches s ↔
    ∃ s1 s2, s = s1 ++ s2 ∧ (Re.seqOf xs).Matches s1 ∧ (Re.seqOf ys).Matches s2 := by
  induction xs generalizing s with
  | nil => exact absurd rfl hx
  | cons r xs ih =>
    cases xs with
    | nil =>
      cases ys with
      | nil => exact absurd rfl hy
      | cons y ys => exact Iff.rfl
    | cons r' xs =>
      have ih' := ih (List.cons_ne_nil _ _)
      simp only [List.cons_append] at ih' ⊢
      simp only [matches_seqOf_cons, ih']
      constructor
      · rintro ⟨s1, _, rfl, h1, t1, t2, rfl, h3, h4⟩
        exact ⟨_, t2, by simp, ⟨s1, t1, rfl, h1, h3⟩, h4⟩
      · rintro ⟨_, s2, rfl, ⟨t1, t2, rfl, h1, h3⟩, h4⟩
        exact ⟨t1, _, by simp, h1, t2, s2, rfl, h3, h4⟩

/-! ## `self._VERSIONS` -/

theorem pyDictSet_eq (t : Table) (n : String) (l : List Ref) : pyDictSet t n l = t.set n l := by
  induction t with
  | nil => rfl
  | cons e t ih => obtain ⟨k, l'⟩ := e; simp only [pyDictSet, Table.set, ih]

theorem pyDictGet_getD (t : Table) (n : String) : (pyDictGet t n).getD [] = t.get n := by
  induction t with
  | nil => rfl
  | cons e t ih =>
    obtain ⟨k, l'⟩ := e
    simp only [pyDictGet, Table.get]
    split_ifs <;> simp_all

theorem pyOrList_get (t : Table) (n : String) : pyOrList (pyDictGet t n) [] = t.get n := by
  rw [← pyDictGet_getD]
  cases h : pyDictGet t n with
  | none => rfl
  | some l => cases l <;> simp [pyOrList]

theorem pyDictGet_set_self (t : Table) (n : String) (l : List Ref) :
    pyDictGet (pyDictSet t n l) n = some l := by
  induction t with
  | nil => simp [pyDictSet, pyDictGet]
  | cons e t ih =>
    obtain ⟨k, l'⟩ := e
    simp only [pyDictSet]
    split_ifs with h <;> simp [pyDictGet, h, ih]

theorem pyDictSet_set (t : Table) (n : String) (l l' : List Ref) :
    pyDictSet (pyDictSet t n l) n l' = pyDictSet t n l' := by
  induction t with
  | nil => simp [pyDictSet]
  | cons e t ih =>
    obtain ⟨k, l0⟩ := e
    simp only [pyDictSet]
    split_ifs with h <;> simp [pyDictSet, h, ih]

theorem pyDictSet_of_get (t : Table) (n : String) (l : List Ref) (h : pyDictGet t n = some l) :
    pyDictSet t n l = t := by
  induction t with
  | nil => simp [pyDictGet] at h
  | cons e t ih =>
    obtain ⟨k, l0⟩ := e
    simp only [pyDictGet] at h
    simp only [pyDictSet]
    split_ifs with hk
    · simp only [hk, if_true, Option.some.injEq] at h; rw [h]
    · simp only [hk] at h; rw [ih h]

end MetadorModel.Bridge.PluginGroupFns
