import MetadorModel.Gen.PatchSteps
/-!
# Bridge for C11: `IH5UserBlock.save` as regenerated from the source, byte level

`gen_save`: the regenerated `save` is `UBlock.saveUB` — the text `magic \n size \n json`, refused when it
does not fit below 1024 bytes or when the file starts with the HDF5 signature, otherwise written **in place at
offset 0** followed by one NUL byte, by two `write` calls that are contiguous from offset 0 (`gen_save_writes`),
so that every byte-wise prefix of what `save` writes is a torn block `torn k old (frame size u)` of
`Model/Crash.lean` (`gen_save_prefix`). This is what the action `writeUB` of the step sequences stands for.
-/
namespace MetadorModel.Bridge.PatchSteps.Bytes
open MetadorModel.UBlock MetadorModel.RecordPy MetadorModel.UBSavePy
open MetadorModel.Gen.PatchSteps.Bytes

theorem gen_constants : FORMAT_MAGIC_STR = MAGIC ∧ USER_BLOCK_SIZE = UBSIZE ∧
    pyStrNat IH5UserBlock._userblock_size_default = SZ1024 := ⟨rfl, rfl, by decide⟩

/-- the text `save` builds, without the closing NUL -/
def body (size : List Char) (u : UBT) : Bytes := MAGIC ++ ['\n'] ++ size ++ ['\n'] ++ render u

theorem frame_eq_body (size : List Char) (u : UBT) : frame size u = body size u ++ ['\x00'] := rfl

theorem writeAt_zero (old data : Bytes) : writeAt old 0 data = data ++ old.drop data.length := by
  simp [writeAt]

theorem writeAt_after (a r b : Bytes) : writeAt (a ++ r) a.length b = a ++ b ++ r.drop b.length := by
  simp [writeAt, List.drop_append]

/-- **`save`** as regenerated from the source is the model's `saveUB`; an exception leaves the file as it was -/
theorem gen_save (u : UBT) (n : Nat) (old : Bytes) :
    IH5UserBlock.save u n ⟨old, []⟩ =
      match saveUB old (pyStrNat n) u with
      | .ok b => (.ok (), ⟨b, [(0, body (pyStrNat n) u), ((body (pyStrNat n) u).length, ['\x00'])]⟩)
      | .error e => (.error e, ⟨old, []⟩) := by
  unfold IH5UserBlock.save saveUB
  have hlen : (frame (pyStrNat n) u).length - 1 = (body (pyStrNat n) u).length := by
    rw [frame_eq_body]; simp
  have hb : FORMAT_MAGIC_STR ++ ['\n'] ++ pyStrNat n ++ ['\n'] ++ render u = body (pyStrNat n) u := rfl
  simp only [pyEncode, hb, hlen, gen_constants.2.1]
  by_cases h1 : (body (pyStrNat n) u).length ≥ UBSIZE
  · have h1' : ¬ (body (pyStrNat n) u).length < UBSIZE := by omega
    simp [h1, h1', throw, throwThe, MonadExceptOf.throw]
  · have h1' : (body (pyStrNat n) u).length < UBSIZE := by omega
    by_cases h2 : old.take 4 = ['\x89', 'H', 'D', 'F']
    · simp [h1, h1', h2, pyWithOpen, fRead, throw, throwThe, MonadExceptOf.throw]
    · simp [h1, h1', h2, pyWithOpen, fRead, fSeek, fWrite, throw, pure, Except.pure, writeAt_zero, torn, frame_eq_body]
      rw [writeAt_after]
      have ht : List.take (1 + (body (pyStrNat n) u).length) (body (pyStrNat n) u ++ ['\x00'])
          = body (pyStrNat n) u ++ ['\x00'] := List.take_of_length_le (by simp; omega)
      simp [List.drop_drop, Nat.add_comm, ht]

/-- the two `write` calls of `save` are contiguous from offset 0: together they are one write of `frame` -/
theorem gen_save_writes (u : UBT) (n : Nat) (old b : Bytes) (h : saveUB old (pyStrNat n) u = .ok b) :
    (IH5UserBlock.save u n ⟨old, []⟩).2.writes =
      [(0, body (pyStrNat n) u), ((body (pyStrNat n) u).length, ['\x00'])] ∧
    body (pyStrNat n) u ++ ['\x00'] = frame (pyStrNat n) u := by
  rw [gen_save, h]
  exact ⟨rfl, rfl⟩

/-- **every byte-wise prefix of what `save` writes is a torn block of `Model/Crash.lean`**: the first `j` bytes
of the first `write`, or all of it and the first `i` bytes of the second -/
theorem gen_save_prefix (size : List Char) (u : UBT) (old : Bytes) :
    (∀ j, j ≤ (body size u).length → writeAt old 0 ((body size u).take j) = torn j old (frame size u)) ∧
    (∀ i, i ≤ 1 → writeAt (writeAt old 0 (body size u)) (body size u).length (['\x00'].take i)
        = torn ((body size u).length + i) old (frame size u)) := by
  constructor
  · intro j hj
    rw [writeAt_zero, frame_eq_body, torn, List.take_append_of_le_length hj]
    simp [List.length_take, Nat.min_eq_left hj]
  · intro i hi
    rw [writeAt_zero, writeAt_after, frame_eq_body, torn]
    have : List.take ((body size u).length + i) (body size u ++ ['\x00']) = body size u ++ (['\x00'] : Bytes).take i := by
      rw [List.take_append]
      simp [List.take_of_length_le (Nat.le_add_right (body size u).length i)]
    rw [this]
    simp [List.drop_drop, List.length_take, Nat.min_eq_left hi, Nat.add_comm]

end MetadorModel.Bridge.PatchSteps.Bytes
