import MetadorModel.Gen.CodecFns
/-! Bridge (C12), `schema/parser.py` and the parsers of `Duration`, `PintUnit`, `PintQuantity`
(`schema/types.py`): how a custom `Parser` is found and invoked, which function parses, which
exceptions become `ValueError` (F27). -/
namespace MetadorModel.Bridge.CodecFns
open MetadorModel MetadorModel.Codec MetadorModel.CodecParsers MetadorModel.CodecPy

theorem gen_baseparser_attrs : Gen.CodecFns.BaseParser.strict = true ∧ Gen.CodecFns.BaseParser.schema_info = [] := ⟨rfl, rfl⟩

theorem gen_baseparser_parse (t : TCls) (v : Obj) : Gen.CodecFns.BaseParser.parse t v = baseParse t v := by
  simp only [Gen.CodecFns.BaseParser.parse, baseParse]
  cases t <;> simp

/-- `run_parser`: the parser's result, refused with `RuntimeError` when the parser is strict and the
result is no instance of the target class -/
theorem gen_run_parser (p : ParserCls) (t : TCls) (v : Obj) : Gen.CodecFns.run_parser p t v = runParser p t v := by
  simp only [Gen.CodecFns.run_parser, runParser]
  cases p.parse t v <;> rfl

/-- `get_parser`: the class's *own* `Parser` attribute; `TypeError` if it does not derive from `BaseParser` -/
theorem gen_get_parser (c : PCls) : Gen.CodecFns.get_parser c = getParser c := by
  simp only [Gen.CodecFns.get_parser, getParser]
  cases c.ownParser with
  | none => rfl
  | some p => cases h : p.isBaseParser <;> simp [h]

/-- `__get_validators__`: the cached parser function (computed on first use from `get_parser`), yielded
unless it is the marker `NoParserDefined`, then `cls.validate` for models -/
theorem gen_get_validators (c : PCls) : Gen.CodecFns.ParserMixin.__get_validators__ c = validatorsOf c := by
  simp only [Gen.CodecFns.ParserMixin.__get_validators__, validatorsOf, gen_get_parser]
  cases hc : c.cache with
  | some f => cases f <;> cases hm : c.isModel <;> simp [PFunc.isNoParser, pfuncValidators, Validator.ofPFunc, hm]
  | none =>
    simp only []
    cases getParser c with
    | error e => rfl
    | ok o => cases o <;> cases c.isModel <;> simp [PFunc.isNoParser, Validator.ofPFunc]

theorem gen_modify_schema (c : PCls) (schema : Dict) :
    Gen.CodecFns.ParserMixin.__modify_schema__ c schema = modifySchema c schema := by
  simp only [Gen.CodecFns.ParserMixin.__modify_schema__, modifySchema, gen_get_parser]
  cases getParser c with
  | error e => rfl
  | ok o =>
    cases o with
    | none => rfl
    | some p => cases h : p.schemaInfo.isEmpty <;> simp [h]

theorem gen_duration_parse (L : Lib) (t : TCls) (v : Obj) :
    Gen.CodecFns.Duration.Parser.parse L t v = durParse L t v := by
  simp only [Gen.CodecFns.Duration.Parser.parse, durParse]
  cases v with
  | json j =>
    cases j <;> simp [isStr, Obj.isInst, parseDurationObj]
    rename_i s
    cases L.parseDuration s <;> simp [totalSeconds]
    cases t with
    | opq k => cases k <;> simp [mkDuration]
    | _ => simp [mkDuration]
  | inst k nf =>
    simp [isStr, Obj.isInst]
    by_cases h : t = TCls.opq k
    · subst h
      cases k <;> simp [totalSeconds, mkDuration]
    · simp [h]
  | td s => simp [isStr, Obj.isInst]
  | qv q =>
    simp [isStr, Obj.isInst]
    by_cases h1 : t = TCls.num <;> by_cases h2 : q.cls = QCls.tcls <;> simp [h1, h2, totalSeconds]
  | tuple xs => simp [isStr, Obj.isInst]

theorem gen_string_parse (L : Lib) (t : TCls) (v : Obj) :
    Gen.CodecFns.StringParser.parse L t v = stringParse L t v := by
  simp only [Gen.CodecFns.StringParser.parse, stringParse]
  cases h : Obj.isInst t v <;> rcases v with (_|_|_|_|_|_|_) | _ | _ | _ | _ <;>
    simp_all [isStr, constructObj]
  cases construct L t _ <;> rfl

/-- `PintParser.parse`: a falsy input is a `ValueError`; `ValueError` / `TypeError` of the string
parser pass unchanged; every other exception is converted into a `ValueError` (F27) -/
theorem gen_pint_parse (L : Lib) (t : TCls) (v : Obj) :
    Gen.CodecFns.PintParser.parse L t v = pintParse L t v := by
  simp only [Gen.CodecFns.PintParser.parse, pintParse, gen_string_parse]
  cases Obj.truthy L v
  · simp
  · simp only [Bool.not_true, Bool.false_eq_true, ↓reduceIte]
    cases stringParse L t v with
    | ok r => rfl
    | error e => cases e <;> simp [catches, ExcName.catches, PyErr.isValidation] <;> rfl

/-- the `Parser` classes: all derive from `BaseParser`, all are strict; `Duration.Parser` parses with its own
`parse`, the two pint classes with `PintParser.parse` -/
theorem gen_parser_classes (L : Lib) :
    (Gen.CodecFns.Duration.ParserCls L).isBaseParser = true ∧ (Gen.CodecFns.Duration.ParserCls L).strict = true ∧
    (Gen.CodecFns.Duration.ParserCls L).parse = durParse L ∧
    (Gen.CodecFns.PintUnit.ParserCls L).isBaseParser = true ∧ (Gen.CodecFns.PintUnit.ParserCls L).strict = true ∧
    (Gen.CodecFns.PintUnit.ParserCls L).parse = pintParse L ∧
    (Gen.CodecFns.PintQuantity.ParserCls L).isBaseParser = true ∧ (Gen.CodecFns.PintQuantity.ParserCls L).strict = true ∧
    (Gen.CodecFns.PintQuantity.ParserCls L).parse = pintParse L := by
  refine ⟨rfl, rfl, ?_, rfl, rfl, ?_, rfl, rfl, ?_⟩
  · funext t v; exact gen_duration_parse L t v
  · funext t v; exact gen_pint_parse L t v
  · funext t v; exact gen_pint_parse L t v

/-- the class of the field type as the model sees it -/
def genPCls (L : Lib) : Opq → PCls
  | .dur => Gen.CodecFns.Duration.PCls L
  | .unit => Gen.CodecFns.PintUnit.PCls L
  | .qty => Gen.CodecFns.PintQuantity.PCls L

def genParserCls (L : Lib) : Opq → ParserCls
  | .dur => Gen.CodecFns.Duration.ParserCls L
  | .unit => Gen.CodecFns.PintUnit.ParserCls L
  | .qty => Gen.CodecFns.PintQuantity.ParserCls L

/-- the three classes have an own `Parser`, so `__get_validators__` yields exactly one validator: the wrapper
around `run_parser(Parser, field.type_, value)` (and caches it) -/
theorem gen_opq_validators (L : Lib) (k : Opq) :
    let c' : PCls := { genPCls L k with cache := some (.wrapper (genParserCls L k)) }
    Gen.CodecFns.ParserMixin.__get_validators__ (genPCls L k) = .ok (c', [Validator.pfunc (genParserCls L k)]) ∧
      Gen.CodecFns.ParserMixin.__get_validators__ c' = .ok (c', [Validator.pfunc (genParserCls L k)]) := by
  obtain ⟨d1, _, _, u1, _, _, q1, _, _⟩ := gen_parser_classes L
  cases k <;>
    simp [gen_get_validators, validatorsOf, genPCls, genParserCls, Gen.CodecFns.Duration.PCls,
      Gen.CodecFns.PintUnit.PCls, Gen.CodecFns.PintQuantity.PCls, getParser, pfuncValidators, d1, u1, q1]

/-- **the whole validation of an opaque field**, as the source has it now (dispatch of `ParserMixin`,
`run_parser`, the class's `Parser.parse`), is the model's `validateOpq` — the function `envOf` (the `Env` of the
C12 theorems) is built from. The strict check of `run_parser` never fires. -/
theorem gen_validate_opq (L : Lib) (k : Opq) (v : Obj) :
    Gen.CodecFns.run_parser (genParserCls L k) (.opq k) v = validateOpq L k v := by
  rw [gen_run_parser]
  obtain ⟨_, d2, d3, _, u2, u3, _, q2, q3⟩ := gen_parser_classes L
  cases k
  · simp only [runParser, genParserCls, d2, d3, durParse, validateOpq]
    cases v with
    | json j =>
      cases j <;> simp
      rename_i s
      cases L.parseDuration s <;> simp [Obj.isInst]
    | inst k nf => cases k <;> simp [Obj.isInst]
    | qv q => simp
    | _ => simp
  -- the two pint classes differ in their schema information only
  all_goals
    simp only [runParser, genParserCls, u2, u3, q2, q3, pintParse, validateOpq]
    cases ht : Obj.truthy L v
    · simp
    · simp only [Bool.not_true, Bool.false_eq_true, ↓reduceIte, stringParse]
      cases v with
      | json j =>
        cases j <;> simp [Obj.isInst, PyErr.isValidation, construct]
        rename_i s
        cases L.pint _ s with
        | ok n => simp
        | error e => cases e <;> simp
      | inst k nf => cases k <;> simp [Obj.isInst, PyErr.isValidation]
      | _ => simp [Obj.isInst, PyErr.isValidation]

end MetadorModel.Bridge.CodecFns
