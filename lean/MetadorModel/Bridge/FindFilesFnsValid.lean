import MetadorModel.Gen.FindFilesFns
import MetadorModel.Bridge.FindFilesFnsDict
/-!
Bridge (`IH5Record._is_valid_record_name`): the function of `Gen/FindFilesFns.lean` (regenerated from
/repo on every run by `harness/translate_c03.py`) is the model's `isValidName`.
-/
namespace MetadorModel.Bridge.FindFilesFns
open MetadorModel MetadorModel.FindFiles MetadorModel.Record MetadorModel.RecordPy

/-- the text generated for `_is_valid_record_name` is `re.match` of the parsed pattern
`^[A-Za-z0-9\-]+$` (whether the source says `… is not None` or spells it with an `if`) -/
theorem gen_is_valid_record_name_shape (n : Name) :
    Gen.FindFilesFns.is_valid_record_name n =
      pyReMatch [.bos, .plus (.cls false nameClass), .eos] n := by
  unfold Gen.FindFilesFns.is_valid_record_name
  first
    | rfl
    | (simp only [nameClass]; split <;> simp_all)
    | simp [nameClass]

theorem isValidName_iff (n : Name) :
    isValidName n = true ↔ (ValidName n ∨ ∃ init, n = init ++ ['\n'] ∧ ValidName init) := by
  unfold isValidName
  rw [Bool.or_eq_true, strictName_iff]
  apply or_congr Iff.rfl
  constructor
  · intro h
    split at h
    · rename_i r hr
      rw [List.reverse_eq_cons_iff] at hr
      exact ⟨r.reverse, hr, (strictName_iff _).mp h⟩
    · cases h
  · rintro ⟨init, rfl, hv⟩
    simp [(strictName_iff _).mpr hv]

/-- `_is_valid_record_name` (including the `$`-before-a-final-newline trap) -/
theorem gen_is_valid_record_name (n : Name) :
    Gen.FindFilesFns.is_valid_record_name n = isValidName n := by
  rw [gen_is_valid_record_name_shape, Bool.eq_iff_iff, isValidName_iff]
  unfold pyReMatch
  cases n with
  | nil =>
    simp [matchItems, ValidName]
  | cons c s =>
    change (true && ((Atom.cls false nameClass).ok c &&
      starK (Atom.cls false nameClass) (matchItems [.eos]) false s)) = true ↔ _
    rw [Bool.true_and, Bool.and_eq_true, nameClass_ok,
      starK_class_eos (Atom.cls false nameClass) isNameChar nameClass_ok (by decide)]
    unfold ValidName
    constructor
    · rintro ⟨hc, h | ⟨init, rfl, hi⟩⟩
      · exact Or.inl ⟨by simp, by simpa [hc] using h⟩
      · exact Or.inr ⟨c :: init, rfl, by simp, by simpa [hc] using hi⟩
    · rintro (⟨_, h⟩ | ⟨init, h, hne, hi⟩)
      · exact ⟨h c (by simp), Or.inl (fun x hx => h x (by simp [hx]))⟩
      · cases init with
        | nil => exact absurd rfl hne
        | cons d init =>
          simp only [List.cons_append, List.cons.injEq] at h
          obtain ⟨rfl, rfl⟩ := h
          exact ⟨hi c (by simp), Or.inr ⟨init, rfl, fun x hx => hi x (by simp [hx])⟩⟩

end MetadorModel.Bridge.FindFilesFns
