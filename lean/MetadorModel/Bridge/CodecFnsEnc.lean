import MetadorModel.Gen.CodecFns
/-! Bridge (C12), `schema/encoder.py` and the `@json_encoder` registrations of `schema/types.py`
(see `Bridge/CodecFnsBase.lean` for the set-up). -/
namespace MetadorModel.Bridge.CodecFns
open MetadorModel MetadorModel.Codec MetadorModel.CodecParsers MetadorModel.CodecPy

/-- `json_encoder(func)(cls)`: pydantic models and dataclasses are refused with `TypeError`, a second
encoder for a class with `ValueError`; otherwise the class is entered and returned -/
theorem gen_json_encoder (func : EncFn) (reg : Registry) (cls : ClsDesc) :
    Gen.CodecFns.json_encoder func reg cls = regEncoder func reg cls := by
  cases h1 : cls.isModel <;> cases h2 : cls.isDataclass <;> cases h3 : Registry.has reg cls.key <;>
    simp [Gen.CodecFns.json_encoder, regEncoder, h1, h2, h3]

theorem gen_add_json_encoder (func : EncFn) (reg : Registry) (cls : ClsDesc) :
    Gen.CodecFns.add_json_encoder reg cls func = regEncoder func reg cls := by
  simp only [Gen.CodecFns.add_json_encoder, gen_json_encoder]

/-- `_dynamize_encoder(inner)`: the default encoder first; exactly after a `TypeError` the registry
entry of `type(obj)`; without an entry the same `TypeError` -/
theorem gen_dynamize_encoder (L : Lib) (reg : Registry) (inner : EncLeaf) :
    Gen.CodecFns._dynamize_encoder L reg inner = dynLeaf L reg inner := by
  funext v
  simp only [Gen.CodecFns._dynamize_encoder, dynLeaf]
  cases inner v with
  | ok r => rfl
  | error e =>
    cases e <;> simp [catches, ExcName.catches] <;> rfl

/-- `DynJsonEncoderMetaMixin.__init__`: after `super().__init__`, the encoder of the class is wrapped -/
theorem gen_mixin_init (L : Lib) (reg : Registry) (sup : ClsSt → M ClsSt) (self : ClsSt) (bases : List ClsSt) :
    Gen.CodecFns.DynJsonEncoderMetaMixin.__init__ L reg sup self bases =
      (match sup self with
       | .error e => .error e
       | .ok s => .ok { s with jsonEncoder := dynLeaf L reg s.jsonEncoder }) := by
  simp only [Gen.CodecFns.DynJsonEncoderMetaMixin.__init__, gen_dynamize_encoder]
  rfl

/-- the three decorators of `schema/types.py` run without an exception and leave exactly the
registry of the model: `Duration ↦ isodate.duration_isoformat`, `PintUnit ↦ str`, `PintQuantity ↦ str` -/
theorem gen_registry : Gen.CodecFns.registry = .ok registryModel := by
  simp [Gen.CodecFns.registry, Gen.CodecFns.registrations, runRegistrations, gen_json_encoder, regEncoder,
    Registry.has, Registry.get, Registry.set, registryModel]

end MetadorModel.Bridge.CodecFns
