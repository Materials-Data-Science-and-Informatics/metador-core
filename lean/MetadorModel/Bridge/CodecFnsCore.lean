import MetadorModel.Gen.CodecFns
/-! Bridge (C12), `schema/core.py`: constants on input and in the JSON schema, and `SchemaMagic.__init__`. -/
namespace MetadorModel.Bridge.CodecFns
open MetadorModel MetadorModel.Codec MetadorModel.CodecParsers MetadorModel.CodecPy

theorem gen_key_constflds : Gen.CodecFns.KEY_SCHEMA_CONSTFLDS = kConstFlds := rfl

/-- `override_consts` is a *pre* root validator … -/
theorem gen_override_consts_pre : Gen.CodecFns.SchemaBase.override_consts.pre = true := rfl

/-- … that overwrites the input with every constant of the class, unconditionally -/
theorem gen_override_consts (cls : SchemaCls) (values : Dict) :
    Gen.CodecFns.SchemaBase.override_consts cls values = .ok (overrideConsts cls.constants values) := by
  simp only [Gen.CodecFns.SchemaBase.override_consts, overrideConsts]

theorem forItems_schemaExtraLoop (cs schema : Dict) :
    forItems (fun schema cname cval =>
        match dictSet2 schema kProperties cname (Json.bool true) with
        | .error ex => Except.error ex
        | .ok schema => dictSet2 schema kConstFlds cname cval) cs schema
      = schemaExtraLoop schema cs := by
  induction cs generalizing schema with
  | nil => rfl
  | cons p cs ih =>
    obtain ⟨c, v⟩ := p
    simp only [forItems, schemaExtraLoop]
    cases dictSet2 schema kProperties c (Json.bool true) with
    | error e => rfl
    | ok s1 =>
      simp only []
      cases dictSet2 s1 kConstFlds c v with
      | error e => rfl
      | ok s2 => exact ih s2

theorem gen_schema_extra (L : Lib) (schema : Dict) (model : SchemaCls) :
    Gen.CodecFns.SchemaBase.Config.schema_extra L schema model = schemaExtra L schema model := by
  have hp : (['p', 'r', 'o', 'p', 'e', 'r', 't', 'i', 'e', 's'] : Str) = kProperties := rfl
  simp only [Gen.CodecFns.SchemaBase.Config.schema_extra, schemaExtra, gen_key_constflds, hp]
  have hu : optOr model.unwrapOpt model = model.unwrap := by
    simp only [optOr, SchemaCls.unwrap]
    cases model.unwrapOpt <;> rfl
  rw [hu]
  cases hm : model.unwrap.isMetadataSchema <;> cases hc : model.unwrap.constants.isEmpty <;> simp <;> exact forItems_schemaExtraLoop _ _

theorem forEachM_inherit (bases : List ClsSt) (self : ClsSt) :
    forEachM (fun (self : ClsSt) (b : ClsSt) => (Except.ok { self with constants := dictUpdate self.constants b.constants } : M ClsSt)) bases self
      = .ok { self with constants := bases.foldl (fun acc b => dictUpdate acc b.constants) self.constants } := by
  induction bases generalizing self with
  | nil => rfl
  | cons b bs ih => simp only [forEachM, ih, List.foldl]

/-- `SchemaMagic.__init__`: first `super().__init__` (F4: this is what reaches
`DynJsonEncoderMetaMixin.__init__`), then the constants of all bases, copied -/
theorem gen_magic_init (L : Lib) (reg : Registry) (sup : ClsSt → M ClsSt) (self : ClsSt) (bases : List ClsSt) :
    Gen.CodecFns.SchemaMagic.__init__ L reg sup self bases =
      (match sup self with
       | .error e => .error e
       | .ok s => .ok { s with constants := inheritConsts bases }) := by
  simp only [Gen.CodecFns.SchemaMagic.__init__]
  cases sup self with
  | error e => rfl
  | ok s => simp only [forEachM_inherit, inheritConsts]

end MetadorModel.Bridge.CodecFns
