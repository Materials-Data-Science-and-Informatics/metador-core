import MetadorModel.Py.PatchPy
import MetadorModel.Proofs.RecordSpec
/-!
# Lemmas about the value dictionary `Py/PatchPy.lean` alone (C11 translation tie)

Nothing generated is imported here: these are facts about Python lists / dicts as modelled, about the
passage `World.ofState` / `World.state` between the record model's state and the Python object, and about
the effect summary `resOf`. They are used by the bridge modules `Bridge/PatchSteps*.lean`.
-/
namespace MetadorModel.Bridge.PatchSteps
open MetadorModel.FindFiles MetadorModel.Record MetadorModel.RecordPy MetadorModel.PatchPy

variable {α : Type}

/-- three guards that refuse with the same answer: two such cascades agree (under a map `f`) when the refusals
agree and, with all guards passed, the continuations do -/
theorem guards_congr {α β : Type} (f : α → β) {a b c : Bool} {x y : α} {x' y' : β} (hx : f x = x')
    (h : a = false → b = false → c = false → f y = y') :
    f (if a then x else if b then x else if c then x else y) =
      if a then x' else if b then x' else if c then x' else y' := by
  cases a <;> cases b <;> cases c <;> first | exact hx | exact h rfl rfl rfl

theorem hasWritable_snoc {h : Handle} (hw : hasWritable h = true) :
    ∃ init f ub, h.files = init ++ [(f, ub)] ∧ lastFile h.files = some (f, ub) ∧ h.lastRW = true := by
  rcases nil_or_append h.files with hnil | ⟨init, ⟨f, ub⟩, hsn⟩
  · simp [hasWritable, hnil] at hw
  · exact ⟨init, f, ub, hsn, by rw [hsn]; exact lastFile_append_single _ _, by simpa [hasWritable, hsn] using hw⟩

theorem neg_one_add (n : Nat) : (-1 : Int) + ((n : Int) + 1) = n := by omega

theorem pyIdx_last_snoc (init : List α) (x : α) : pyIdx (init ++ [x]) (-1 : Int) = .ok x := by
  simp [pyIdx, neg_one_add]

theorem pyIdx_last_nil : pyIdx ([] : List α) (-1 : Int) = .error .indexError := by
  simp [pyIdx]

theorem pyIdx_last (l : List α) : pyIdx l (-1 : Int) = match l.getLast? with
    | some x => .ok x | none => .error .indexError := by
  rcases nil_or_append l with rfl | ⟨init, x, rfl⟩
  · simp [pyIdx]
  · rw [pyIdx_last_snoc]; simp

theorem pyIdx_zero_cons (x : α) (r : List α) : pyIdx (x :: r) (0 : Int) = .ok x := by
  simp [pyIdx]

theorem pyIdx_zero_nil : pyIdx ([] : List α) (0 : Int) = .error .indexError := by
  simp [pyIdx]

theorem pySetIdx_last_snoc (init : List α) (x y : α) : pySetIdx (init ++ [x]) (-1 : Int) y = .ok (init ++ [y]) := by
  simp [pySetIdx, neg_one_add]

theorem pyIdx_nat_lt (l : List α) (i : Nat) (h : i < l.length) : pyIdx l (Int.ofNat i) = .ok (l[i]'h) := by
  simp only [pyIdx]
  have h1 : ¬ ((Int.ofNat i) < 0) := by simp
  simp only [h1, if_false]
  simp [h]

theorem pySetIdx_nat_lt (l : List α) (i : Nat) (v : α) (h : i < l.length) :
    pySetIdx l (Int.ofNat i) v = .ok (l.set i v) := by
  simp only [pySetIdx]
  have h1 : ¬ ((Int.ofNat i) < 0) := by simp
  simp only [h1, if_false]
  simp [h]

theorem pyPop_snoc (init : List α) (x : α) : pyPop (init ++ [x]) = .ok (x, init) := by
  simp [pyPop]

theorem pyPop_nil : pyPop ([] : List α) = .error .indexError := by
  simp [pyPop]

/-- a dict whose last key occurs only there: lookup, update and deletion at that key; insertion of a new key -/
theorem dict_snoc (l : List (Name × UB)) (f : Name) (u v : UB) (h : f ∉ l.map Prod.fst) :
    pyDictGet (l ++ [(f, u)]) f = .ok u ∧ pyDictSet (l ++ [(f, u)]) f v = l ++ [(f, v)] ∧
    pyDictDel (l ++ [(f, u)]) f = .ok l ∧ pyDictSet l f v = l ++ [(f, v)] := by
  induction l with
  | nil => simp [pyDictGet, pyDictSet, pyDictDel]
  | cons a r ih =>
    simp only [List.map_cons, List.mem_cons, not_or] at h
    obtain ⟨i1, i2, i3, i4⟩ := ih h.2
    simp [pyDictGet, pyDictSet, pyDictDel, Ne.symm h.1, i1, i2, i3, i4]

theorem pyDictGet_mem (l : List (Name × UB)) (f : Name) (u : UB) (hn : (l.map Prod.fst).Nodup) (hm : (f, u) ∈ l) :
    pyDictGet l f = .ok u := by
  induction l with
  | nil => cases hm
  | cons a r ih =>
    obtain ⟨k, v⟩ := a
    simp only [List.map_cons, List.nodup_cons] at hn
    rcases List.mem_cons.mp hm with e | hm'
    · cases e; simp [pyDictGet]
    · have hk : k ≠ f := by
        intro e; subst e
        exact hn.1 (List.mem_map.mpr ⟨(k, u), hm', rfl⟩)
      simp only [pyDictGet, hk, if_false]
      exact ih hn.2 hm'

theorem nodup_snoc_iff (l : List (Name × UB)) (f : Name) (u : UB) :
    ((l ++ [(f, u)]).map Prod.fst).Nodup ↔ (l.map Prod.fst).Nodup ∧ f ∉ l.map Prod.fst := by
  simp only [List.map_append, List.map_cons, List.map_nil, List.nodup_append, List.nodup_cons, List.not_mem_nil,
    not_false_eq_true, List.nodup_nil, and_self, List.mem_singleton, forall_eq, true_and, ne_eq]
  exact and_congr_right fun _ => ⟨fun h hm => h f hm rfl, fun h a hm e => h (e ▸ hm)⟩

theorem snoc_fresh {h : Handle} {init : List (Name × UB)} {f : Name} {u : UB} (hn : (fileNames h).Nodup)
    (hsn : h.files = init ++ [(f, u)]) : (init.map Prod.fst).Nodup ∧ f ∉ init.map Prod.fst := by
  rw [fileNames, hsn] at hn
  exact (nodup_snoc_iff _ _ _).mp hn

/-- an object whose handles carry, in order, the keys of its `_ublocks` stands for the handle with that file list -/
theorem handle_of_dict (o : Obj) (hn : (o.ublocks.map Prod.fst).Nodup)
    (hf : o.files.map H5.name = o.ublocks.map Prod.fst) :
    o.handle = { files := o.ublocks, lastRW := lastIsRW o.files, allow := o.allow, closed := o.closed,
                 mfcls := o.mfcls, manifest := o.manifest } := by
  have h : o.handle.files = o.ublocks := by
    have e : o.handle.files = (o.files.map H5.name).map
        (fun n => (n, match pyDictGet o.ublocks n with | .ok u => u | .error _ => default)) := by
      simp [Obj.handle, List.map_map, Function.comp_def]
      intro a _; rfl
    rw [e, hf, List.map_map]
    conv => rhs; rw [← List.map_id o.ublocks]
    apply List.map_congr_left
    intro x hx
    simp [pyDictGet_mem _ x.1 x.2 hn hx]
  simp only [Obj.handle] at h ⊢
  rw [h]

def ro (x : Name × UB) : H5 := ⟨x.1, false, true⟩

theorem mkHandles_snoc (init : List (Name × UB)) (f : Name) (u : UB) (rw : Bool) :
    mkHandles (init ++ [(f, u)]) rw = init.map ro ++ [⟨f, rw, true⟩] := by
  induction init with
  | nil => simp [mkHandles]
  | cons a r ih =>
    obtain ⟨k, v⟩ := a
    rcases nil_or_append r with rfl | ⟨r', y, rfl⟩
    · simp [mkHandles, ro]
    · have : (k, v) :: (r' ++ [y]) ++ [(f, u)] = (k, v) :: ((r' ++ [y]) ++ [(f, u)]) := rfl
      rw [this]
      cases hr : (r' ++ [y]) ++ [(f, u)] with
      | nil => simp at hr
      | cons z t =>
        rw [mkHandles, ← hr, ih]
        simp [ro]

theorem mkHandles_names (l : List (Name × UB)) (rw : Bool) : (mkHandles l rw).map H5.name = l.map Prod.fst := by
  rcases nil_or_append l with rfl | ⟨init, ⟨f, u⟩, rfl⟩
  · simp [mkHandles]
  · rw [mkHandles_snoc]; simp [ro, Function.comp_def]

theorem mkHandles_length (l : List (Name × UB)) (rw : Bool) : (mkHandles l rw).length = l.length := by
  have := congrArg List.length (mkHandles_names l rw)
  simpa using this

theorem lastIsRW_mkHandles (l : List (Name × UB)) (rw : Bool) : lastIsRW (mkHandles l rw) = (!l.isEmpty && rw) := by
  rcases nil_or_append l with rfl | ⟨init, ⟨f, u⟩, rfl⟩
  · simp [mkHandles, lastIsRW]
  · rw [mkHandles_snoc]; simp [lastIsRW]

theorem any_live_mkHandles (l : List (Name × UB)) (rw : Bool) (p : Name) :
    (mkHandles l rw).any (fun h => h.live && h.name == p) = (l.map Prod.fst).contains p := by
  rcases nil_or_append l with rfl | ⟨init, ⟨f, u⟩, rfl⟩
  · simp [mkHandles]
  · rw [mkHandles_snoc]
    simp only [List.any_append, List.any_map, List.any_cons, List.any_nil, Bool.or_false, Bool.true_and,
      List.map_append, List.map_cons, List.map_nil, List.contains_eq_any_beq, Function.comp_def, ro]
    rw [Bool.beq_comm (a := p) (b := f)]
    congr 1
    induction init with
    | nil => rfl
    | cons a r ih => simp [List.any_cons, ih, Bool.beq_comm (a := p)]

theorem hasWritable_eq (h : Handle) : hasWritable h = lastIsRW (Obj.ofHandle h).files := by
  simp [Obj.ofHandle, lastIsRW_mkHandles, hasWritable]

/-- going to the Python object and back is the identity when no two files of the handle share a name
(`_ublocks` is a dict keyed by file name) -/
theorem handle_ofHandle (h : Handle) (hn : (fileNames h).Nodup) (hrw : h.lastRW = true → h.files ≠ []) :
    (Obj.ofHandle h).handle = h := by
  rw [handle_of_dict (Obj.ofHandle h) hn (mkHandles_names _ _)]
  obtain ⟨files, lastRW, _, _, _, _⟩ := h
  simp only [Obj.ofHandle, lastIsRW_mkHandles, Handle.mk.injEq, and_true, true_and]
  cases lastRW
  · exact Bool.and_false _
  · cases files
    · exact absurd rfl (hrw rfl)
    · rfl

/-! ## projections of `World.ofState` (simp normal form: everything in terms of `s`) -/

theorem ofState_disk (s : State) : (World.ofState s).disk = s.disk := rfl
theorem ofState_next (s : State) : (World.ofState s).next = s.next := rfl
theorem ofState_trace (s : State) : (World.ofState s).trace = [] := rfl
theorem ofState_self (s : State) : (World.ofState s).self = Obj.ofHandle s.h := rfl
theorem ofHandle_files (h : Handle) : (Obj.ofHandle h).files = mkHandles h.files h.lastRW := rfl
theorem ofHandle_ublocks (h : Handle) : (Obj.ofHandle h).ublocks = h.files := rfl
theorem ofHandle_closed (h : Handle) : (Obj.ofHandle h).closed = h.closed := rfl
theorem ofHandle_allow (h : Handle) : (Obj.ofHandle h).allow = h.allow := rfl
theorem ofHandle_mfcls (h : Handle) : (Obj.ofHandle h).mfcls = h.mfcls := rfl
theorem ofHandle_manifest (h : Handle) : (Obj.ofHandle h).manifest = h.manifest := rfl

theorem uniq_single (f : Name) : uniq [f] = [f] := by simp [uniq]

theorem uniq_pair (f : Name) : uniq [f, f] = [f] := by simp [uniq]

end MetadorModel.Bridge.PatchSteps
