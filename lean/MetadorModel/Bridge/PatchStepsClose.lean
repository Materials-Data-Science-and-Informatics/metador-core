import MetadorModel.Bridge.PatchStepsCommit
/-!
# Bridge for C11: `IH5Record.close` as regenerated from the source

`gen_close`: an uncommitted patch is committed first (by the `commit_patch` of the object's class) unless
`commit=False`; only then are the HDF5 handles closed, in list order; nothing else touches the file system.
-/
namespace MetadorModel.Bridge.PatchSteps
open MetadorModel.FindFiles MetadorModel.Record MetadorModel.RecordPy MetadorModel.PatchPy
open MetadorModel.Gen.PatchSteps

variable {α : Type}

theorem pyIdx_mid (pre : List α) (x : α) (r : List α) : pyIdx (pre ++ x :: r) (Int.ofNat pre.length) = .ok x := by
  have h : pre.length < (pre ++ x :: r).length := by simp
  rw [pyIdx_nat_lt _ _ h]
  simp

theorem pySetIdx_mid (pre : List α) (x y : α) (r : List α) :
    pySetIdx (pre ++ x :: r) (Int.ofNat pre.length) y = .ok (pre ++ y :: r) := by
  have h : pre.length < (pre ++ x :: r).length := by simp
  rw [pySetIdx_nat_lt _ _ _ h]
  simp

def kill (h : H5) : H5 := { h with live := false }

/-- the loop `for f in self.__files__: f.close()` from position `pre.length` on -/
theorem forIdx_close (body : Int → PatchM Unit) (hb : ∀ j w, body j w = pyH5CloseAt j w) :
    ∀ (post pre : List H5) (w : World), w.self.files = pre ++ post →
      pyForIdx post.length pre.length body w =
        (.ok (), { w with self := { w.self with files := pre ++ post.map kill },
                          trace := w.trace ++ closeActs post }) := by
  intro post
  induction post with
  | nil =>
    intro pre w hf
    simp [pyForIdx, closeActs, ← hf]
  | cons x r ih =>
    intro pre w hf
    simp only [List.length_cons, pyForIdx, run_bind, hb, pyH5CloseAt, hf, pyIdx_mid, pySetIdx_mid]
    have hlen : (pre ++ [kill x]).length = pre.length + 1 := by simp
    rw [← hlen, ih (pre ++ [kill x])]
    · cases hl : x.live <;> simp [kill, closeActs, List.filter, hl]
    · simp [kill]

theorem gen_close_loop (body : Int → PatchM Unit) (hb : ∀ j w, body j w = pyH5CloseAt j w) (w : World) :
    pyForFiles body w =
      (.ok (), { w with self := { w.self with files := w.self.files.map kill }, trace := w.trace ++ closeActs w.self.files }) := by
  unfold pyForFiles
  have := forIdx_close body hb w.self.files [] w rfl
  simpa using this

/-- **`close(commit)`** as regenerated from the source is the step sequence `closeW` -/
theorem gen_close (s : State) (hp : PyRep s.h) (c : Bool) :
    IH5Record.close c (World.ofState s) = closeW s c := by
  have hcl : (World.ofState s).self.closed = s.h.closed := rfl
  have hwr : lastIsRW (World.ofState s).self.files = hasWritable s.h := (hasWritable_eq s.h).symm
  unfold IH5Record.close closeW
  cases hc : s.h.closed
  case true => simp [hcl, hc]
  case false =>
    simp only [run_bind, run_pySelf, hcl, hc, gen_has_writable, hwr, Bool.false_eq_true, if_false]
    rcases Bool.eq_false_or_eq_true (hasWritable s.h && c) with hwc | hwc
    · simp only [hwc, if_true, run_bind, gen_dispatch_commit_patch s hp]
      generalize commitPatchW s [] = x
      obtain ⟨r, w1⟩ := x
      cases r with
      | error e => rfl
      | ok v =>
        simp only
        rw [gen_close_loop _ (fun j w => rfl)]
        simp [pySetFiles, pySetClosed]
    · simp only [hwc, Bool.false_eq_true, if_false, run_bind]
      rw [gen_close_loop _ (fun j w => rfl)]
      simp [pySetFiles, pySetClosed]

/-- **`close(commit)`** as regenerated from the source is the model's `close` -/
theorem gen_close_model (s : State) (hp : PyRep s.h) (hd : OnDisk s) (c : Bool) :
    resOf s (IH5Record.close c (World.ofState s)) = close s c := by
  rw [gen_close s hp]; exact closeW_res s hp hd c

end MetadorModel.Bridge.PatchSteps
