import MetadorModel.Bridge.ChainCheckUB
/-!
# Bridge (C04): the translated `IH5Record._open` / `IH5MFRecord._open` are the model's `openFiles`

`Gen/ChainCheck.lean` is regenerated from the source on every run (`harness/translate_c04.py`).
Main theorems, for all inputs:

* `gen_IH5Record_open`   : `IH5Record._open H HM .IH5Record paths ab ro = liftE (openFiles H HM false ab paths)`
* `gen_IH5MFRecord_open` : `IH5MFRecord._open H HM .IH5MFRecord paths none ab ro = liftE (openFiles H HM true ab paths)`
* `gen_open_ok_iff_coherent` / `gen_mf_open_ok_iff_coherent`: the translated function accepts a set of
  loadable files exactly when it is a coherent file set (`Chain.validate_ok_iff` transferred).

`paths : List (Option (File P M))` (`none`: the user block of that path does not load), `ab` =
`allow_baseless`, `ro` = `reopen_incomplete_patch` (which is shown not to matter), the manifest path of
`IH5MFRecord._open` not given (`none`, i.e. inferred from the newest container — the only case the model
covers). `liftE` turns the model's `Err` into the `ValueError` of that message; so the theorems also say that
no `IndexError` / `AttributeError` / `FileNotFoundError` of the interpreter can escape from the translated code:
the index arithmetic of the loop `range(1, len - 1)`, of `[-1]`, `[-2]` and the `is_file()` guard are right.

How the source's control flow meets the model's recursion: `pyForAux_inner` (the `for i in range(1, n-1)`
loop over indices = `checkInner`, structural recursion over the list), `checkRest_concat` (inner containers,
then the newest one), `pySet_pids` (`len({…}) != len(files)` = `!pidsDistinct`), `pySortBy_idx`.
-/
namespace MetadorModel.Bridge.ChainCheck
open MetadorModel.Chain MetadorModel.ChainPy MetadorModel.Gen.ChainCheck

variable {P M : Type} (H : P → Digest) (HM : M → Digest)

section idx
variable {α : Type}

theorem pyIdx_neg_one (xs : List α) (x : α) : pyIdx (xs ++ [x]) (-1) = .ok x := by
  simp [pyIdx]

theorem pyIdx_neg_two (xs : List α) (y x : α) : pyIdx (xs ++ [y, x]) (-2) = .ok y := by
  simp [pyIdx]

theorem pySetIdx_neg_one (xs : List α) (x v : α) : pySetIdx (xs ++ [x]) (-1) v = .ok (xs ++ [v]) := by
  simp [pySetIdx]

end idx

theorem pySortBy_idx (l : List (File P M)) : pySortBy (fun f => f.ub.idx) l = sortByIdx l := by
  have hi : ∀ (x : File P M) (acc : List (File P M)), pyInsertBy (fun f => f.ub.idx) x acc = insertByIdx x acc := by
    intro x acc
    induction acc with
    | nil => rfl
    | cons y r ih => simp [pyInsertBy, insertByIdx, ih]
  unfold pySortBy sortByIdx
  congr 1
  funext acc x
  exact hi x acc

theorem pySet_length_le {β : Type} [DecidableEq β] (xs : List β) : (pySet xs).length ≤ xs.length := by
  induction xs with
  | nil => simp [pySet]
  | cons x r ih => by_cases h : x ∈ r <;> simp [pySet, h] <;> omega

theorem pySet_length_eq_iff {β : Type} [DecidableEq β] (xs : List β) : (pySet xs).length = xs.length ↔ xs.Nodup := by
  induction xs with
  | nil => simp [pySet]
  | cons x r ih =>
    by_cases h : x ∈ r
    · have := pySet_length_le r
      simp [pySet, h]; omega
    · simp [pySet, h, ih]

theorem pySet_pids (l : List (File P M)) :
    (!(Int.ofNat (pySet (l.map (fun f => f.ub.pid))).length == Int.ofNat l.length)) = !pidsDistinct l := by
  have h := pySet_length_eq_iff (l.map (fun f => f.ub.pid))
  rw [List.length_map, ← pidsDistinct_iff] at h
  cases hp : pidsDistinct l
  · have : ¬ (pySet (l.map (fun f => f.ub.pid))).length = l.length := by rw [h, hp]; simp
    simp; omega
  · have := h.mpr hp
    simp [this]

/-! ### the model's chain check, split the way the source loops -/
/-- inner containers: hash required, each linked to its predecessor -/
def checkInner (mfAware : Bool) (rid0 : Uuid) : File P M → List (File P M) → Except Err Unit
  | _, [] => pure ()
  | p, f :: r => do
    checkUB H mfAware rid0 f (some p.ub) true
    checkInner mfAware rid0 f r

theorem checkRest_concat (mfAware : Bool) (rid0 : Uuid) (p : File P M) (mid : List (File P M)) (l : File P M) :
    checkRest H mfAware rid0 p (mid ++ [l]) =
      (do checkInner H mfAware rid0 p mid; checkUB H mfAware rid0 l (some (lastOf p mid).ub) false) := by
  induction mid generalizing p with
  | nil =>
    rw [List.nil_append, checkRest_cons]
    simp only [List.isEmpty_nil, Bool.not_true, lastOf]
    cases checkUB H mfAware rid0 l (some p.ub) false <;> rfl
  | cons f r ih =>
    rw [List.cons_append, checkRest_cons, ih f]
    have : (!(r ++ [l]).isEmpty) = true := by simp
    rw [this, checkInner, lastOf, bind_assoc]

theorem pyForAux_inner (mfAware : Bool) (rid0 : Uuid) (files : List (File P M)) (body : Int → Except PyErr Unit)
    (hbody : ∀ (k : Nat) (p f : File P M), files[k]? = some p → files[k + 1]? = some f →
      body ((k : Int) + 1) = liftE (checkUB H mfAware rid0 f (some p.ub) true))
    (mid : List (File P M)) : ∀ (pre : List (File P M)) (p : File P M) (tail : List (File P M)),
      files = pre ++ p :: (mid ++ tail) →
      pyForAux body mid.length ((pre.length : Int) + 1) = liftE (checkInner H mfAware rid0 p mid) := by
  induction mid with
  | nil => intro pre p tail _; rfl
  | cons f r ih =>
    intro pre p tail hf
    have h1 : files[pre.length]? = some p := by simp [hf]
    have h2 : files[pre.length + 1]? = some f := by
      rw [hf, List.getElem?_append_right (by omega)]; simp
    have h3 := ih (pre ++ [p]) f tail (by simp [hf])
    simp only [List.length_append, List.length_cons, List.length_nil, Nat.cast_add, Nat.cast_one, zero_add] at h3
    simp only [List.length_cons, pyForAux, checkInner, liftE_bind, hbody _ p f h1 h2, h3]

@[simp] theorem ok_bind {ε α β : Type} (a : α) (f : α → Except ε β) : (Except.ok a >>= f) = f a := rfl
@[simp] theorem error_bind {ε α β : Type} (e : ε) (f : α → Except ε β) :
    ((Except.error e : Except ε α) >>= f) = .error e := rfl

theorem pyForRange_inner (mfAware : Bool) (rid0 : Uuid) (b : File P M) (mid : List (File P M)) (x : File P M)
    (body : Int → Except PyErr Unit)
    (hbody : ∀ (k : Nat) (p f : File P M), (b :: (mid ++ [x]))[k]? = some p → (b :: (mid ++ [x]))[k + 1]? = some f →
      body ((k : Int) + 1) = liftE (checkUB H mfAware rid0 f (some p.ub) true)) :
    pyForRange 1 (Int.ofNat (b :: (mid ++ [x])).length - 1) body = liftE (checkInner H mfAware rid0 b mid) := by
  have hn : (Int.ofNat (b :: (mid ++ [x])).length - 1 - 1).toNat = mid.length := by
    simp
  have := pyForAux_inner H mfAware rid0 (b :: (mid ++ [x])) body hbody mid [] b [x] rfl
  simp only [List.length_nil, Nat.cast_zero, zero_add] at this
  rw [pyForRange, hn, this]

theorem pyIdx_lastOf (b : File P M) (rest : List (File P M)) : pyIdx (b :: rest) (-1) = .ok (lastOf b rest) := by
  conv_lhs => rw [← dropLast_append_lastOf b rest]
  exact pyIdx_neg_one _ _

theorem pyIdx_last2 (b : File P M) (mid : List (File P M)) (x : File P M) :
    pyIdx (b :: (mid ++ [x])) (-2) = .ok (lastOf b mid) := by
  have h : b :: (mid ++ [x]) = (b :: mid).dropLast ++ [lastOf b mid, x] := by
    conv_lhs => rw [← List.cons_append, ← dropLast_append_lastOf b mid]
    simp
  rw [h]; exact pyIdx_neg_two _ _ _

theorem pySetIdx_last (b : File P M) (mid : List (File P M)) (x : File P M) :
    pySetIdx (b :: (mid ++ [x])) (-1) x = .ok (b :: (mid ++ [x])) := by
  rw [← List.cons_append]; exact pySetIdx_neg_one _ _ _

@[simp] theorem map_ok' {ε α β : Type} (f : α → β) (a : α) : Except.map f (Except.ok a : Except ε α) = .ok (f a) := rfl
@[simp] theorem throw_bind {α β : Type} (e : PyErr) (f : α → Except PyErr β) :
    ((throw e : Except PyErr α) >>= f) = .error e := rfl

/-- the checks of `IH5Record._open` on the sorted list (everything but the manifest) -/
def checkSortedCore (mfAware allowBaseless : Bool) (b : File P M) (rest : List (File P M)) : Except Err Unit :=
  if !allowBaseless && b.ub.prev.isSome then .error .basePrev
  else do
    checkUB H mfAware b.ub.rid b none (!rest.isEmpty)
    checkRest H mfAware b.ub.rid b rest
    if !pidsDistinct (b :: rest) then .error .dupPid else pure ()

/-- `IH5Record._open` of the model, for either class, without the manifest check -/
def openCore (mfAware ab : Bool) (fs : List (Option (File P M))) : Except Err (List (File P M)) :=
  if fs.isEmpty then .error .empty
  else match fs.mapM id with
    | none => .error .load
    | some l =>
      if l.any (fun f => !f.h5ok) then .error .h5open
      else match sortByIdx l with
        | [] => .error .empty
        | b :: rest => (checkSortedCore H mfAware ab b rest).map (fun _ => b :: rest)

theorem liftE_map_const {α : Type} (y : Except Err Unit) (l : α) :
    liftE (y.map fun _ => l) = (do liftE y; pure l) := by
  cases y <;> rfl

theorem gen_open_core (cls : Cls) (paths : List (Option (File P M))) (ab ro : Bool) :
    IH5Record._open H HM cls paths ab ro = liftE (openCore H (mfAwareOf cls) ab paths) := by
  unfold IH5Record._open openCore
  simp only [gen_ublock_file, pySortBy_idx]
  by_cases he : paths.isEmpty
  · simp [he, throw, throwThe, MonadExceptOf.throw, bind, Except.bind]
  · simp only [he]
    obtain ⟨-, hl⟩ | ⟨l, rfl, hl⟩ := mapM_id_cases paths
    · simp [pyLoadAll, hl, bind, Except.bind]
    · have hne : l ≠ [] := by rintro rfl; exact he rfl
      by_cases h5 : l.any (fun f => !f.h5ok)
      · simp [pyLoadAll, pyOpenAll, hl, h5, bind, Except.bind]
      · obtain ⟨b, rest, hs⟩ : ∃ b rest, sortByIdx l = b :: rest := by
          cases hs : sortByIdx l with
          | nil =>
            have := sortByIdx_perm l; rw [hs] at this
            exact absurd this.nil_eq.symm hne
          | cons b rest => exact ⟨b, rest, rfl⟩
        simp only [pyLoadAll, hl, pyOpenAll, h5, ok_bind, Bool.not_false, Bool.not_true, Bool.false_eq_true, ↓reduceIte, bne]
        simp only [hs, gen_ublock_int, pyIdx_zero_cons, map_ok', ok_bind, throw_bind, gen_dispatch_check_ublock]
        rcases List.eq_nil_or_concat rest with hr | ⟨mid, x, hr⟩
        · subst hr
          simp only [checkSortedCore, checkRest]
          have e1 : decide (Int.ofNat [b].length > 1) = false := rfl
          have e2 : ∀ body, pyForRange 1 (Int.ofNat [b].length - 1) body = .ok () := fun _ => rfl
          have e3 : pyIdx [b] (-1) = .ok b := pyIdx_neg_one [] b
          have e4 : pySetIdx [b] (-1) b = .ok [b] := pySetIdx_neg_one [] b b
          simp only [e1, e2, e3, e4, map_ok', ok_bind, pySet_pids, ite_self, Bool.false_eq_true, if_false,
            List.isEmpty_nil, Bool.not_true, liftE_map_const]
          cases ab <;> cases b.ub.prev.isSome <;>
            simp only [Bool.not_false, Bool.not_true, Bool.true_and, Bool.false_and, if_true, if_false,
              Bool.false_eq_true, ok_bind, pure, Except.pure, liftE_bind, error_bind, liftE_error, bind_assoc]
          all_goals cases pidsDistinct [b] <;> rfl
        · subst hr
          simp only [List.concat_eq_append] at hs ⊢
          have hgt : decide (Int.ofNat (b :: (mid ++ [x])).length > 1) = true := by simp
          rw [pyForRange_inner H (mfAwareOf cls) b.ub.rid b mid x]
          · simp only [hgt, pyIdx_lastOf, lastOf_append, pyIdx_last2, pySetIdx_last, map_ok', ok_bind, gen_dispatch_check_ublock]
            have hne' : (!(mid ++ [x]).isEmpty) = true := by simp
            simp only [pySet_pids, checkSortedCore, checkRest_concat, hne']
            -- the branches of `reopen_incomplete_patch` all go on in the same way
            simp only [ite_self, if_true, liftE_map_const]
            cases ab <;> cases b.ub.prev.isSome <;>
              simp only [Bool.not_false, Bool.not_true, Bool.true_and, Bool.false_and, if_true, if_false,
                Bool.false_eq_true, ok_bind, pure, Except.pure, liftE_bind, error_bind, liftE_error, bind_assoc]
            all_goals cases pidsDistinct (b :: (mid ++ [x])) <;> rfl
          · intro k p f h1 h2
            have e1 : ((k : Int) + 1) = ((k + 1 : Nat) : Int) := by push_cast; rfl
            have e2 : ((k : Int) + 1 - 1) = (k : Int) := by omega
            simp only [e2]
            rw [e1]
            simp only [pyIdx_nat _ _ _ h1, pyIdx_nat _ _ _ h2, map_ok', ok_bind, gen_dispatch_check_ublock]

/-- the manifest part of `IH5MFRecord._open` of the model, on the sorted list -/
def mfCheck (s : List (File P M)) : Except Err (List (File P M)) :=
  match s with
  | [] => .ok []
  | b :: rest => (checkManifest HM (lastOf b rest)).map (fun _ => s)

theorem checkSorted_eq (mfAware ab : Bool) (b : File P M) (rest : List (File P M)) :
    checkSorted H HM mfAware ab b rest =
      (checkSortedCore H mfAware ab b rest >>= fun _ =>
        if mfAware then checkManifest HM (lastOf b rest) else pure ()) := by
  unfold checkSorted checkSortedCore
  by_cases hc : (!ab && b.ub.prev.isSome) = true
  · simp only [hc, if_true]; rfl
  · simp only [hc]
    cases checkUB H mfAware b.ub.rid b none (!rest.isEmpty) <;>
    cases checkRest H mfAware b.ub.rid b rest <;>
    cases pidsDistinct (b :: rest) <;> cases mfAware <;> rfl

/-- the model's `openFiles` is `IH5Record._open` followed, for the manifest-aware class, by the manifest check -/
theorem openFiles_core (mfAware ab : Bool) (fs : List (Option (File P M))) :
    openFiles H HM mfAware ab fs =
      (openCore H mfAware ab fs >>= fun s => if mfAware then mfCheck HM s else pure s) := by
  unfold openFiles openCore validate
  by_cases he : fs.isEmpty
  · simp [he, throw, throwThe, MonadExceptOf.throw]
  · simp only [he]
    obtain ⟨-, hl⟩ | ⟨l, rfl, hl⟩ := mapM_id_cases fs
    · rw [hl]; rfl
    · have hne : l ≠ [] := by rintro rfl; exact he rfl
      simp only [hl, List.isEmpty_iff, hne, if_false]
      by_cases h5 : l.any (fun f => !f.h5ok)
      · simp only [h5, if_true]; rfl
      · simp only [h5]
        cases hs : sortByIdx l with
        | nil => rfl
        | cons b rest =>
          simp only [Bool.false_eq_true, if_false, checkSorted_eq]
          cases checkSortedCore H mfAware ab b rest <;> cases mfAware <;> rfl

theorem openCore_ok_cons {mfAware ab : Bool} {fs : List (Option (File P M))} {s : List (File P M)}
    (h : openCore H mfAware ab fs = .ok s) : ∃ b rest, s = b :: rest := by
  unfold openCore at h
  split at h
  · cases h
  · split at h
    · cases h
    · split at h
      · cases h
      · split at h
        · cases h
        · rename_i b rest _
          cases hc : checkSortedCore H mfAware ab b rest with
          | error e => simp [hc, Except.map] at h
          | ok u => simp [hc, Except.map] at h; exact ⟨b, rest, h.symm⟩

/-- **`IH5Record._open` is the model's `openFiles` (class `IH5Record`).** -/
theorem gen_IH5Record_open (paths : List (Option (File P M))) (ab ro : Bool) :
    IH5Record._open H HM .IH5Record paths ab ro = liftE (openFiles H HM false ab paths) := by
  rw [gen_open_core, openFiles_core]
  show liftE (openCore H false ab paths) = _
  cases openCore H false ab paths <;> rfl

/-- **`IH5MFRecord._open` (manifest path inferred) is the model's `openFiles` (class `IH5MFRecord`).** -/
theorem gen_IH5MFRecord_open (paths : List (Option (File P M))) (ab ro : Bool) :
    IH5MFRecord._open H HM .IH5MFRecord paths none ab ro = liftE (openFiles H HM true ab paths) := by
  unfold IH5MFRecord._open
  rw [gen_open_core, openFiles_core, liftE_bind]
  cases ho : openCore H (mfAwareOf .IH5MFRecord) ab paths with
  | error e => 
    have : openCore H true ab paths = .error e := ho
    simp [this]
  | ok s =>
    have ho' : openCore H true ab paths = .ok s := ho
    obtain ⟨b, rest, rfl⟩ := openCore_ok_cons H ho
    simp only [ho', liftE_ok, ok_bind, gen_ublock_int, pyIdx_lastOf, map_ok', Option.isNone_none, if_true]
    simp only [mfCheck, checkManifest]
    cases he : (lastOf b rest).ub.ext with
    | some e =>
      cases hm : (lastOf b rest).mf with
      | none => (simp [pyNotNone, Except.map]; rfl)
      | some m =>
        by_cases hh : e.mhash = HM m <;> simp [pyNotNone, pyHashsumMf, Except.map, hh] <;> rfl
    | none =>
      rcases List.eq_nil_or_concat rest with rfl | ⟨mid, x, rfl⟩
      · simp [Except.map]; rfl
      · simp only [List.concat_eq_append, pyIdx_last2, map_ok', ok_bind]
        cases (lastOf b mid).ub.ext <;> cases (lastOf b mid).mf <;>
          cases (lastOf b (mid ++ [x])).ub.hash <;> simp [pyNotNone, pyHashsumMf, Except.map] <;> rfl

/-- **Transfer of `validate_ok_iff` to the source (class `IH5Record`)**: the translated `_open` returns `s`
for a set of loadable files iff `s` is an arrangement of them that is a coherent file set. -/
theorem gen_open_ok_iff_coherent (fs s : List (File P M)) (ab ro : Bool) :
    IH5Record._open H HM .IH5Record (fs.map some) ab ro = .ok s ↔ s.Perm fs ∧ Coherent H HM false ab s := by
  rw [gen_IH5Record_open, openFiles_map_some, ← Chain.validate_ok_iff]
  cases validate H HM false ab fs <;> simp [liftE, Except.mapError]

/-- the same for `IH5MFRecord` (manifest of the newest container included) -/
theorem gen_mf_open_ok_iff_coherent (fs s : List (File P M)) (ab ro : Bool) :
    IH5MFRecord._open H HM .IH5MFRecord (fs.map some) none ab ro = .ok s ↔ s.Perm fs ∧ Coherent H HM true ab s := by
  rw [gen_IH5MFRecord_open, openFiles_map_some, ← Chain.validate_ok_iff]
  cases validate H HM true ab fs <;> simp [liftE, Except.mapError]

/-- defaults of the keyword parameters: `IH5Record(files, "r")` checks with `allow_baseless = False`; no
manifest path is passed unless the caller gives one -/
theorem gen_open_defaults :
    IH5Record._open.default_allow_baseless = false ∧ IH5Record._open.default_reopen_incomplete_patch = false ∧
    IH5MFRecord._open.default_allow_baseless = false ∧ (IH5MFRecord._open.default_manifest_file (M := M)) = none :=
  ⟨rfl, rfl, rfl, rfl⟩

end MetadorModel.Bridge.ChainCheck
