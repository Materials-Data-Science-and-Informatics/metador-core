import MetadorModel.Bridge.PatchStepsDict
import MetadorModel.Proofs.RecordInv
/-!
# The patch life cycle as sequences of file-system steps (C11 translation tie; hand-written side)

`createPatchW`, `commitPlainW`, `commitMFW`, `discardW`, `closeW`: what `create_patch`, `commit_patch` (both
classes), `discard_patch` and `close` do to the Python record object, to the disk **and in which order the
file system is touched** (`World.trace`), in closed form over a state `s` of the record model. This is the
step list of `Model/Crash.lean` (header: steps 1–8) written out as data.

* `Bridge/PatchSteps*.lean` prove that the functions regenerated from the source (`Gen/PatchSteps.lean`)
  are equal to these closed forms — that is the tie to the source.
* This file proves, once and without reference to anything generated, that the closed forms are the record
  model (`resOf s (createPatchW s) = createPatch s`, … — including the sets of files created / removed /
  rewritten), for states a Python object can stand for (`PyRep`) whose writable container exists (`OnDisk`).
* `Bridge/PatchStepsCrash.lean` proves that every crash state of the step sequences is a `Crash.Reach` state.
-/
namespace MetadorModel.Bridge.PatchSteps
open MetadorModel.FindFiles MetadorModel.Record MetadorModel.RecordPy MetadorModel.PatchPy

/-- a handle of the model that a Python record object can stand for: `_ublocks` is a dict keyed by file
name, and "the last file is open `r+`" presupposes a last file -/
def PyRep (h : Handle) : Prop := (fileNames h).Nodup ∧ (h.lastRW = true → h.files ≠ [])

/-- the writable container of the handle (if any) is a container on disk — nobody removed it behind the
back of the process (`Inv.writable` of C02 implies this) -/
def OnDisk (s : State) : Prop :=
  hasWritable s.h = true → ∀ f ub, lastFile s.h.files = some (f, ub) → ∃ p, payloadOf s.disk f = some p

theorem onDisk_of_inv {s : State} (hi : Inv s) : OnDisk s := by
  intro hw f ub hl
  obtain ⟨f', ub', hl', u, p, hg, _⟩ := hi.writable hw
  rw [hl] at hl'; cases hl'
  exact ⟨p, by simp [payloadOf, hg]⟩

theorem ofState_files (s : State) : (World.ofState s).self.files = mkHandles s.h.files s.h.lastRW := rfl

theorem state_ofState (s : State) (hp : PyRep s.h) : (World.ofState s).state = s := by
  cases s with
  | mk d h n =>
    simp only [World.state, World.ofState]
    rw [handle_ofHandle h hp.1 hp.2]

theorem resOf_refused_next (s : State) (e : Out) (n : Nat) (hp : PyRep s.h) :
    resOf s ((.error e : Except Out Unit), { World.ofState s with next := n }) = fail { s with next := n } e := by
  simp only [resOf, fail, World.state, World.ofState, handle_ofHandle s.h hp.1 hp.2]
  simp [createdOf, removedOf, writtenOf, touchedOf, uniq]

theorem resOf_refused (s : State) (e : Out) (hp : PyRep s.h) :
    resOf s ((.error e : Except Out Unit), World.ofState s) = fail s e :=
  resOf_refused_next s e s.next hp

/-- `_new_container` -/
def createTrace (path : Name) (ub : UB) : List (Act Name UB) :=
  [.create path 1024, .h5close path true, .writeUB path ub, .reopen path true]

/-- `IH5Record.commit_patch` -/
def commitTrace (f : Name) (ub : UB) : List (Act Name UB) :=
  [.h5close f true, .hashPayload f 1024, .writeUB f ub, .reopen f false]

def setLastH (l : List H5) (x : H5) : List H5 := l.dropLast ++ [x]

/-- `create_patch` -/
def createPatchW (s : State) : Except Out Unit × World :=
  let w := World.ofState s
  if s.h.closed then (.error .valueError, w)
  else if !s.h.allow then (.error .valueError, w)
  else if hasWritable s.h then (.error .valueError, w)
  else
    match s.h.files, lastFile s.h.files with
    | (f0, _) :: _, some (_, ul) =>
      let path := patchFile (inferName f0) (ul.idx + 1)
      let ub := newPatchUB ul s.next
      if (fileNames s.h).contains path then (.error .osError, { w with next := s.next + 1 })
      else if (getF s.disk path).isSome then (.error .fileExists, { w with next := s.next + 1 })
      else
        (.ok (), { disk := setF s.disk path (.cont ub []), next := s.next + 1,
                   self := { w.self with files := w.self.files ++ [⟨path, true, true⟩],
                                         ublocks := pyDictSet w.self.ublocks path ub },
                   trace := createTrace path ub })
    | _, _ => (.error .indexError, w)

/-- `IH5Record.commit_patch(**kw)` -/
def commitPlainW (s : State) (kw : Kw) : Except Out Unit × World :=
  let w := World.ofState s
  if !kw.isEmpty then (.error .valueError, w)
  else if s.h.closed then (.error .valueError, w)
  else if !s.h.allow then (.error .valueError, w)
  else if !hasWritable s.h then (.error .valueError, w)
  else
    match lastFile s.h.files with
    | none => (.error .indexError, w)
    | some (f, ub) =>
      match payloadOf s.disk f with
      | none =>
        (.error .fileNotFound,
          { w with self := { w.self with files := setLastH w.self.files ⟨f, true, false⟩ },
                   trace := [.h5close f true] })
      | some p =>
        let ub' : UB := { ub with hash := some p }
        (.ok (), { disk := setF s.disk f (.cont ub' p), next := s.next,
                   self := { w.self with files := setLastH w.self.files ⟨f, false, true⟩,
                                         ublocks := pyDictSet w.self.ublocks f ub' },
                   trace := commitTrace f ub' })

def KW_STUB : Str := ['_', '_', 'i', 's', '_', 's', 't', 'u', 'b', '_', '_']
def KW_EXTS : Str := ['m', 'a', 'n', 'i', 'f', 'e', 's', 't', '_', 'e', 'x', 't', 's']

/-- the keywords `IH5MFRecord.commit_patch` hands on to the base class -/
def restKw (kw : Kw) : Kw := (pyKwPop (pyKwPop kw KW_STUB (some ())).2 KW_EXTS none).2

/-- `IH5MFRecord.commit_patch(**kw)`: step 8 (the sidecar) comes after steps 4–7 -/
def commitMFW (s : State) (kw : Kw) : Except Out Unit × World :=
  let w := World.ofState s
  match lastFile s.h.files with
  | none => (.error .indexError, w)
  | some (f, ub) =>
    match commitPlainW (mfPrep s { ub with ext := some (s.next, s.next + 1) }) (restKw kw) with
    | (.ok _, w1) =>
      (.ok (), { w1 with disk := setF w1.disk (manifestFile f) (.mf s.next (s.next + 1)),
                         self := { w1.self with manifest := some (s.next, s.next + 1) },
                         trace := w1.trace ++ [.writeManifest (manifestFile f) s.next (s.next + 1)] })
    | (.error .valueError, _) => (.error .valueError, { w with next := s.next + 2 })
    | (.error e, w1) => (.error e, w1)

/-- `self.commit_patch(**kw)`: the method of the class of the object -/
def commitPatchW (s : State) (kw : Kw) : Except Out Unit × World :=
  if s.h.mfcls then commitMFW s kw else commitPlainW s kw

/-- `discard_patch` -/
def discardW (s : State) : Except Out Unit × World :=
  let w := World.ofState s
  if s.h.closed then (.error .valueError, w)
  else if !s.h.allow then (.error .valueError, w)
  else if !hasWritable s.h then (.error .valueError, w)
  else if s.h.files.length == 1 then (.error .valueError, w)
  else
    match lastFile s.h.files with
    | none => (.error .indexError, w)
    | some (f, _) =>
      let o : Obj := { w.self with files := w.self.files.dropLast, ublocks := dropLastF w.self.ublocks }
      match getF s.disk f with
      | none => (.error .fileNotFound, { w with self := o, trace := [.h5close f true] })
      | some _ => (.ok (), { w with disk := eraseF s.disk f, self := o, trace := [.h5close f true, .unlink f] })

/-- the `close()` calls of the loop `for f in self.__files__: f.close()` -/
def closeActs (l : List H5) : List (Act Name UB) := (l.filter (·.live)).map (fun h => .h5close h.name h.rw)

/-- `close(commit)` -/
def closeW (s : State) (commit : Bool) : Except Out Unit × World :=
  let w := World.ofState s
  if s.h.closed then (.ok (), w)
  else
    match (if hasWritable s.h && commit then commitPatchW s [] else (.ok (), w)) with
    | (.error e, w1) => (.error e, w1)
    | (.ok _, w1) =>
      (.ok (), { w1 with self := { w1.self with files := [], closed := true },
                         trace := w1.trace ++ closeActs w1.self.files })

/-- `commitPlainW`: refused before anything happened, or run on the newest container -/
theorem commitPlainW_cases (s : State) (kw : Kw) :
    (∃ e, e ≠ .ok ∧ commitPlainW s kw = (.error e, World.ofState s)) ∨
    ∃ f ub, lastFile s.h.files = some (f, ub) ∧ commitPlainW s kw =
      match payloadOf s.disk f with
      | none =>
        (.error .fileNotFound,
          { World.ofState s with
            self := { (World.ofState s).self with files := setLastH (World.ofState s).self.files ⟨f, true, false⟩ },
            trace := [.h5close f true] })
      | some p =>
        (.ok (), { disk := setF s.disk f (.cont { ub with hash := some p } p), next := s.next,
                   self := { (World.ofState s).self with
                             files := setLastH (World.ofState s).self.files ⟨f, false, true⟩,
                             ublocks := pyDictSet (World.ofState s).self.ublocks f { ub with hash := some p } },
                   trace := commitTrace f { ub with hash := some p } }) := by
  unfold commitPlainW
  by_cases h1 : (!kw.isEmpty) = true
  · exact Or.inl ⟨_, by decide, if_pos h1⟩
  by_cases h2 : s.h.closed = true
  · exact Or.inl ⟨_, by decide, (if_neg h1).trans (if_pos h2)⟩
  by_cases h3 : (!s.h.allow) = true
  · exact Or.inl ⟨_, by decide, (if_neg h1).trans ((if_neg h2).trans (if_pos h3))⟩
  by_cases h4 : (!hasWritable s.h) = true
  · exact Or.inl ⟨_, by decide, (if_neg h1).trans ((if_neg h2).trans ((if_neg h3).trans (if_pos h4)))⟩
  rw [if_neg h1, if_neg h2, if_neg h3, if_neg h4]
  cases lastFile s.h.files with
  | none => exact Or.inl ⟨_, by decide, rfl⟩
  | some x => exact Or.inr ⟨x.1, x.2, rfl, rfl⟩

/-- a `ValueError` of the base-class commit comes before anything is done -/
theorem commitPlainW_ve (s : State) (kw : Kw) (w1 : World) (h : commitPlainW s kw = (.error .valueError, w1)) :
    w1 = World.ofState s := by
  rcases commitPlainW_cases s kw with ⟨e', -, h'⟩ | ⟨f, ub, -, h'⟩
  · cases h.symm.trans h'; rfl
  · rw [h'] at h
    generalize payloadOf s.disk f = o at h
    cases o <;> cases h

/-- after a commit that went through, the newest handle has been re-made read-only -/
theorem commitPlainW_ok_last (s : State) (kw : Kw) (w1 : World) (f : Name) (ub : UB)
    (h : commitPlainW s kw = (.ok (), w1)) (hl : lastFile s.h.files = some (f, ub)) :
    w1.self.files = setLastH (mkHandles s.h.files s.h.lastRW) ⟨f, false, true⟩ := by
  rcases commitPlainW_cases s kw with ⟨e', -, h'⟩ | ⟨f', ub', hl', h'⟩
  · cases h.symm.trans h'
  · cases hl.symm.trans hl'
    rw [h'] at h
    generalize payloadOf s.disk f = o at h
    cases o <;> cases h
    rfl

/-- what `close` needs to know of a commit that has run: it raised, or it left only read-only handles -/
def Settled (x : Except Out Unit × World) : Prop :=
  match x.1 with
  | .error e => e ≠ .ok
  | .ok _ => ∀ h ∈ x.2.self.files, h.rw = false

/-! ## the closed forms are the record model -/

/-- **`create_patch`**: the step sequence is the model's `createPatch`, including the sets of files
created / removed / rewritten -/
theorem createPatchW_res (s : State) (hp : PyRep s.h) : resOf s (createPatchW s) = createPatch s := by
  unfold createPatchW createPatch
  refine guards_congr (resOf s) (resOf_refused s _ hp) fun hc ha hw => ?_
  simp only [Bool.not_eq_false'] at ha
  cases hfs : s.h.files with
  | nil => simp [resOf_refused s _ hp]
  | cons a rest =>
    obtain ⟨f0, u0⟩ := a
    cases hl : lastFile ((f0, u0) :: rest) with
    | none => simp [resOf_refused s _ hp]
    | some y =>
      obtain ⟨fl, ul⟩ := y
      simp only [newContainer, fileNames, hfs]
      rcases Bool.eq_false_or_eq_true (((f0, u0) :: rest).map Prod.fst |>.contains (patchFile (inferName f0) (ul.idx + 1)))
        with hopen | hopen
      · simp only [hopen, if_true]
        exact resOf_refused_next s _ _ hp
      · rcases Bool.eq_false_or_eq_true (getF s.disk (patchFile (inferName f0) (ul.idx + 1))).isSome with hex | hex
        · simp only [hopen, hex, Bool.false_eq_true, if_false, if_true]
          exact resOf_refused_next s _ _ hp
        · simp only [hopen, hex, Bool.false_eq_true, if_false]
          have hnew : patchFile (inferName f0) (ul.idx + 1) ∉ fileNames s.h := by
            rw [fileNames, hfs, ← List.contains_iff_mem, hopen]
            exact Bool.false_ne_true
          simp only [resOf, World.state, World.ofState, Obj.ofHandle, (dict_snoc s.h.files _ ul (newPatchUB ul s.next) hnew).2.2.2]
          rw [handle_of_dict]
          · simp [hc, ha, hfs, lastIsRW, createTrace, createdOf, removedOf, writtenOf, touchedOf, uniq, hex]
          · exact (nodup_snoc_iff _ _ _).mpr ⟨hp.1, hnew⟩
          · simp [mkHandles_names]

theorem setLastH_snoc (l : List H5) (x y : H5) : setLastH (l ++ [x]) y = l ++ [y] := by
  simp [setLastH]

/-- **`IH5Record.commit_patch()`**: the step sequence is the model's `commitPlain` -/
theorem commitPlainW_res (s : State) (hp : PyRep s.h) (hd : OnDisk s) :
    resOf s (commitPlainW s []) = commitPlain s := by
  unfold commitPlainW commitPlain
  simp only [List.isEmpty_nil, Bool.not_true, Bool.false_eq_true, if_false]
  refine guards_congr (resOf s) (resOf_refused s _ hp) fun hc ha hw => ?_
  simp only [Bool.not_eq_false'] at ha hw
  obtain ⟨init, f, ub, hsn, hl, -⟩ := hasWritable_snoc hw
  obtain ⟨hni, hnf⟩ := snoc_fresh hp.1 hsn
  obtain ⟨p, hpay⟩ := hd hw f ub hl
  obtain ⟨ub0, hg⟩ := getF_of_payloadOf hpay
  simp only [hl, hpay]
  simp only [resOf, World.state, World.ofState, Obj.ofHandle, hsn, mkHandles_snoc, setLastH_snoc,
    (dict_snoc init f ub { ub with hash := some p } hnf).2.1]
  rw [handle_of_dict]
  · simp [hc, ha, setLastUB_append_single, lastIsRW, commitTrace, createdOf, removedOf, writtenOf, touchedOf, uniq, hg,
      getF_setF_eq]
  · exact (nodup_snoc_iff _ _ _).mpr ⟨hni, hnf⟩
  · simp [ro, Function.comp_def]

/-- any keyword is refused by the base class before it looks at anything -/
theorem commitPlainW_kw (s : State) (hp : PyRep s.h) (kw : Kw) (hk : kw ≠ []) :
    resOf s (commitPlainW s kw) = fail s .valueError := by
  unfold commitPlainW
  cases kw with
  | nil => exact absurd rfl hk
  | cons a r => simp [resOf_refused s _ hp]

theorem pyRep_mfPrep (s : State) (u : UB) (hp : PyRep s.h) : PyRep (mfPrep s u).h := by
  constructor
  · simp only [mfPrep, fileNames, map_fst_setLastUB]; exact hp.1
  · intro hr hnil
    apply hp.2 hr
    have := setLastUB_isEmpty s.h.files u
    simp only [mfPrep] at hnil
    rw [hnil] at this
    simpa using this.symm

/-- **`IH5MFRecord.commit_patch(**kw)`** with no keyword the base class would refuse: the step sequence is the
model's `commitMF` — in particular the sidecar is written after the container is complete -/
theorem commitMFW_res (s : State) (hp : PyRep s.h) (hd : OnDisk s) (kw : Kw) (hk : restKw kw = []) :
    resOf s (commitMFW s kw) = commitMF s := by
  unfold commitMFW commitMF
  simp only [hk]
  rcases nil_or_append s.h.files with hnil | ⟨init, ⟨f, ub⟩, hsn⟩
  · simp [hnil, lastFile, resOf_refused s _ hp]
  · have hl : lastFile s.h.files = some (f, ub) := by rw [hsn]; exact lastFile_append_single _ _
    simp only [hl]
    generalize hubT : ({ ub with ext := some (s.next, s.next + 1) } : UB) = ubT
    have hp1 := pyRep_mfPrep s ubT hp
    have hsn1 : (mfPrep s ubT).h.files = init ++ [(f, ubT)] := by
      simp only [mfPrep, hsn, setLastUB_append_single]
    have hl1 : lastFile (mfPrep s ubT).h.files = some (f, ubT) := by rw [hsn1]; exact lastFile_append_single _ _
    have hw1 : hasWritable (mfPrep s ubT).h = hasWritable s.h := hasWritable_setLastUB s.h ubT
    unfold commitPlainW commitPlain
    simp only [List.isEmpty_nil, Bool.not_true, Bool.false_eq_true, if_false]
    have hc1 : (mfPrep s ubT).h.closed = s.h.closed := rfl
    have ha1 : (mfPrep s ubT).h.allow = s.h.allow := rfl
    have hd1 : (mfPrep s ubT).disk = s.disk := rfl
    rw [hc1, ha1, hw1]
    cases hc : s.h.closed
    case true => simp [fail, resOf_refused_next s _ _ hp]
    case false =>
      cases ha : s.h.allow
      case false => simp [fail, resOf_refused_next s _ _ hp]
      case true =>
        cases hw : hasWritable s.h
        case false => simp [fail, resOf_refused_next s _ _ hp]
        case true =>
          simp only [Bool.false_eq_true, if_false, Bool.not_true]
          obtain ⟨p, hpay⟩ := hd hw f ub hl
          obtain ⟨ub0, hg⟩ := getF_of_payloadOf hpay
          obtain ⟨hni, hnf⟩ := snoc_fresh hp.1 hsn
          simp only [hl1, hd1, hpay]
          simp only [resOf, World.state, World.ofState, Obj.ofHandle, hsn1, mkHandles_snoc, setLastH_snoc,
            (dict_snoc init f ubT { ubT with hash := some p } hnf).2.1]
          rw [handle_of_dict]
          · have hne : manifestFile f ≠ f := manifestFile_ne f
            have hne' : f ≠ manifestFile f := fun e => hne e.symm
            rcases Bool.eq_false_or_eq_true (getF s.disk (manifestFile f)).isSome with hex | hex <;>
              simp [mfPrep, hc, ha, setLastUB_append_single, lastIsRW, commitTrace, createdOf, removedOf, writtenOf, touchedOf,
                uniq, hg, hex, getF_setF_eq, getF_setF_ne _ _ _ _ hne, getF_setF_ne _ _ _ _ hne', hne]
          · exact (nodup_snoc_iff _ _ _).mpr ⟨hni, hnf⟩
          · simp [ro, Function.comp_def]

/-- a keyword the base class does not know: `ValueError`, the in-memory user block is restored, nothing was
written (two uuids were drawn) -/
theorem commitMFW_kw (s : State) (hp : PyRep s.h) (kw : Kw) (hk : restKw kw ≠ []) (f : Name) (ub : UB)
    (hl : lastFile s.h.files = some (f, ub)) :
    resOf s (commitMFW s kw) = fail { s with next := s.next + 2 } .valueError := by
  unfold commitMFW commitPlainW
  simp only [hl]
  cases hr : restKw kw with
  | nil => exact absurd hr hk
  | cons a r => simp [resOf_refused_next s _ _ hp]

theorem commitPatchW_res (s : State) (hp : PyRep s.h) (hd : OnDisk s) :
    resOf s (commitPatchW s []) = commitPatch s := by
  unfold commitPatchW commitPatch
  cases s.h.mfcls
  · simp only [Bool.false_eq_true, if_false]; exact commitPlainW_res s hp hd
  · simp only [if_true]; exact commitMFW_res s hp hd [] (by simp [restKw, pyKwPop])

/-- **`discard_patch`**: the step sequence is the model's `discardPatch` -/
theorem discardW_res (s : State) (hp : PyRep s.h) (hd : OnDisk s) : resOf s (discardW s) = discardPatch s := by
  unfold discardW discardPatch
  refine guards_congr (resOf s) (resOf_refused s _ hp) fun hc ha hw => ?_
  simp only [Bool.not_eq_false'] at ha hw
  cases hlen : (s.h.files.length == 1)
  case true => simp [resOf_refused s _ hp]
  case false =>
    simp only [Bool.false_eq_true, if_false]
    obtain ⟨init, f, ub, hsn, hl, -⟩ := hasWritable_snoc hw
    obtain ⟨p, hpay⟩ := hd hw f ub hl
    obtain ⟨ub0, hg⟩ := getF_of_payloadOf hpay
    simp only [hl, hg]
    simp only [resOf, World.state, World.ofState, Obj.ofHandle, hsn, mkHandles_snoc, List.dropLast_concat,
      dropLastF_append_single]
    rw [handle_of_dict]
    · have hro : lastIsRW (init.map ro) = false := by
        rcases nil_or_append init with rfl | ⟨i2, y, rfl⟩ <;> simp [lastIsRW, ro]
      simp [hc, ha, hro, createdOf, removedOf, writtenOf, touchedOf, uniq, hg, getF_eraseF_eq]
    · exact (snoc_fresh hp.1 hsn).1
    · simp [ro, Function.comp_def]

/-- the three effect summaries read a trace action by action -/
theorem effects_append (d0 : Disk) (a b : List (Act Name UB)) :
    createdOf d0 (a ++ b) = createdOf d0 a ++ createdOf d0 b ∧ removedOf (a ++ b) = removedOf a ++ removedOf b ∧
    touchedOf (a ++ b) = touchedOf a ++ touchedOf b := by
  induction a with
  | nil => exact ⟨rfl, rfl, rfl⟩
  | cons x r ih =>
    obtain ⟨i1, i2, i3⟩ := ih
    cases x with
    | h5close f rw | reopen f rw => cases rw <;> simp [createdOf, removedOf, touchedOf, i1, i2, i3]
    | writeManifest f u v => by_cases h : (getF d0 f).isSome <;> simp [createdOf, removedOf, touchedOf, i1, i2, i3, h]
    | _ => simp [createdOf, removedOf, touchedOf, i1, i2, i3]

/-- closing handles creates and removes nothing; it may rewrite the files that were open `r+` -/
theorem effects_closeActs (d0 : Disk) (l : List H5) :
    createdOf d0 (closeActs l) = [] ∧ removedOf (closeActs l) = [] ∧
    touchedOf (closeActs l) = (l.filter (fun h => h.live && h.rw)).map H5.name := by
  induction l with
  | nil => exact ⟨rfl, rfl, rfl⟩
  | cons x r ih =>
    obtain ⟨i1, i2, i3⟩ := ih
    unfold closeActs at i1 i2 i3 ⊢
    cases hl : x.live <;> cases hr : x.rw <;>
      simp [List.filter, hl, hr, createdOf, removedOf, touchedOf, i1, i2, i3]

/-- what `resOf` makes of the end of `close`: all handles closed, the list emptied, the object marked closed -/
theorem resOf_closeAll (s0 : State) (w1 : World) :
    resOf s0 ((.ok () : Except Out Unit),
        { w1 with self := { w1.self with files := [], closed := true }, trace := w1.trace ++ closeActs w1.self.files }) =
      { st := { disk := w1.disk, next := w1.next,
                h := { files := [], lastRW := false, allow := w1.self.allow, closed := true, mfcls := w1.self.mfcls,
                       manifest := w1.self.manifest } },
        out := .ok, created := uniq (createdOf s0.disk w1.trace), removed := removedOf w1.trace,
        written := (uniq (touchedOf w1.trace ++ (w1.self.files.filter (fun h => h.live && h.rw)).map H5.name)).filter
          (fun f => (getF s0.disk f).isSome && (getF w1.disk f).isSome) } := by
  obtain ⟨a1, a2, a3⟩ := effects_append s0.disk w1.trace (closeActs w1.self.files)
  obtain ⟨c1, c2, c3⟩ := effects_closeActs s0.disk w1.self.files
  simp [resOf, World.state, Obj.handle, lastIsRW, a1, a2, a3, c1, c2, c3, writtenOf]

theorem commitPlainW_settled (s : State) (kw : Kw) : Settled (commitPlainW s kw) := by
  rcases commitPlainW_cases s kw with ⟨e, he, h⟩ | ⟨f, ub, hl, h⟩
  · rw [h]; exact he
  · rw [h]
    cases payloadOf s.disk f with
    | none => exact (by decide : Out.fileNotFound ≠ .ok)
    | some p =>
      -- the older handles are read-only anyway, the newest has just been re-made so
      obtain ⟨init, hsn⟩ := eq_append_of_lastFile hl
      show ∀ h ∈ setLastH (mkHandles s.h.files s.h.lastRW) ⟨f, false, true⟩, h.rw = false
      rw [hsn, mkHandles_snoc, setLastH_snoc]
      intro x hx
      rcases List.mem_append.mp hx with hx | hx
      · obtain ⟨y, -, rfl⟩ := List.mem_map.mp hx
        rfl
      · rw [List.mem_singleton.mp hx]

theorem commitMFW_settled (s : State) (kw : Kw) : Settled (commitMFW s kw) := by
  unfold commitMFW
  cases lastFile s.h.files with
  | none => exact (by decide : Out.indexError ≠ .ok)
  | some x =>
    obtain ⟨f, ub⟩ := x
    have := commitPlainW_settled (mfPrep s { ub with ext := some (s.next, s.next + 1) }) (restKw kw)
    simp only
    generalize commitPlainW _ _ = y at this ⊢
    obtain ⟨r, w0⟩ := y
    cases r with
    | ok v => exact this
    | error e => cases e <;> first | exact this | exact (by decide : Out.valueError ≠ .ok)

theorem commitPatchW_settled (s : State) (kw : Kw) : Settled (commitPatchW s kw) := by
  unfold commitPatchW
  split
  · exact commitMFW_settled s kw
  · exact commitPlainW_settled s kw

/-- **`close(commit)`**: the step sequence is the model's `close` -/
theorem closeW_res (s : State) (hp : PyRep s.h) (hd : OnDisk s) (c : Bool) : resOf s (closeW s c) = close s c := by
  unfold closeW close
  simp only
  cases hc : s.h.closed
  case true =>
    simp only [if_true]
    have := state_ofState s hp
    simp only [resOf, this]
    simp [World.ofState, createdOf, removedOf, writtenOf, touchedOf, uniq]
  case false =>
    simp only [Bool.false_eq_true, if_false]
    rcases Bool.eq_false_or_eq_true (hasWritable s.h && c) with hwc | hwc
    · simp only [hwc, if_true]
      have hres := commitPatchW_res s hp hd
      generalize hx : commitPatchW s [] = x at hres
      obtain ⟨r, w1⟩ := x
      have hset := commitPatchW_settled s []
      rw [hx] at hset
      cases r with
      | error e =>
        have hne : e ≠ .ok := hset
        simp only
        rw [hres]
        have hout : (commitPatch s).out = e := by rw [← hres]; rfl
        split
        · next h => exact absurd (hout.symm.trans h) hne
        · rfl
      | ok v =>
        cases v
        have hro : ∀ h ∈ w1.self.files, h.rw = false := hset
        simp only
        have hf : w1.self.files.filter (fun h => h.live && h.rw) = [] :=
          List.filter_eq_nil_iff.mpr (fun x hx => by simp [hro x hx])
        rw [resOf_closeAll, hf, List.map_nil, List.append_nil, ← hres]
        simp [resOf, World.state, Obj.handle, writtenOf]
    · simp only [hwc, Bool.false_eq_true, if_false]
      rw [resOf_closeAll]
      rcases nil_or_append s.h.files with hnil | ⟨init, ⟨f, ub⟩, hsn⟩
      · simp [World.ofState, Obj.ofHandle, hnil, mkHandles, touchedOf, uniq, createdOf, removedOf, hasWritable, hc]
      · have hl : lastFile s.h.files = some (f, ub) := by rw [hsn]; exact lastFile_append_single _ _
        have hf : (init.map ro).filter (fun h => h.live && h.rw) = [] :=
          List.filter_eq_nil_iff.mpr (fun x hx => by obtain ⟨y, -, rfl⟩ := List.mem_map.mp hx; simp [ro])
        cases hr : s.h.lastRW
        · simp [World.ofState, Obj.ofHandle, hsn, hr, mkHandles_snoc, hf, hasWritable, touchedOf, uniq, createdOf,
            removedOf, hc]
        · obtain ⟨p, hpay⟩ := hd (by simp [hasWritable, hsn, hr]) f ub hl
          obtain ⟨ub0, hg⟩ := getF_of_payloadOf hpay
          rw [hsn] at hl
          simp [World.ofState, Obj.ofHandle, hsn, hr, hl, mkHandles_snoc, hf, hasWritable, touchedOf, uniq, createdOf,
            removedOf, hc, hg]

end MetadorModel.Bridge.PatchSteps
