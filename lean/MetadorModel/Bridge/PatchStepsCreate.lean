import MetadorModel.Bridge.PatchSteps
/-!
# Bridge for C11: `IH5UserBlock.create`, `_new_container`, `create_patch` as regenerated from the source

`gen_new_container`: create with mode `x` and 1024 reserved bytes, close, write the user block, reopen `r+` — in
this order and nothing else. `gen_create_patch`: the guards, the file name of the next patch, a fresh user
block **without checksum** linked to the newest one, `_new_container`, then the object is updated.
-/
namespace MetadorModel.Bridge.PatchSteps
open MetadorModel.FindFiles MetadorModel.Record MetadorModel.RecordPy MetadorModel.PatchPy
open MetadorModel.Gen.PatchSteps

/-- a patch block: index and `prev_patch` from the predecessor, one fresh uuid, **no checksum** -/
theorem gen_ub_create_some (p : UB) (w : World) :
    IH5UserBlock.create (some p) w = (.ok (newPatchUB p w.next), { w with next := w.next + 1 }) := by
  unfold IH5UserBlock.create
  simp [pyUuid1, newPatchUB]

theorem gen_ub_create_none (w : World) :
    IH5UserBlock.create none w = (.ok (newBaseUB w.next), { w with next := w.next + 2 }) := by
  unfold IH5UserBlock.create
  simp [pyUuid1, newBaseUB]

/-- create with mode `x` and a reserved user block of 1024 bytes, close, write the user block, reopen `r+` —
in this order, and nothing else -/
theorem gen_new_container (path : Name) (ub : UB) (w : World) :
    IH5Record._new_container path ub w =
      if w.self.files.any (fun h => h.live && h.name == path) then (.error .osError, w)
      else if (getF w.disk path).isSome then (.error .fileExists, w)
      else (.ok ⟨path, true, true⟩,
            { w with disk := setF w.disk path (.cont ub []), trace := w.trace ++ createTrace path ub }) := by
  unfold IH5Record._new_container
  by_cases h1 : w.self.files.any (fun h => h.live && h.name == path) = true
  · simp [pyH5Create, h1]
  · by_cases h2 : (getF w.disk path).isSome = true
    · simp [pyH5Create, h1, h2]
    · simp [pyH5Create, h1, h2, pyH5Close, pyUBSave, pyH5Open, getF_setF_eq, setF_setF, gen_constants, createTrace]

theorem mkHandles_head (f0 : Name) (u0 : UB) (rest : List (Name × UB)) (rw : Bool) :
    ∃ h t, mkHandles ((f0, u0) :: rest) rw = h :: t ∧ h.name = f0 := by
  cases rest with
  | nil => exact ⟨_, _, rfl, rfl⟩
  | cons y r => exact ⟨_, _, rfl, rfl⟩

/-- **`create_patch`** as regenerated from the source is the step sequence `createPatchW` -/
theorem gen_create_patch (s : State) (hp : PyRep s.h) :
    IH5Record.create_patch (World.ofState s) = createPatchW s := by
  unfold IH5Record.create_patch createPatchW
  rw [gen_guards s (fun b => b)]
  refine guards_congr (fun x => x) rfl fun hc ha hw => ?_
  simp only [run_bind]
  rcases nil_or_append s.h.files with hnil | ⟨init, ⟨fl, ul⟩, hsn⟩
  · -- no file at all: `_next_patch_filepath()` raises IndexError
    have h0 : pyIdx (World.ofState s).self.files (0 : Int) = .error .indexError := by
      rw [ofState_files, hnil]; exact pyIdx_zero_nil
    have hnp : pyNextPatchFilepath (World.ofState s) = (.error .indexError, World.ofState s) := by
      simp [pyNextPatchFilepath, h0]
    simp [hnp, hnil, lastFile]
  · have hl : lastFile s.h.files = some (fl, ul) := by rw [hsn]; exact lastFile_append_single _ _
    cases hfs : s.h.files with
    | nil => rw [hfs] at hsn; simp at hsn
    | cons a rest =>
      obtain ⟨f0, u0⟩ := a
      have hfiles : (World.ofState s).self.files = init.map ro ++ [⟨fl, s.h.lastRW, true⟩] := by
        rw [ofState_files, hsn, mkHandles_snoc]
      have hget : pyDictGet (World.ofState s).self.ublocks fl = .ok ul :=
        pyDictGet_mem _ _ _ hp.1 (lastFile_mem _ _ hl)
      -- `_next_patch_filepath()`: name of the oldest file, index of the newest
      obtain ⟨h, t, hh, hname⟩ := mkHandles_head f0 u0 rest s.h.lastRW
      have h0 : pyIdx (World.ofState s).self.files (0 : Int) = .ok h := by
        rw [ofState_files, hfs, hh, pyIdx_zero_cons]
      have h1 : pyIdx (World.ofState s).self.files (-1 : Int) = .ok ⟨fl, s.h.lastRW, true⟩ := by
        rw [hfiles, pyIdx_last_snoc]
      have hnp : pyNextPatchFilepath (World.ofState s) =
          (.ok (patchFile (inferName f0) (ul.idx + 1)), World.ofState s) := by
        simp only [pyNextPatchFilepath, h0, h1, hget, hname]
      have hub : IH5Record._ublock (.int (-1 : Int)) (World.ofState s) = (.ok ul, World.ofState s) := by
        rw [gen_ublock_last_snoc _ _ _ hfiles, hget]
      simp only [hnp, hub, gen_ub_create_some, gen_new_container, ofState_files, any_live_mkHandles, ofState_disk,
        ofState_next, ofState_trace]
      rw [hfs] at hl
      simp only [hl, fileNames]
      rcases Bool.eq_false_or_eq_true ((s.h.files.map Prod.fst).contains (patchFile (inferName f0) (ul.idx + 1)))
        with hopen | hopen
      · simp only [hopen, if_true]
      · rcases Bool.eq_false_or_eq_true (getF s.disk (patchFile (inferName f0) (ul.idx + 1))).isSome with hex | hex
        · simp only [hopen, hex, Bool.false_eq_true, if_false, if_true]
        · simp only [hopen, hex, Bool.false_eq_true, if_false]
          simp [pySetFiles, pySetUblocks, World.ofState, Obj.ofHandle, hc]

/-- **`create_patch`** as regenerated from the source is the model's `createPatch` (state, outcome, files
created / removed / rewritten) -/
theorem gen_create_patch_model (s : State) (hp : PyRep s.h) :
    resOf s (IH5Record.create_patch (World.ofState s)) = createPatch s := by
  rw [gen_create_patch s hp]; exact createPatchW_res s hp

end MetadorModel.Bridge.PatchSteps
