import MetadorModel.Gen.MergeFns
import MetadorModel.Bridge.MergeFnsTree
import MetadorModel.Bridge.MergeFnsCommit
/-!
# Bridge for C05: `IH5Record.merge_files`, `IH5MFRecord.merge_files`, `_fixes_after_merge` as regenerated
from the source
-/
namespace MetadorModel.Bridge.MergeFns
open MetadorModel.Tree MetadorModel.Overlay MetadorModel.Merge MetadorModel.MergePy MetadorModel.Single
open MetadorModel.Gen.MergeFns
variable {V : Type} {α : Type}

theorem pyIdx_neg_one (l : List α) (x : α) (h : l.getLast? = some x) : pyIdx l (-1 : Int) = .ok x := by
  obtain ⟨init, rfl⟩ : ∃ init, l = init ++ [x] := by
    rcases List.eq_nil_or_concat l with rfl | ⟨init, y, rfl⟩
    · simp at h
    · refine ⟨init, ?_⟩
      simp at h; rw [h]; simp
  exact pyIdx_last init x

theorem pyIdx_zero' (l : List α) (x : α) (h : l.head? = some x) : pyIdx l (0 : Int) = .ok x := by
  cases l with
  | nil => simp at h
  | cons a t => simp at h; subst h; exact pyIdx_zero a t

/-- is the block marked as a stub (`is_stub` inside `IH5MFRecord.merge_files`) -/
def stubFlag (u : PUB) : Bool := match u.ext with | some e => e.isStub | none => false

/-- the flags `merge_files` of the object's class looks at: the manifest class scans the user blocks of all
containers, the plain class none -/
def flagsOf (o : Obj V) : List Bool :=
  match o.cls with
  | .IH5MFRecord => o.ubs.map stubFlag
  | .IH5Record => []

def refusalErr : Refusal → PyErr
  | .stub => .valueError .containsStub
  | .writable => .valueError .commitOrDiscard

/-- the override of the manifest class: the scan of all user blocks, then the base-class method -/
theorem gen_merge_files_mf (E : Env V) (t : Nat) (w : World V) :
    IH5MFRecord.merge_files E t w =
      if (w.self.ubs.map stubFlag).any id then (.error (.valueError .containsStub), w)
      else IH5Record.merge_files E t w := by
  unfold IH5MFRecord.merge_files
  simp only [run_bind, run_pySelf]
  rw [List.map_congr_left (g := stubFlag) (by intro x _; unfold stubFlag; cases x.ext <;> rfl)]
  by_cases hs : (w.self.ubs.map stubFlag).any id = true
  · simp [pyAny, hs]
  · simp only [hs, pyAny]
    simp

/-- **refusal**: `merge_files` raises exactly when the model's guard refuses, and then nothing has changed -/
theorem gen_merge_refused (E : Env V) (t : Nat) (w : World V) (r : Refusal) (hopen : w.self.closed = false)
    (hg : mergeGuard (flagsOf w.self) w.self.writable = .error r) :
    dispatch_merge_files E t w = (.error (refusalErr r), w) := by
  unfold dispatch_merge_files
  unfold mergeGuard flagsOf at hg
  have hbase : w.self.writable = true → IH5Record.merge_files E t w = (.error (.valueError .commitOrDiscard), w) := by
    intro hw
    simp [IH5Record.merge_files, pyExpectOpen, hopen, hw]
  cases hcls : w.self.cls
  · -- plain class
    simp only [hcls] at hg
    cases hw : w.self.writable
    · simp [hw] at hg
    · simp [hw] at hg
      subst hg
      simp [hcls, hbase hw, refusalErr]
  · simp only [hcls] at hg
    simp only [run_bind, run_pySelf, hcls, gen_merge_files_mf]
    by_cases hs : (w.self.ubs.map stubFlag).any id = true
    · simp [hs] at hg
      subst hg
      simp [hs, refusalErr]
    · simp [hs] at hg
      cases hw : w.self.writable
      · simp [hw] at hg
      · simp [hw] at hg
        subst hg
        simp [hs, hbase hw, refusalErr]

/-- **a file set that contains a stub cannot be merged** through the manifest class, wherever the stub is, whether
or not there is an uncommitted container -/
theorem gen_stub_merge_refused (E : Env V) (t : Nat) (w : World V) (hcls : w.self.cls = .IH5MFRecord)
    (hopen : w.self.closed = false) (ub : PUB) (e : Ext) (hmem : ub ∈ w.self.ubs) (he : ub.ext = some e)
    (hs : e.isStub = true) :
    dispatch_merge_files E t w = (.error (.valueError .containsStub), w) := by
  have hflag : true ∈ flagsOf w.self := by
    simp only [flagsOf, hcls, List.mem_map]
    exact ⟨ub, hmem, by simp [stubFlag, he, hs]⟩
  have hany : (flagsOf w.self).any id = true := List.any_eq_true.mpr ⟨true, hflag, rfl⟩
  have hg : mergeGuard (flagsOf w.self) w.self.writable = .error .stub := by simp [mergeGuard, hany]
  simpa [refusalErr] using gen_merge_refused E t w .stub hopen hg

theorem pyGetNode_root (o : Obj V) : pyGetNode o [] = .ok [] := by
  simp [pyGetNode, look, lookFrom]

theorem pyGetNode_top (o : Obj V) (k : Key) (h : k ∈ topKeys o.conts) : pyGetNode o [k] = .ok [k] := by
  obtain ⟨kd, hv⟩ := mem_topKeys o.conts k h
  obtain ⟨c, n, hl⟩ := found_of_viewKind o.conts [k] (by rw [hv]; simp)
  simp [pyGetNode, hl]

theorem copyAttrs_fold (as : List (Key × V)) : ∀ (c : Rec V),
    pyFor as c (fun kv c => W.setAttrRaw c [] kv.1 (some kv.2)) = W.copyAttrs c [] as := by
  induction as with
  | nil => intro c; rfl
  | cons kv more ih =>
    intro c
    obtain ⟨k, v⟩ := kv
    simp only [pyFor, W.copyAttrs]
    congr 1; funext c1
    exact ih c1

theorem liftTree_bind (o : Obj V) (x : Except Tree.Err (Rec V)) (f : Rec V → Except Tree.Err (Rec V)) :
    (liftTree o x >>= fun o1 => liftTree o1 (f o1.conts)) = liftTree o (x >>= f) := by
  cases x with
  | error e => rfl
  | ok c =>
    simp only [liftTree, bind, Except.bind]

/-- the two loops of `merge_files`, run on a target object -/
theorem gen_merge_loops (src ds : Obj V) :
    (pyFor (pyAttrsItems src []) ds (fun kv o => pyNodeAttrSet o [] kv.1 kv.2) >>= fun o1 =>
      pyFor (pyKeys src []) o1 (fun name o =>
        pyGetNode src [name] >>= fun node => pyH5CopyFromTo src node o [] name)) =
      liftTree ds (mergeFold src.conts ds.conts) := by
  have h1 : pyFor (pyAttrsItems src []) ds (fun kv o => pyNodeAttrSet o [] kv.1 kv.2) =
      liftTree ds (W.copyAttrs ds.conts [] (attrsList src.conts [])) := by
    rw [← copyAttrs_fold]
    exact pyFor_liftTree (pyAttrsItems src []) (fun kv c => W.setAttrRaw c [] kv.1 (some kv.2)) ds
  have h2 : ∀ o1 : Obj V, pyFor (pyKeys src []) o1 (fun name o =>
        pyGetNode src [name] >>= fun node => pyH5CopyFromTo src node o [] name) =
      liftTree o1 (pyFor (topKeys src.conts) o1.conts (keyStep src.conts)) := by
    intro o1
    rw [← pyFor_liftTree]
    apply pyFor_congr_mem
    intro k hk b
    have hk' : k ∈ topKeys src.conts := hk
    simp only [List.nil_append, pyGetNode_top src k hk', bind, Except.bind, pyH5CopyFromTo, keyStep, block]
  rw [h1]
  simp only [h2]
  exact liftTree_bind ds _ (fun c => pyFor (topKeys src.conts) c (keyStep src.conts))

/-- the user block `merge_files` writes: the newest block of the source, `prev_patch` of the oldest one, the
checksum of the merged payload (the manifest extension of the newest block is carried along) -/
def mergedUB (E : Env V) (first last : PUB) (c : Cont V) : PUB :=
  { core := { last.core with prev := first.core.prev, hash := some (E.H c) }, ext := last.ext }

/-- what a merge that went through has done -/
structure MergedOK (E : Env V) (t : Nat) (w w' : World V) (c : Cont V) (first last : PUB) : Prop where
  /-- the source object is what it was -/
  self_eq : w'.self = w.self
  /-- the target container holds the merged tree and the merged user block -/
  cont : aget (FName.file t 0) w'.disk = some (.cont (mergedUB E first last c) c)
  /-- no other file has been touched (but the sidecar of the target) -/
  frame : ∀ f, f ≠ FName.file t 0 → f ≠ FName.mfOf (FName.file t 0) → aget f w'.disk = aget f w.disk
  /-- the plain class writes no sidecar; the manifest class leaves the manifest the source has loaded next to the
  target when the merged block links one, a fresh one otherwise -/
  sidecar : match w.self.cls with
    | .IH5Record => aget (FName.mfOf (FName.file t 0)) w'.disk = aget (FName.mfOf (FName.file t 0)) w.disk
    | .IH5MFRecord => ∃ m, aget (FName.mfOf (FName.file t 0)) w'.disk = some (.mf m) ∧
        ∀ m0 e, w.self.manifest = some m0 → last.ext = some e → m = m0

theorem merge_loops_ok (src ds : Obj V) (c : Cont V) (hds : ds.conts = Rec.init) (hm : mergeCont src.conts = .ok [c]) :
    ∃ o1, pyFor (pyAttrsItems src []) ds (fun kv o => pyNodeAttrSet o [] kv.1 kv.2) = .ok o1 ∧
      pyFor (pyKeys src []) o1 (fun name o =>
        pyGetNode src [name] >>= fun node => pyH5CopyFromTo src node o [] name) = .ok { ds with conts := [c] } := by
  have hloops := gen_merge_loops src ds
  rw [hds, mergeFold_eq, hm] at hloops
  cases hX : pyFor (pyAttrsItems src []) ds (fun kv o => pyNodeAttrSet o [] kv.1 kv.2) with
  | error e => simp [hX, bind, Except.bind, liftTree] at hloops
  | ok o1 => exact ⟨o1, rfl, by simpa [hX, bind, Except.bind, liftTree] using hloops⟩

/-- the base-class method, for an object of either class -/
theorem gen_merge_files_base (E : Env V) (t : Nat) (w : World V) (c : Cont V) (first last : PUB)
    (hopen : w.self.closed = false) (hw : w.self.writable = false)
    (hfree : aget (FName.file t 0) w.disk = none)
    (hm : mergeCont w.self.conts = .ok [c])
    (hf : w.self.ubs.head? = some first) (hl : w.self.ubs.getLast? = some last)
    (hlink : ∀ m0 e, w.self.manifest = some m0 → last.ext = some e → e.muuid = m0.uuid) :
    ∃ w', IH5Record.merge_files E t w = (.ok (.file t 0), w') ∧ MergedOK E t w w' c first last := by
  obtain ⟨o1, hX, hY⟩ := merge_loops_ok w.self
    { cls := w.self.cls, conts := Rec.init, files := [FName.file t 0], ubs := [newBaseUB w.next], writable := true }
    c rfl hm
  unfold IH5Record.merge_files
  simp only [pyNewRecord, pyGetNode_root, run_bind, pyExpectOpen, hopen, Bool.false_eq_true, ↓reduceIte,
    run_pySelf, hw, pyCreate, hfree, run_pyLift, List.nil_append, run_pure]
  rw [pyFor_pure _ _ (fun kv o => pyNodeAttrSet o [] kv.1 kv.2) _ (by intros; rfl)]
  simp only [hX]
  rw [pyFor_pure _ _ (fun name o => pyGetNode w.self [name] >>= fun node => pyH5CopyFromTo w.self node o [] name) _
    (by intro x _ b; simp; cases pyGetNode w.self [x] <;> rfl)]
  simp only [hY]
  cases hcls : w.self.cls
  · simp only [pyIdx_zero, pyOn, pyClose, Bool.false_eq_true, ↓reduceIte, dispatch_commit_patch, pyKwNames,
      Option.isSome_none, not_false_eq_true, List.filter_cons_of_neg, List.filter_nil, List.map_nil, List.append_nil,
      run_bind, run_pySelf, pyBaseCommit, refusalB, List.isEmpty_nil, Bool.not_true, List.getLast?_singleton,
      List.dropLast_singleton, List.nil_append, pyUblock, pyIdx_neg_one _ _ hl, pyIdx_zero' _ _ hf,
      pyHashsumPayload, aget_aput_same, dispatch__fixes_after_merge, IH5Record._fixes_after_merge, hcls, run_pure,
      pySaveUB, Prod.mk.injEq, true_and, exists_eq_left']
    refine ⟨rfl, ?_, ?_, ?_⟩
    · simp [aget_aput_same, mergedUB, PUB.with_prev_patch, PUB.with_hdf5_hashsum]
    · intro f h1 _
      simp [aget_aput, h1]
    · simp [hcls, aget_aput]
  · have hcp := gen_commit_patch_ok E
      { self := { cls := Cls.IH5MFRecord, conts := [c], files := [FName.file t 0], ubs := [newBaseUB w.next], writable := true },
        disk := aput (FName.file t 0) (DFile.cont (newBaseUB w.next) Cont.init) w.disk, next := w.next + 2 }
      none none [] (newBaseUB w.next) [] (FName.file t 0) c [] ⟨rfl, rfl, rfl⟩ rfl rfl rfl
    simp only [pyIdx_zero, pyOn, pyClose, Bool.false_eq_true, ↓reduceIte, dispatch_commit_patch,
      run_bind, run_pySelf, hcp, List.nil_append, pyUblock, pyIdx_neg_one _ _ hl, pyIdx_zero' _ _ hf,
      pyHashsumPayload, aget_aput, reduceCtorEq, dispatch__fixes_after_merge,
      IH5MFRecord._fixes_after_merge, Bool.and_eq_true, Bool.not_eq_eq_eq_not, Bool.not_true, beq_eq_false_iff_ne,
      ne_eq, ite_not, hcls, pySaveUB]
    cases hman : w.self.manifest with
    | none =>
      simp [aget_aput, ne_mfOf]
      refine ⟨rfl, ?_, ?_, ?_⟩
      · simp [aget_aput, mergedUB, PUB.with_prev_patch, PUB.with_hdf5_hashsum]
      · intro f h1 h2
        simp [aget_aput, h1, h2]
      · simp [hcls, aget_aput, hman, (ne_mfOf (FName.file t 0)).symm]
    | some m0 =>
      cases hext : last.ext with
      | none =>
        simp [hext, PUB.with_prev_patch, PUB.with_hdf5_hashsum, aget_aput, ne_mfOf]
        refine ⟨rfl, ?_, ?_, ?_⟩
        · simp [aget_aput, mergedUB, hext]
        · intro f h1 h2
          simp [aget_aput, h1, h2]
        · simp [hcls, aget_aput, hman, hext, (ne_mfOf (FName.file t 0)).symm]
      | some e =>
        have hu := hlink m0 e hman hext
        simp [hman, hext, hu, PUB.with_prev_patch, PUB.with_hdf5_hashsum, aget_aput, ne_mfOf, gen_manifest,
          pyNotNone, pySaveManifest, pyManifestFilepath]
        refine ⟨rfl, ?_, ?_, ?_⟩
        · simp [aget_aput, mergedUB, hext]
        · intro f h1 h2
          simp [aget_aput, h1, h2]
        · simp [hcls, aget_aput, hman, hext, (ne_mfOf (FName.file t 0)).symm]

/-- **a merge that the guard lets through**: `rec.merge_files(t)` for a record object of either class, a target
record path whose base container does not exist yet, a source whose view can be materialised (`mergeCont`; always
the case when the view is a tree listed parents-first, `gen_merge_files_replayable`), and — for the manifest class —
a loaded manifest that is the one the newest user block links (what `IH5MFRecord._open` / `commit_patch` establish).
The merged container holds exactly `Merge.mergeCont`, its user block is `Merge.mergeUB`, the source object and all
other files are untouched. -/
theorem gen_merge_files_ok (E : Env V) (t : Nat) (w : World V) (c : Cont V) (first last : PUB)
    (hopen : w.self.closed = false)
    (hg : mergeGuard (flagsOf w.self) w.self.writable = .ok ())
    (hfree : aget (FName.file t 0) w.disk = none)
    (hm : mergeCont w.self.conts = .ok [c])
    (hf : w.self.ubs.head? = some first) (hl : w.self.ubs.getLast? = some last)
    (hlink : ∀ m0 e, w.self.manifest = some m0 → last.ext = some e → e.muuid = m0.uuid) :
    ∃ w', dispatch_merge_files E t w = (.ok (.file t 0), w') ∧ MergedOK E t w w' c first last := by
  unfold mergeGuard flagsOf at hg
  unfold dispatch_merge_files
  cases hcls : w.self.cls
  · simp only [hcls] at hg
    have hw : w.self.writable = false := by
      cases hw : w.self.writable
      · rfl
      · simp [hw] at hg
    simp only [run_bind, run_pySelf, hcls]
    exact gen_merge_files_base E t w c first last hopen hw hfree hm hf hl hlink
  · simp only [hcls] at hg
    by_cases hs : (w.self.ubs.map stubFlag).any id = true
    · simp [hs] at hg
    · have hw : w.self.writable = false := by
        cases hw : w.self.writable
        · rfl
        · simp [hs, hw] at hg
      simp only [run_bind, run_pySelf, hcls, gen_merge_files_mf, hs]
      exact gen_merge_files_base E t w c first last hopen hw hfree hm hf hl hlink

/-- the merged user block is the model's `mergeUB` of the source blocks -/
theorem gen_merged_ub (E : Env V) (ubs : List PUB) (c : Cont V) (first last : PUB)
    (hf : ubs.head? = some first) (hl : ubs.getLast? = some last) :
    mergeUB (ubs.map (·.core)) (E.H c) = some (mergedUB E first last c).core := by
  have h1 : (ubs.map (·.core)).head? = some first.core := by simp [List.head?_map, hf]
  have h2 : (ubs.map (·.core)).getLast? = some last.core := by simp [List.getLast?_map, hl]
  simp [mergeUB, h1, h2, mergedUB]

/-- the same for every record whose view is a tree listed parents-first (the hypothesis `ViewReplayable` of the C05
theorems, reported as `wf T` by the driver on every run): the merged payload is the model's `mergeCont` -/
theorem gen_merge_files_replayable (E : Env V) (t : Nat) (w : World V) (first last : PUB)
    (hrep : Replayable (Overlay.listing w.self.conts))
    (hopen : w.self.closed = false)
    (hg : mergeGuard (flagsOf w.self) w.self.writable = .ok ())
    (hfree : aget (FName.file t 0) w.disk = none)
    (hf : w.self.ubs.head? = some first) (hl : w.self.ubs.getLast? = some last)
    (hlink : ∀ m0 e, w.self.manifest = some m0 → last.ext = some e → e.muuid = m0.uuid) :
    ∃ c w', mergeCont w.self.conts = .ok [c] ∧
      dispatch_merge_files E t w = (.ok (.file t 0), w') ∧ MergedOK E t w w' c first last ∧
      mergeUB (w.self.ubs.map (·.core)) (E.H c) = some (mergedUB E first last c).core := by
  obtain ⟨heq, _⟩ := materialise_eq (Overlay.listing w.self.conts) hrep
  obtain ⟨w', h1, h2⟩ := gen_merge_files_ok E t w _ first last hopen hg hfree heq hf hl hlink
  exact ⟨_, w', heq, h1, h2, gen_merged_ub E _ _ first last hf hl⟩

end MetadorModel.Bridge.MergeFns
