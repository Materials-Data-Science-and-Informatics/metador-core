import MetadorModel.Gen.GroupMethods
import MetadorModel.Model.Paths
import MetadorModel.Model.PathsAlias
/-!
Obligations on the method table extracted from `container/wrappers.py` on every run
(`Gen/GroupMethods.lean`). A new or refactored method that hands a user-controlled path to
`self.__wrapped__` without a dominating `_guard_path`, a listing method that neither filters on
`is_internal_path` nor delegates to one that does, a protocol method that is not wrapped, a
mapping dunder that `wrapt.ObjectProxy` forwards unfiltered, or a `__getattr__` that lets unknown
attributes through, changes the table and breaks one of these proofs (each an evaluation of the table).
-/
namespace MetadorModel.Bridge.GroupMethods
open MetadorModel MetadorModel.Paths

/-- every method of the table guards every user-controlled path before `__wrapped__` sees it -/
theorem methods_guarded : ∀ m ∈ Gen.groupMethods, m.guardsAllPaths = true := by decide

/-- every listing primitive filters reserved names (itself or by delegation) -/
theorem listings_filtered : ∀ m ∈ Gen.groupMethods, m.listingFiltered = true := by decide

/-- every method of the `H5GroupLike` protocol is wrapped explicitly by `MetadorGroup`, and the
ones with path-named parameters have guarded path arguments -/
theorem protocol_covered : ∀ pm ∈ Gen.protocolMethods,
    Gen.groupMethods.any (fun m => m.cls == "MetadorGroup" && m.name == pm.1 &&
      (pm.2.isEmpty || !m.shape.pathArgs.isEmpty)) = true := by decide

/-- unknown attributes are refused: `MetadorGroup.__getattr__` never returns, and
`MetadorContainer.__getattr__` forwards only `mode`, `flush`, `close` -/
theorem unknown_refused : Gen.groupGetattrRefuses = true ∧ Gen.containerGetattrWhitelisted = true ∧
    ∀ n ∈ Gen.containerSupported, n ∈ ["close", "flush", "mode"] := by decide

/-- no mapping-protocol dunder (`__getitem__ __setitem__ __delitem__ __contains__ __iter__
__len__ __reversed__`) falls through to `wrapt.ObjectProxy` (cf. F18) -/
theorem passthrough_harmless : Gen.passthrough = [] := by decide

/-- non-vacuity: the table is populated (the eleven path-taking methods are there, `copy` and
`move` with two guarded positions each) -/
theorem table_nonempty :
    (Gen.groupMethods.filter fun m => !m.shape.pathArgs.isEmpty).length ≥ 11 ∧
    Gen.groupMethods.any (fun m => m.name == "copy" && m.shape.pathArgs.length == 2 &&
      m.shape.guards == [.readOnly, .path 0, .path 1]) = true ∧
    Gen.groupMethods.any (fun m => m.name == "move" && m.shape.pathArgs.length == 2) = true := by
  decide

/-- `MetadorGroup.__setitem__` refuses, before anything else, every value whose class names or
references another node (`HardLink`, `SoftLink`, `ExternalLink`, `Reference` and subclasses):
the class lists tested by its leading `if …: raise` statements contain all of `Paths.linkTypes`.
The name-based guard and the name-based listing filter are only sufficient because no such value
is ever stored. -/
theorem link_values_refused : Gen.setitemValueTestFirst = true ∧
    ∀ ty ∈ Paths.linkTypes, ty ∈ Gen.refusedValueTypes := by decide

/-- … and every value that h5py would store as a named datatype (`numpy.dtype`,
`h5py.Datatype`): such a node is neither group nor dataset and `_wrap_if_node` would hand it out
as the raw h5py object (F35). -/
theorem type_values_refused : ∀ ty ∈ Paths.typeTypes, ty ∈ Gen.refusedValueTypes := by decide

/-- `MetadorNode._guard_path` consists of exactly the two `if …: raise` statements that
`Paths.guardPath` / `Paths.guardPathV` mirror, the first one being the test
`M.is_internal_path(path)` on the argument as it was handed over — nothing (no early `return`,
no type test, no conversion) comes before it. -/
theorem guard_path_shape : Gen.guardPathStmts =
    ["raise-if M.is_internal_path(path)", "raise-if self.acl[NodeAcl.local_only] and path[0] == '/'"] := rfl

end MetadorModel.Bridge.GroupMethods
