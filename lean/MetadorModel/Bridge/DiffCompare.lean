import MetadorModel.Gen.Diff
import MetadorModel.Bridge.DiffBase
/-! Bridge (C18): the generated `DiffNode.compare` — for *every* order `ord` in which Python may
iterate over the key sets and over the items of the two snapshots (any permutation) — returns, on
well-formed entries (key-sorted directories = Python dicts) and whenever the recursion limit
exceeds the nesting depth, a node that is the model's `compareAt` (`addT`/`remT`/`cmpT`) once the
insertion order of its three dicts is forgotten (`canon`: buckets in ascending order of the paths,
which is the order `nodes()` lists them in and `get()` does not depend on). -/
namespace MetadorModel.Bridge.Diff
open MetadorModel MetadorModel.Diff MetadorModel.DiffPy

theorem pyEq_file (s s' : String) : pyEq (some (.file s)) (some (.file s')) = decide (s = s') := by
  by_cases h : s = s' <;> simp [pyEq, treeEq, h]

theorem entriesO_not_dict {x : Option DirTree} (h : isDict x = false) : entriesO x = [] := by
  rcases x with _ | s | es
  · rfl
  · rfl
  · cases h

theorem isNone_or_isStr {x : Option DirTree} (h : isDict x = false) : (x.isNone || isStr x) = true := by
  rcases x with _ | s | es
  · rfl
  · rfl
  · cases h

/-- what the recursive calls of `compare` with recursion limit `fuel` return for the entries at each
name: `rk k`, which is the model's node once the insertion order is forgotten -/
def Kids (ord : IterOrd) (fuel : Nat) (path : Path) (x y : Option DirTree) (rk : String → Option DNode) : Prop :=
  ∀ k, (AL.get (entriesO x) k).isSome = true ∨ (AL.get (entriesO y) k).isSome = true →
    Gen.Diff.compare ord fuel (AL.get (entriesO x) k) (AL.get (entriesO y) k) (path ++ [k]) = .ok (rk k) ∧
    (rk k).map canon = kid path x y k

theorem rk_some {rk : String → Option DNode} {p : Path} {x y : Option DirTree} {k : String}
    (h : (rk k).map canon = kid p x y k) (hx : wfO x) (hy : wfO y)
    (hne : AL.get (entriesO x) k ≠ AL.get (entriesO y) k) : ∃ d, rk k = some d := by
  rw [kid, compareAt_ne (wfO_get hx k) (wfO_get hy k) hne] at h
  cases hr : rk k with
  | none => rw [hr] at h; cases h
  | some d => exact ⟨d, rfl⟩

/-- `prev` is not a dict, `curr` is: every entry of `curr` is added -/
theorem compare_new_dir {ord : IterOrd} (hord : PermOrd ord) {fuel : Nat} {prev : Option DirTree} {fs : Entries}
    {path : Path} (hp : wfO prev) (hc : wfO (some (.dir fs))) (hnd : isDict prev = false)
    {rk : String → Option DNode} (hrk : Kids ord fuel path prev (some (.dir fs)) rk) :
    ∃ r, Gen.Diff.compare ord (fuel + 1) prev (some (.dir fs)) path = .ok r ∧
      r.map canon = compareAt path prev (some (.dir fs)) := by
  have hw := (wf_dir fs).mp hc
  have he := entriesO_not_dict hnd
  have hne : prev ≠ some (.dir fs) := fun e => by rw [e] at hnd; cases hnd
  have hm : ∀ a ∈ fs, Gen.Diff.compare ord fuel none (some a.2) (path ++ [a.1]) = .ok (rk a.1) ∧
      (rk a.1).map canon = kid path prev (some (.dir fs)) a.1 := by
    intro a ha
    have hg : AL.get fs a.1 = some a.2 := (AL.mem_iff_get hw.1 _ _).mp ha
    have := hrk a.1 (Or.inr (by rw [entriesO, hg]; rfl))
    rwa [he, AL.get_nil, entriesO, hg] at this
  rw [Gen.Diff.compare]
  simp only [isNone_or_isStr hnd, isDict, items, mkNode, Bool.not_true, Bool.and_false,
    Bool.false_eq_true, if_false, Bool.and_self, if_true, pure_eq_ok, ok_bind]
  rw [loop_kids hord fs Prod.fst (AL.sorted_iff.mp hw.1) hp hc rk (fun a ha => (hm a ha).2)
    (fun b => .mk path prev (some (.dir fs)) [] [] b)]
  · refine ⟨_, rfl, ?_⟩
    rw [Option.map_some, canon, canon_kids hord fs Prod.fst (AL.sorted_iff.mp hw.1) hp hc rk fun a ha => (hm a ha).2,
      compareAt_ne hp hc hne, he, entriesO, only_nil_right]
    rfl
  · intro b a ha
    obtain ⟨d, hd⟩ := rk_some (hm a ha).2 hp hc (by
      rw [he, AL.get_nil, entriesO, (AL.mem_iff_get hw.1 _ _).mp ha]; nofun)
    simp only [pathJoin, DNode.path, (hm a ha).1, ok_bind, hd]
    rfl

/-- `prev` is a dict, `curr` is not: every entry of `prev` is removed -/
theorem compare_old_dir {ord : IterOrd} (hord : PermOrd ord) {fuel : Nat} {es : Entries} {curr : Option DirTree}
    {path : Path} (hp : wfO (some (.dir es))) (hc : wfO curr) (hnd : isDict curr = false)
    {rk : String → Option DNode} (hrk : Kids ord fuel path (some (.dir es)) curr rk) :
    ∃ r, Gen.Diff.compare ord (fuel + 1) (some (.dir es)) curr path = .ok r ∧
      r.map canon = compareAt path (some (.dir es)) curr := by
  have hw := (wf_dir es).mp hp
  have he := entriesO_not_dict hnd
  have hne : some (.dir es) ≠ curr := fun e => by rw [← e] at hnd; cases hnd
  have hm : ∀ a ∈ es, Gen.Diff.compare ord fuel (some a.2) none (path ++ [a.1]) = .ok (rk a.1) ∧
      (rk a.1).map canon = kid path (some (.dir es)) curr a.1 := by
    intro a ha
    have hg : AL.get es a.1 = some a.2 := (AL.mem_iff_get hw.1 _ _).mp ha
    have := hrk a.1 (Or.inl (by rw [entriesO, hg]; rfl))
    rwa [he, AL.get_nil, entriesO, hg] at this
  rw [Gen.Diff.compare]
  simp only [hnd, isNone_or_isStr hnd]
  simp only [isDict, isStr, items, mkNode, Option.isNone_some, Bool.not_false, Bool.not_true,
    Bool.and_false, Bool.or_false, Bool.and_true, Bool.false_eq_true, if_false, Bool.and_self, if_true,
    pure_eq_ok, ok_bind]
  rw [loop_kids hord es Prod.fst (AL.sorted_iff.mp hw.1) hp hc rk (fun a ha => (hm a ha).2)
    (fun b => .mk path (some (.dir es)) curr b [] [])]
  · refine ⟨_, rfl, ?_⟩
    rw [Option.map_some, canon, canon_kids hord es Prod.fst (AL.sorted_iff.mp hw.1) hp hc rk fun a ha => (hm a ha).2,
      compareAt_ne hp hc hne, he, entriesO, only_nil_right, both_nil_right]
    rfl
  · intro b a ha
    obtain ⟨d, hd⟩ := rk_some (hm a ha).2 hp hc (by
      rw [he, AL.get_nil, entriesO, (AL.mem_iff_get hw.1 _ _).mp ha]; nofun)
    simp only [pathJoin, DNode.path, (hm a ha).1, ok_bind, hd]
    rfl

/-- both are dicts: three loops over sets of names -/
theorem compare_two_dirs {ord : IterOrd} (hord : PermOrd ord) {fuel : Nat} {es fs : Entries} {path : Path}
    (hp : wfO (some (.dir es))) (hc : wfO (some (.dir fs)))
    {rk : String → Option DNode} (hrk : Kids ord fuel path (some (.dir es)) (some (.dir fs)) rk) :
    ∃ r, Gen.Diff.compare ord (fuel + 1) (some (.dir es)) (some (.dir fs)) path = .ok r ∧
      r.map canon = compareAt path (some (.dir es)) (some (.dir fs)) := by
  have hwe := (wf_dir es).mp hp
  have hwf := (wf_dir fs).mp hc
  have pe := only_pairwise hwe.1 fs
  have pf := only_pairwise hwf.1 es
  have hk : ∀ k, (AL.get es k).isSome = true ∨ (AL.get fs k).isSome = true →
      Gen.Diff.compare ord fuel (AL.get es k) (AL.get fs k) (path ++ [k]) = .ok (rk k) ∧
      (rk k).map canon = kid path (some (.dir es)) (some (.dir fs)) k := hrk
  have hA := fun k (h : k ∈ only fs es) => hk k (Or.inr (mem_only.mp h).1)
  have hR := fun k (h : k ∈ only es fs) => hk k (Or.inl (mem_only.mp h).1)
  have hM := fun k (h : k ∈ both es fs) => hk k (Or.inl (mem_both.mp h).1)
  rw [Gen.Diff.compare]
  simp only [isDict, isStr, keys, mkNode, Option.isNone_some, Bool.not_true, Bool.and_false, Bool.and_true,
    Bool.false_eq_true, if_false, Bool.or_false, Bool.and_self, pure_eq_ok, ok_bind]
  rw [both_keys_eq hwe.1 hwf.1, only_keys_eq hwe.1 hwf.1, only_keys_eq hwf.1 hwe.1]
  -- The three loops, in whatever order the source has them: each fills its own bucket, the other
  -- two being what the earlier loops left.
  iterate 3
    first
    | rw [loop_kids hord (only fs es) id pf.1 hp hc rk (fun k h => (hA k h).2)
        (fun b => .mk path (some (.dir es)) (some (.dir fs)) _ _ b)]
      on_goal 2 =>
        intro b k h
        obtain ⟨u, hu⟩ := Option.isSome_iff_exists.mp (mem_only.mp h).1
        obtain ⟨d, hd⟩ := rk_some (hA k h).2 hp hc (by
          show AL.get es k ≠ AL.get fs k
          rw [(mem_only.mp h).2, hu]; exact fun e => by cases e)
        have h1 := (hA k h).1
        rw [(mem_only.mp h).2, hu] at h1
        simp only [pathJoin, DNode.path, getItem, hu, h1, pure_eq_ok, ok_bind, id, hd]
        rfl
      simp only [ok_bind]
    | rw [loop_kids hord (only es fs) id pe.1 hp hc rk (fun k h => (hR k h).2)
        (fun b => .mk path (some (.dir es)) (some (.dir fs)) b _ _)]
      on_goal 2 =>
        intro b k h
        obtain ⟨t, ht⟩ := Option.isSome_iff_exists.mp (mem_only.mp h).1
        obtain ⟨d, hd⟩ := rk_some (hR k h).2 hp hc (by
          show AL.get es k ≠ AL.get fs k
          rw [(mem_only.mp h).2, ht]; exact fun e => by cases e)
        have h1 := (hR k h).1
        rw [(mem_only.mp h).2, ht] at h1
        simp only [pathJoin, DNode.path, getItem, ht, h1, pure_eq_ok, ok_bind, id, hd]
        rfl
      simp only [ok_bind]
    | rw [loop_kids hord (both es fs) id pe.2 hp hc rk (fun k h => (hM k h).2)
        (fun b => .mk path (some (.dir es)) (some (.dir fs)) _ b _)]
      on_goal 2 =>
        intro b k h
        obtain ⟨t, ht⟩ := Option.isSome_iff_exists.mp (mem_both.mp h).1
        obtain ⟨u, hu⟩ := Option.isSome_iff_exists.mp (mem_both.mp h).2
        have h1 := (hM k h).1
        rw [ht, hu] at h1
        simp only [pathJoin, DNode.path, getItem, ht, hu, h1, pure_eq_ok, ok_bind, id]
        cases rk k <;> rfl
      simp only [ok_bind]
  have h1 := canon_kids hord (only fs es) id pf.1 hp hc rk fun k h => (hA k h).2
  have h2 := canon_kids hord (only es fs) id pe.1 hp hc rk fun k h => (hR k h).2
  have h3 := canon_kids hord (both es fs) id pe.2 hp hc rk fun k h => (hM k h).2
  simp only [List.map_id, id_eq] at h1 h2 h3
  simp only [id_eq, compareAt_dir_dir hwe.1 hwf.1, DNode.added, DNode.removed, DNode.modified, Bool.not_not,
    isEmpty_of_canon h1, isEmpty_of_canon h2, isEmpty_of_canon h3]
  rw [show ∀ a r m : Bool, (a && r && m) = (r && m && a) by decide]
  split_ifs
  · exact ⟨none, rfl, rfl⟩
  · exact ⟨_, rfl, by rw [Option.map_some, canon, h1, h2, h3]⟩

theorem gen_compare (ord : IterOrd) (hord : PermOrd ord) :
    ∀ (fuel : Nat) (prev curr : Option DirTree) (path : Path),
    wfO prev → wfO curr → max (depthO prev) (depthO curr) < fuel →
    ∃ r, Gen.Diff.compare ord fuel prev curr path = .ok r ∧ r.map canon = compareAt path prev curr := by
  intro fuel
  induction fuel with
  | zero => intro _ _ _ _ _ h; omega
  | succ fuel IH =>
    intro prev curr path hp hc hd
    -- the result of the recursive call for the entries at a name, as a function
    let rk : String → Option DNode := fun k =>
      match Gen.Diff.compare ord fuel (AL.get (entriesO prev) k) (AL.get (entriesO curr) k) (path ++ [k]) with
      | .ok r => r
      | .error _ => none
    have hrk : Kids ord fuel path prev curr rk := by
      intro k hk
      have h1 := depthO_child (Nat.max_lt.mp hd).1 k
      have h2 := depthO_child (Nat.max_lt.mp hd).2 k
      have hpos : 0 < fuel := hk.elim h1.1 h2.1
      obtain ⟨r, hr, hr'⟩ := IH _ _ (path ++ [k]) (wfO_get hp k) (wfO_get hc k)
        (Nat.max_lt.mpr ⟨h1.2 hpos, h2.2 hpos⟩)
      have : rk k = r := by simp only [rk, hr]
      rw [this]; exact ⟨hr, hr'⟩
    rcases curr with _ | s' | fs
    · rcases prev with _ | s | es
      · exact ⟨_, rfl, rfl⟩
      · exact ⟨_, rfl, rfl⟩
      · exact compare_old_dir hord hp hc rfl hrk
    · rcases prev with _ | s | es
      · exact ⟨_, rfl, rfl⟩
      · rw [Gen.Diff.compare]
        simp only [isDict, Bool.not_false, Bool.and_self, if_true, pyEq_file, compareAt, cmpT, mkNode, pure_eq_ok,
          decide_eq_true_eq]
        split_ifs
        · exact ⟨none, rfl, rfl⟩
        · exact ⟨_, rfl, rfl⟩
      · exact compare_old_dir hord hp hc rfl hrk
    · rcases prev with _ | s | es
      · exact compare_new_dir hord hp hc rfl hrk
      · exact compare_new_dir hord hp hc rfl hrk
      · exact compare_two_dirs hord hp hc hrk

/-- `DirDiff.compare(prev, curr)._diff_root` = `DiffNode.compare(prev, curr, Path(""))` -/
theorem gen_compare_top (ord : IterOrd) (hord : PermOrd ord) (fuel : Nat) (a b : DirTree)
    (ha : a.wf = true) (hb : b.wf = true) (hd : max (depthT a) (depthT b) < fuel) :
    ∃ r, Gen.Diff.compare ord fuel (some a) (some b) [] = .ok r ∧ r.map canon = Diff.compare a b :=
  gen_compare ord hord fuel (some a) (some b) [] ha hb hd

end MetadorModel.Bridge.Diff
