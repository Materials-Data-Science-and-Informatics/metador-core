import MetadorModel.Gen.MergeFns
import MetadorModel.Proofs.Single
/-!
# Bridge for C10: `IH5MFRecord.manifest`, `_fresh_manifest`, `commit_patch` (ih5/manifest.py) as regenerated
from the source

What a commit of the manifest class does to the record object and to the file system, in closed form:
`gen_commit_patch_ok` (the manifest is written next to the newest container, its uuid and hash are linked in
the user-block extension, it describes the current skeleton, extensions are inherited unless overridden) and
`gen_commit_patch_refused` (when the base-class commit refuses, the object and the files are what they were).
-/
namespace MetadorModel.Bridge.MergeFns
open MetadorModel.Tree MetadorModel.Overlay MetadorModel.Merge MetadorModel.MergePy
open MetadorModel.Gen.MergeFns
variable {V : Type} {α : Type}

theorem pyIdx_last (init : List α) (x : α) : pyIdx (init ++ [x]) (-1 : Int) = .ok x := by
  simp only [pyIdx, List.length_append, List.length_cons, List.length_nil]
  have h1 : ((-1 : Int) < 0) := by omega
  simp only [h1, if_true]
  have h2 : ¬ ((-1 : Int) + ((init.length + (0 + 1) : Nat) : Int) < 0) := by omega
  simp only [h2, if_false]
  have h3 : ((-1 : Int) + ((init.length + (0 + 1) : Nat) : Int)).toNat = init.length := by omega
  rw [h3]
  simp

theorem pySetIdx_last (init : List α) (x y : α) : pySetIdx (init ++ [x]) (-1 : Int) y = .ok (init ++ [y]) := by
  simp only [pySetIdx, List.length_append, List.length_cons, List.length_nil]
  have h1 : ((-1 : Int) < 0) := by omega
  simp only [h1, if_true]
  have h2 : ¬ ((-1 : Int) + ((init.length + (0 + 1) : Nat) : Int) < 0) := by omega
  simp only [h2, if_false]
  have h3 : ((-1 : Int) + ((init.length + (0 + 1) : Nat) : Int)).toNat = init.length := by omega
  rw [h3]
  simp

theorem pyIdx_zero (x : α) (rest : List α) : pyIdx (x :: rest) (0 : Int) = .ok x := by
  simp [pyIdx]

theorem ne_mfOf : ∀ (f : FName), f ≠ .mfOf f
  | .file _ _ => by intro h; cases h
  | .mfOf g => by
    intro h
    injection h with h'
    exact ne_mfOf g h'

theorem gen_manifest (E : Env V) (w : World V) :
    IH5MFRecord.manifest E w = match w.self.manifest with
      | some m => (.ok m, w)
      | none => (.error (.valueError .noManifest), w) := by
  unfold IH5MFRecord.manifest
  cases hm : w.self.manifest <;> simp [hm, pyNotNone]

/-- the manifest a commit builds: a new uuid, the newest user block without the manifest extension, the
skeleton of the current view, no extensions -/
def freshManifest (w : World V) (old : PUB) : Manifest :=
  { uuid := w.next, ub := { old with ext := none }, skeleton := skel (Overlay.listing w.self.conts), exts := [] }

theorem gen_fresh_manifest (E : Env V) (w : World V) (init : List PUB) (old : PUB) (hubs : w.self.ubs = init ++ [old]) :
    IH5MFRecord._fresh_manifest E w = (.ok (freshManifest w old), { w with next := w.next + 1 }) := by
  unfold IH5MFRecord._fresh_manifest
  simp [pyUblock, hubs, pyIdx_last, pyManifestFromUserblock, pySkeletonForRecord, freshManifest]

/-- extensions of the new manifest: the ones passed, else the ones of the manifest loaded before, else none -/
def commitExts (w : World V) (kw : Option (Option Exts)) : Exts :=
  match kw.getD none with
  | some x => x
  | none => match w.self.manifest with
    | some m => m.exts
    | none => []

/-- the manifest `commit_patch` writes -/
def commitManifest (w : World V) (kw : Option (Option Exts)) (old : PUB) : Manifest :=
  { freshManifest w old with exts := commitExts w kw }

/-- the user block `commit_patch` writes: the checksum of the payload and the link to the manifest -/
def commitUB (E : Env V) (w : World V) (kwStub : Option Bool) (kw : Option (Option Exts)) (old : PUB) (c : Cont V) : PUB :=
  { core := { old.core with hash := some (E.H c) },
    ext := some { isStub := kwStub.getD false, muuid := w.next, mhash := E.HM (commitManifest w kw old) } }

/-- the base-class commit goes through -/
def CanCommit (o : Obj V) : Prop := o.closed = false ∧ o.allowPatching = true ∧ o.writable = true

/-- the user block `commit_patch` puts in place before the base-class commit: the link to the manifest -/
def linkedUB (E : Env V) (w : World V) (kwStub : Option Bool) (kw : Option (Option Exts)) (old : PUB) : PUB :=
  { old with ext := some { isStub := kwStub.getD false, muuid := w.next, mhash := E.HM (commitManifest w kw old) } }

/-- the rest of `commit_patch` once the manifest and the new user block are computed -/
def commitTail (E : Env V) (kwargs : List String) (old : PUB) (mf : Manifest) : PyM V Unit := do
  try
    pyBaseCommit E kwargs
  catch e =>
    match e with
    | PyErr.valueError _ => do
        pySetUblock (-(1 : Int)) old
        throw e
    | _ => throw e
  pySetManifest (some mf)
  pySaveManifest (pyManifestFilepath (← pyLift (pyIdx (← pySelf).files (-(1 : Int))))) mf

/-- the first half of `commit_patch` (manifest, extensions, user block) in closed form; the four ways through its
two `if`s are gone through here -/
theorem commit_patch_eq (E : Env V) (w : World V) (kwStub : Option Bool) (kw : Option (Option Exts))
    (kwargs : List String) (init : List PUB) (old : PUB) (hubs : w.self.ubs = init ++ [old]) :
    IH5MFRecord.commit_patch E kwStub kw kwargs w =
      commitTail E kwargs old (commitManifest w kw old)
        { w with next := w.next + 1, self := { w.self with ubs := init ++ [linkedUB E w kwStub kw old] } } := by
  unfold IH5MFRecord.commit_patch commitTail
  simp only [run_bind, gen_fresh_manifest E w init old hubs, run_pySelf]
  cases hm : w.self.manifest <;> cases hk : kw.getD none <;>
    simp only [Option.isSome_some, Option.isSome_none, Bool.false_eq_true, ↓reduceIte, pyNotNone, pyExtUpdate,
      PUB.with_ub_exts, Manifest.with_manifest_exts, freshManifest, run_bind, gen_manifest, hm, run_pyLift, pyUblock,
      hubs, pyIdx_last, pySetUblock, pySetIdx_last, run_tryCatch, run_pySelf, linkedUB, commitManifest, commitExts,
      hk] <;>
    rfl

theorem gen_commit_patch_ok (E : Env V) (w : World V) (kwStub : Option Bool) (kw : Option (Option Exts))
    (init : List PUB) (old : PUB) (finit : List FName) (f : FName) (c : Cont V) (rest : Rec V)
    (hc : CanCommit w.self) (hubs : w.self.ubs = init ++ [old]) (hfiles : w.self.files = finit ++ [f])
    (hconts : w.self.conts = c :: rest) :
    IH5MFRecord.commit_patch E kwStub kw [] w =
      (.ok (), { self := { w.self with ubs := init ++ [commitUB E w kwStub kw old c], writable := false,
                                       manifest := some (commitManifest w kw old) },
                 disk := aput (.mfOf f) (.mf (commitManifest w kw old)) (aput f (.cont (commitUB E w kwStub kw old c) c) w.disk),
                 next := w.next + 1 }) := by
  obtain ⟨h1, h2, h3⟩ := hc
  rw [commit_patch_eq E w kwStub kw [] init old hubs]
  simp [commitTail, pyBaseCommit, refusalB, h1, h2, h3, hconts, hfiles, pySetManifest, pySaveManifest,
    pyManifestFilepath, pyIdx_last, commitUB, linkedUB]

/-- **a refused commit leaves the record object and the files as they were** (only a uuid was drawn) -/
theorem gen_commit_patch_refused (E : Env V) (w : World V) (kwStub : Option Bool) (kw : Option (Option Exts))
    (kwargs : List String) (init : List PUB) (old : PUB) (m : Msg)
    (hubs : w.self.ubs = init ++ [old])
    (hr : refusalB w.self.closed w.self.allowPatching w.self.writable kwargs = some m) :
    IH5MFRecord.commit_patch E kwStub kw kwargs w = (.error (.valueError m), { w with next := w.next + 1 }) := by
  rw [commit_patch_eq E w kwStub kw kwargs init old hubs]
  simp [commitTail, pyBaseCommit, hr, pySetUblock, pySetIdx_last]
  rw [← hubs]

/-! ### what a successful commit establishes (clauses of C10) -/

/-- **the manifest is linked**: after a commit the sidecar of the newest container holds a manifest whose uuid and
hash are the ones recorded in the extension of the newest user block — in memory and on disk —, which describes
the skeleton of the current view, and which is the manifest the object has loaded -/
theorem gen_commit_patch_linked (E : Env V) (w w' : World V) (kwStub : Option Bool) (kw : Option (Option Exts))
    (init : List PUB) (old : PUB) (finit : List FName) (f : FName) (c : Cont V) (rest : Rec V)
    (hc : CanCommit w.self) (hubs : w.self.ubs = init ++ [old]) (hfiles : w.self.files = finit ++ [f])
    (hconts : w.self.conts = c :: rest)
    (hrun : IH5MFRecord.commit_patch E kwStub kw [] w = (.ok (), w')) :
    ∃ mf ub e, aget (.mfOf f) w'.disk = some (.mf mf) ∧ aget f w'.disk = some (.cont ub c) ∧
      w'.self.ubs.getLast? = some ub ∧ ub.ext = some e ∧ ub.core.hash = some (E.H c) ∧
      e.muuid = mf.uuid ∧ e.mhash = E.HM mf ∧ e.isStub = kwStub.getD false ∧
      mf.skeleton = skel (Overlay.listing w.self.conts) ∧ w'.self.manifest = some mf := by
  rw [gen_commit_patch_ok E w kwStub kw init old finit f c rest hc hubs hfiles hconts] at hrun
  cases hrun
  refine ⟨commitManifest w kw old, commitUB E w kwStub kw old c, _, ?_, ?_, ?_, rfl, rfl, rfl, rfl, rfl, rfl, rfl⟩
  · exact aget_aput_same _ _ _
  · show aget f (aput f.mfOf _ (aput f _ w.disk)) = _
    rw [aget_aput_other _ _ _ _ (ne_mfOf f)]
    exact aget_aput_same _ _ _
  · simp

/-- **manifest extensions persist until overridden** -/
theorem gen_commit_patch_exts (E : Env V) (w w' : World V) (kwStub : Option Bool) (kw : Option (Option Exts))
    (init : List PUB) (old : PUB) (finit : List FName) (f : FName) (c : Cont V) (rest : Rec V)
    (hc : CanCommit w.self) (hubs : w.self.ubs = init ++ [old]) (hfiles : w.self.files = finit ++ [f])
    (hconts : w.self.conts = c :: rest)
    (hrun : IH5MFRecord.commit_patch E kwStub kw [] w = (.ok (), w')) :
    ∃ mf, w'.self.manifest = some mf ∧
      (∀ x, kw = some (some x) → mf.exts = x) ∧
      ((kw = none ∨ kw = some none) → ∀ m0, w.self.manifest = some m0 → mf.exts = m0.exts) := by
  rw [gen_commit_patch_ok E w kwStub kw init old finit f c rest hc hubs hfiles hconts] at hrun
  cases hrun
  refine ⟨commitManifest w kw old, rfl, ?_, ?_⟩
  · intro x hx; subst hx; rfl
  · rintro (h | h) m0 hm0 <;> subst h <;> simp [commitManifest, commitExts, hm0]

end MetadorModel.Bridge.MergeFns
