import MetadorModel.Gen.AclTable
import MetadorModel.Proofs.Acl
/-!
Obligations on the ACL table extracted from `container/wrappers.py` / `interface.py` on every
run (`Gen/AclTable.lean`): it is a well-formed table in the sense of `Acl.TableOk`, so that all
chain theorems of `Props/C15.lean` (proved for every well-formed table) apply to it. A navigation
method that stops wrapping its result, a mutating / reading / upward operation that loses its
`_guard_acl` call (or performs it after touching `__wrapped__`), a `restrict` that replaces flags,
a `parent` that hands out the remembered object as it is, a dataset `__getattr__` that forwards
wrapper attributes, or a weakened attribute whitelist changes the table and breaks `decide`.
-/
namespace MetadorModel.Bridge.AclTable
open MetadorModel MetadorModel.Acl

theorem table_ok : TableOk Gen.aclTable = true := by decide

/-- every operation and navigation primitive of the protocol has a row in the table -/
theorem table_covers_protocol :
    (∀ op ∈ mutatingOps ++ readingOps ++ upwardOps,
      (Gen.aclTable.opGuards.find? (·.1 == op)).isSome = true) ∧
    (∀ p ∈ allPrims, (Gen.aclTable.wraps.find? (·.1 == p.name)).isSome = true) := by
  have F := facts_of_tableOk _ table_ok
  refine ⟨fun op hop => ?_, fun p _ => find_wraps_of_wrapsPrim (F.wraps p)⟩
  simp only [List.mem_append] at hop
  rcases hop with (h | h) | h
  · exact find_opGuards_of_guard (F.mutG op h)
  · exact find_opGuards_of_guard (F.readG op h)
  · exact find_opGuards_of_guard (F.upG op h)

end MetadorModel.Bridge.AclTable
