import MetadorModel.Gen.BytesFns
import MetadorModel.Proofs.Bytes
/-! Bridge theorems for `DEL_VALUE`, `_is_del_mark`, `_node_is_del_mark`, `IH5Node._guard_value` (part of `Bridge/BytesFns.lean`, which explains the set-up; a separate
module so that a broken proof is attributed to the function group that changed). -/
namespace MetadorModel.Bridge.BytesFns
open MetadorModel MetadorModel.Bytes MetadorModel.BytesPy
theorem gen_del_value : Gen.BytesFns.DEL_VALUE = delMark := by decide

/-- `_is_del_mark` is the model's `isDelMark` on values and `False` on everything that is not a
value (datasets, groups, nodes, links) -/
theorem gen_is_del_mark (o : PyObj) :
    Gen.BytesFns._is_del_mark o = (match o with | .value v => isDelMark v | _ => false) := by
  cases o with
  | value v => cases v <;> simp [Gen.BytesFns._is_del_mark, isDelMark]
  | _ => simp [Gen.BytesFns._is_del_mark]

/-- `_node_is_del_mark` looks into a dataset and otherwise takes the object itself -/
theorem gen_node_is_del_mark (o : PyObj) :
    Gen.BytesFns._node_is_del_mark o =
      (match o with | .value v => isDelMark v | .dataset v => isDelMark v | _ => false) := by
  cases o <;> simp [Gen.BytesFns._node_is_del_mark, gen_is_del_mark]

/-- `_guard_value`: on values it is the model's `guardValue` (only the marker is refused),
nodes and links are refused, raw h5py datasets and groups pass -/
theorem gen_guard_value (o : PyObj) :
    Gen.BytesFns._guard_value o =
      (match o with
       | .value v => guardValue v
       | .dataset _ => .ok ()
       | .group => .ok ()
       | _ => .error .valueError) := by
  cases o <;> simp [Gen.BytesFns._guard_value, gen_is_del_mark, guardValue]

end MetadorModel.Bridge.BytesFns
