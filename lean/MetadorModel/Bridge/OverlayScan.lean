import MetadorModel.Bridge.OverlayScanChildren
import MetadorModel.Proofs.OverlayWriteLook
/-!
# Bridge: the translated child resolution of `overlay.py` is the model's `scan / child / look`

`Gen/OverlayScan.lean` is regenerated from `src/metador_core/ih5/overlay.py` on every run by
`harness/translate_c01.py` (value dictionary: `Model/OverlayPy.lean`). The theorems below are
re-checked on every run; they state that what the source says *now* computes the functions of
`Model/Overlay.lean` the C01 (C05, C10, C17) theorems are about:

* `gen_node_is_virtual`, `gen_node_is_del_mark` — the two predicates are `RKind.isVirtual`,
  `RKind.isDel` on raw nodes (and `false` / "is the marker" on attribute values);
* `gen_children` — looking a child name up in the dictionary `IH5InnerNode._children` returns is
  `Overlay.child` for that child path (the loop over the container files, newest first, with the
  two dictionaries as state, is a fold; per key it is the recursion `Overlay.scan`);
* `gen_get_child`, `gen_node_seq_loop`, `gen_find` — `_find` on an absolute path is `Overlay.look`
  (`found c _ ↦ c`, `part ↦ None`, `insideValue ↦ ValueError`); `gen_find_rel` — on a relative path,
  called on a group node, it is `Overlay.lookFrom` started there; `gen_find_inv`, `gen_find_visible` —
  the same under the record invariant `Inv` of C01.

The proofs are split over three modules so that a broken obligation names the function group that
changed: `Bridge/OverlayScanPreds.lean` (constants, predicates, `_guard_open`, `_get_child_raw`),
`Bridge/OverlayScanChildren.lean` (`_children`), this file (`_get_child`, `_node_seq`, `_find`).

Hypotheses: every container satisfies `WF` (what every HDF5 file satisfies: entries have parents,
parents are groups, the root is a group — part of the record invariant `Inv`), and the record is
not empty (it is open).
-/
namespace MetadorModel.Bridge.OverlayScan
open MetadorModel MetadorModel.Tree MetadorModel.Overlay MetadorModel.OverlayPy
open MetadorModel.Gen.OverlayScan

variable {V : Type}

/-! ## `_get_child`, `_node_seq`, `_find`: successive child lookup is `Overlay.lookFrom / look` -/

/-- the overlay node `_get_child` builds for the raw node `n` found at `p` in container `c` -/
def nodeOf (fs : List (Cont V)) (p : Path) (c : Nat) (n : RNode V) : PyNode V :=
  if n.kind.isGroup then .inner ⟨fs, p, (c : Int), false⟩ else .dataset fs p (c : Int)

theorem nodeOf_gpath (fs : List (Cont V)) (p : Path) (c : Nat) (n : RNode V) :
    pyNodeGpath (nodeOf fs p c n) = .ok p := by
  unfold nodeOf; split <;> rfl

theorem nodeOf_cidx (fs : List (Cont V)) (p : Path) (c : Nat) (n : RNode V) :
    pyNodeCidx (nodeOf fs p c n) = .ok (c : Int) := by
  unfold nodeOf; split <;> rfl

theorem nodeOf_isDataset (fs : List (Cont V)) (p : Path) (c : Nat) (n : RNode V) :
    pyNodeIsInstance (nodeOf fs p c n) .IH5Dataset = !n.kind.isGroup := by
  unfold nodeOf; split <;> simp_all [pyNodeIsInstance]

theorem gen_get_child (self : PySelf V) (hattr : self.isAttrs = false) (k : Key) (i : Nat)
    (f : Cont V) (hf : self.files[i]? = some f) (n : RNode V) (hn : aget (self.gpath ++ [k]) f = some n) :
    _get_child self k (i : Int) = .ok (nodeOf self.files (self.gpath ++ [k]) i n) := by
  have hraw : _get_child_raw self k (i : Int) = .ok (PyObj.ofNode f (self.gpath ++ [k]) n) := by
    rw [gen_get_child_raw self hattr k i f hf]; simp [pyFileGet, hn]
  have hi : ¬ ((i : Int) < 0) := by omega
  cases hk : n.kind <;>
    simp [_get_child, hraw, PyObj.ofNode, hk, pyIsInstance, pyAbsKey, pyMkGroup, pyMkDataset, nodeOf,
      RKind.isGroup, hi, bind, Except.bind]

/-- the node `scan` finds is a group wherever it occurs from its creation index on -/
theorem grpFrom_of_scan (r : Rec V) (q : Path) (c i : Nat) (n : RNode V)
    (h : scan q c r = some (i, n)) (hg : n.kind.isGroup = true) : GrpFrom r q i := by
  intro j f hij hf m hm
  obtain ⟨_, ⟨f', hf', hn'⟩, hnewer⟩ := scan_spec q c r i n h
  rcases Nat.lt_or_eq_of_le hij with hlt | heq
  · exact isGroup_of_isVirtual (hnewer j f m hlt hf hm)
  · subst heq
    rw [hf] at hf'; cases hf'
    rw [hm] at hn'; cases hn'
    exact hg

theorem grpFrom_root (r : Rec V) (hwf : ∀ p ∈ r, WF p) : GrpFrom r [] 0 := by
  intro i f _ hf n hn
  obtain ⟨a, ha⟩ := (hwf f (List.mem_reverse.1 (List.mem_of_getElem? hf))).root
  rw [ha] at hn; cases hn; rfl

/-- outcome of the loop of `_node_seq` started at segment `a` with the node of `(pre, ci, cur)`,
compared with the model's walk over the remaining segments -/
def SeqOutcome (fs : List (Cont V)) (pre rest : Path)
    (res : Except PyErr (PyStep (List (PyNode V)) (PyNode V × Int × List (PyNode V)))) : Look V → Prop
  | .found cf nf => ∃ x ret, res = .ok (.next (nodeOf fs (pre ++ rest) cf nf, x, ret)) ∧
      ret.getLast? = some (nodeOf fs (pre ++ rest) cf nf)
  | .part pre' _ => ∃ ret cp np, res = .ok (.ret ret) ∧ ret.getLast? = some (nodeOf fs pre' cp np)
  | .insideValue => res = .error .valueError

/-- the first segment of the rest of the path may be counted with the prefix -/
theorem seqOutcome_cons {fs : List (Cont V)} {pre : Path} {k : Key} {rest : Path}
    {res : Except PyErr (PyStep (List (PyNode V)) (PyNode V × Int × List (PyNode V)))} {l : Look V}
    (h : SeqOutcome fs (pre ++ [k]) rest res l) : SeqOutcome fs pre (k :: rest) res l := by
  cases l <;> simp only [SeqOutcome, List.append_assoc, List.cons_append, List.nil_append] at h ⊢ <;> exact h

/-- one iteration of the loop of `_node_seq` at a group node is the child lookup of the model -/
theorem gen_node_seq_body (r : Rec V) (hne : r ≠ []) (hwf : ∀ p ∈ r, WF p) (segs : List Key) (a : Nat)
    (ha : a < segs.length) (pre : Path) (ci : Nat) (cur : RNode V) (hgrp : cur.kind.isGroup = true)
    (hfrom : GrpFrom r pre ci) (x : Int) (ret : List (PyNode V)) :
    _node_seq.loop1 segs (nodeOf r.reverse pre ci cur, x, ret) (a : Int) =
      match child r (pre ++ [segs[a]]) ci with
      | none => .ok (.ret ret)
      | some (i, n) =>
        if a + 1 < segs.length ∧ n.kind.isGroup = false then .error .valueError
        else .ok (.next (nodeOf r.reverse (pre ++ [segs[a]]) i n, (i : Int),
          ret ++ [nodeOf r.reverse (pre ++ [segs[a]]) i n])) := by
  have hseg : pyListGet segs (a : Int) = .ok segs[a] := by rw [pyListGet_nat]; simp [ha]
  have hnode : nodeOf r.reverse pre ci cur = .inner ⟨r.reverse, pre, (ci : Int), false⟩ := by simp [nodeOf, hgrp]
  obtain ⟨dct, hch, hlook⟩ := gen_children r hne hwf pre ci hfrom
  have hget := hlook segs[a]
  cases hc : child r (pre ++ [segs[a]]) ci with
  | none =>
    rw [hc] at hget
    simp [_node_seq.loop1, hseg, hnode, pyAsInner, hch, pyDictGetD, hget, bind, Except.bind, pure, Except.pure]
  | some z =>
    obtain ⟨i, n⟩ := z
    rw [hc] at hget
    obtain ⟨hscan, hdel⟩ := (child_eq_some _ _ _ _ _).1 hc
    obtain ⟨_, ⟨f, hf, hn⟩, _⟩ := scan_spec _ _ _ _ _ hscan
    have hchild := gen_get_child ⟨r.reverse, pre, (ci : Int), false⟩ rfl segs[a] i f hf n hn
    have hne1 : ¬ ((i : Int) = -1) := by omega
    have hlast : ((a : Int) == (segs.length : Int) - 1) = !decide (a + 1 < segs.length) := by
      by_cases h : a + 1 < segs.length <;> simp [h] <;> omega
    simp only at hchild
    simp [_node_seq.loop1, hseg, hnode, pyAsInner, hch, pyDictGetD, hget, hne1, hchild, nodeOf_isDataset, hlast, bind,
      Except.bind, pure, Except.pure]

theorem gen_node_seq_loop (r : Rec V) (hne : r ≠ []) (hwf : ∀ p ∈ r, WF p) (segs : List Key) :
    ∀ (d a : Nat), segs.length - a = d → a ≤ segs.length →
    ∀ (pre : Path) (ci : Nat) (cur : RNode V) (x : Int) (ret : List (PyNode V)),
      ret.getLast? = some (nodeOf r.reverse pre ci cur) →
      (a < segs.length → cur.kind.isGroup = true ∧ GrpFrom r pre ci) →
      SeqOutcome r.reverse pre (segs.drop a)
        (pyForRet (pyRange (a : Int) (segs.length : Int)) (nodeOf r.reverse pre ci cur, x, ret) (_node_seq.loop1 segs))
        (lookFrom r pre ci cur (segs.drop a)) := by
  intro d
  induction d with
  | zero =>
    intro a hd ha pre ci cur x ret hret _
    have : a = segs.length := by omega
    subst this
    rw [pyRange_empty _ _ (Int.le_refl _), List.drop_length]
    exact ⟨x, ret, by rw [List.append_nil]; rfl, by rwa [List.append_nil]⟩
  | succ d ih =>
    intro a hd ha pre ci cur x ret hret hcur
    have hlt : a < segs.length := by omega
    obtain ⟨hgrp, hfrom⟩ := hcur hlt
    rw [pyRange_zero_succ _ _ hlt, List.drop_eq_getElem_cons hlt, lookFrom_cons, if_pos hgrp, pyForRet,
      gen_node_seq_body r hne hwf segs a hlt pre ci cur hgrp hfrom]
    cases hc : child r (pre ++ [segs[a]]) ci with
    | none => exact ⟨ret, ci, cur, rfl, hret⟩
    | some z =>
      obtain ⟨i, n⟩ := z
      dsimp only
      by_cases hds : a + 1 < segs.length ∧ n.kind.isGroup = false
      · -- a dataset before the last segment
        have h1 := hds.1
        rw [if_pos hds, List.drop_eq_getElem_cons h1, lookFrom_cons, if_neg (ne_true_of_eq_false hds.2)]
        rfl
      · rw [if_neg hds]
        apply seqOutcome_cons
        refine ih (a + 1) (by omega) (by omega) _ i n _ _ (List.getLast?_concat ..) fun h => ?_
        have hng : n.kind.isGroup = true := by simpa [h] using hds
        exact ⟨hng, grpFrom_of_scan r _ ci i n ((child_eq_some ..).1 hc).1 hng⟩

/-- `_node_seq` on a path with segments: the loop from the start node -/
theorem gen_node_seq (self : PySelf V) (abs : Bool) (k : Key) (rest : Path) (start : PyNode V)
    (hdot : pyPathIsDot ⟨abs, k :: rest⟩ = false)
    (hstart : (if abs then pyMkGroup self.files ([] : Path) none else .ok (.inner self)) = .ok start) :
    _node_seq self ⟨abs, k :: rest⟩ =
      match pyForRet (pyRange 0 ((k :: rest).length : Int)) (start, 0, [start]) (_node_seq.loop1 (k :: rest)) with
      | .error e => .error e
      | .ok t => match t with
        | .ret v => .ok v
        | .next (_, _, ret) => .ok ret := by
  cases abs <;>
    simp only [Bool.false_eq_true, ↓reduceIte, Except.ok.injEq] at hstart <;>
    simp only [_node_seq, pyPathIsAbs, pyPathIsRoot, pyPathSegs, hdot, hstart, bind, Except.bind, pure, Except.pure,
      Bool.false_eq_true, reduceCtorEq, and_false, and_self, ↓reduceIte, List.isEmpty_cons, Bool.and_false,
      Bool.or_self] <;>
    rcases pyForRet _ _ _ with _ | _ | ⟨_, _, _⟩ <;> rfl

/-- `_find` on a group node reads path and creation index off the last node `_node_seq` returns -/
theorem gen_find_of_last (self : PySelf V) (hattr : self.isAttrs = false) (key : PyPath) (ret : List (PyNode V))
    (p : Path) (c : Nat) (n : RNode V) (h : _node_seq self key = .ok ret)
    (hlast : ret.getLast? = some (nodeOf self.files p c n)) :
    _find self key = .ok (if p = pyAbsPath self key then some (c : Int) else none) := by
  simp only [_find, hattr, h, pyListGet_neg_one, hlast, nodeOf_gpath, nodeOf_cidx, bind, Except.bind, pure,
    Except.pure, Bool.false_eq_true, ↓reduceIte, beq_iff_eq]
  split_ifs <;> rfl

/-- a walk that stops early stops at a proper prefix -/
theorem part_ne (r : Rec V) (g : Path) (c : Nat) (cur : RNode V) (rest x y : Path)
    (h : lookFrom r g c cur rest = .part x y) : x ≠ g ++ rest := by
  obtain ⟨a, _, _, k', y', h1, h2, h3, _⟩ := lookFrom_part_props r _ _ _ _ _ _ h
  rw [h1, h2, h3, ← List.append_assoc]
  exact fun e => List.cons_ne_nil _ _ (List.self_eq_append_right.1 e)

/-- `_find` on a path with segments, started at the group node `(g, c, cur)` -/
theorem gen_find_from (r : Rec V) (hne : r ≠ []) (hwf : ∀ p ∈ r, WF p) (self : PySelf V) (hfiles : self.files = r.reverse)
    (hattr : self.isAttrs = false) (abs : Bool) (g : Path) (c : Nat) (cur : RNode V)
    (hcur : cur.kind.isGroup = true) (hfrom : GrpFrom r g c) (k : Key) (rest : Path)
    (hdot : pyPathIsDot ⟨abs, k :: rest⟩ = false)
    (hstart : (if abs then pyMkGroup self.files ([] : Path) none else .ok (.inner self)) = .ok (nodeOf r.reverse g c cur))
    (hpath : pyAbsPath self ⟨abs, k :: rest⟩ = g ++ k :: rest) :
    _find self ⟨abs, k :: rest⟩ =
      match lookFrom r g c cur (k :: rest) with
      | .found cf _ => .ok (some (cf : Int))
      | .part _ _ => .ok none
      | .insideValue => .error .valueError := by
  have hloop := gen_node_seq_loop r hne hwf (k :: rest) (k :: rest).length 0 rfl (Nat.zero_le _) g c cur 0
    [nodeOf r.reverse g c cur] rfl (fun _ => ⟨hcur, hfrom⟩)
  have hseq := gen_node_seq self abs k rest _ hdot hstart
  rw [List.drop_zero, Int.natCast_zero] at hloop
  cases hl : lookFrom r g c cur (k :: rest) with
  | found cf nf =>
    rw [hl] at hloop
    obtain ⟨x, ret, hres, hlast⟩ := hloop
    rw [hres] at hseq
    rw [gen_find_of_last self hattr _ ret _ cf nf hseq (hfiles ▸ hlast), if_pos hpath.symm]
  | part pre' rest' =>
    rw [hl] at hloop
    obtain ⟨ret, cp, np, hres, hlast⟩ := hloop
    rw [hres] at hseq
    rw [gen_find_of_last self hattr _ ret _ cp np hseq (hfiles ▸ hlast), if_neg (hpath ▸ part_ne r g c cur _ _ _ hl)]
  | insideValue =>
    rw [hl] at hloop
    rw [show pyForRet _ _ _ = _ from hloop] at hseq
    simp only [_find, hattr, hseq, bind, Except.bind, Bool.false_eq_true, ↓reduceIte]

/-- **`_find` on an absolute path is the model's `look`**: the creation index when the whole path
exists, `None` when a segment is missing, `ValueError` when the path continues below a dataset -/
theorem gen_find (r : Rec V) (hne : r ≠ []) (hwf : ∀ p ∈ r, WF p) (g : Path) (c : Int) (q : Path) :
    _find ⟨r.reverse, g, c, false⟩ ⟨true, q⟩ =
      match look r q with
      | .found cf _ => .ok (some (cf : Int))
      | .part _ _ => .ok none
      | .insideValue => .error .valueError := by
  have hroot : pyMkGroup r.reverse ([] : Path) none = .ok (nodeOf r.reverse [] 0 (vnode : RNode V)) := rfl
  cases q with
  | nil => exact gen_find_of_last _ rfl _ [nodeOf r.reverse [] 0 vnode] [] 0 vnode rfl rfl
  | cons k rest =>
    exact gen_find_from r hne hwf _ rfl rfl true [] 0 vnode rfl (grpFrom_root r hwf) k rest rfl hroot rfl

/-- **`_find` on a relative path, called on the group node `(g, c)`, is the model's `lookFrom`**
started at that node (`"."` and `""` are not paths of the model) -/
theorem gen_find_rel (r : Rec V) (hne : r ≠ []) (hwf : ∀ p ∈ r, WF p) (g : Path) (c : Nat) (cur : RNode V)
    (hcur : cur.kind.isGroup = true) (hfrom : GrpFrom r g c) (k : Key) (rest : Path) (hdot : k :: rest ≠ ["."]) :
    _find ⟨r.reverse, g, (c : Int), false⟩ ⟨false, k :: rest⟩ =
      match lookFrom r g c cur (k :: rest) with
      | .found cf _ => .ok (some (cf : Int))
      | .part _ _ => .ok none
      | .insideValue => .error .valueError :=
  gen_find_from r hne hwf _ rfl rfl false g c cur hcur hfrom k rest
    (by simpa [pyPathIsDot] using hdot) (by simp [nodeOf, hcur]) rfl

/-! ## under the record invariant of C01 -/

theorem wf_of_inv : ∀ (r : Rec V), Inv r → ∀ p ∈ r, WF p
  | [], _, p, hp => by cases hp
  | q :: r, h, p, hp => by
    obtain ⟨h1, _, h3⟩ := h
    rcases List.mem_cons.mp hp with rfl | hp'
    · exact h1
    · exact wf_of_inv r h3 p hp'

/-- `_find` of the source is `look` of the model on every record the write paths can produce
(`Inv` is proved preserved by every operation: `MetadorModel.C01.inv_preserved`) -/
theorem gen_find_inv (r : Rec V) (hne : r ≠ []) (hinv : Inv r) (g : Path) (c : Int) (q : Path) :
    _find ⟨r.reverse, g, c, false⟩ ⟨true, q⟩ =
      match look r q with
      | .found cf _ => .ok (some (cf : Int))
      | .part _ _ => .ok none
      | .insideValue => .error .valueError :=
  gen_find r hne (wf_of_inv r hinv) g c q

/-- what `rec[path]` shows (`viewKind`) in terms of the translated `_find`: a path is visible
exactly when `_find` returns an index -/
theorem gen_find_visible (r : Rec V) (hne : r ≠ []) (hinv : Inv r) (q : Path) :
    (∃ i, _find ⟨r.reverse, [], 0, false⟩ ⟨true, q⟩ = .ok (some i)) ↔ ∃ c n, look r q = .found c n := by
  rw [gen_find_inv r hne hinv]
  cases look r q <;> simp

/-! ## non-vacuity: a three-container record with every raw kind -/

deriving instance DecidableEq for Except

private def exRec : Rec Nat :=
  [ [([], vnode), (["g"], vnode), (["g", "z"], ⟨.data 3, []⟩)],
    [([], vnode), (["g"], ⟨.sgroup, []⟩), (["g", "y"], ⟨.data 2, []⟩), (["d"], ⟨.del, []⟩)],
    [([], vnode), (["g"], vnode), (["g", "x"], ⟨.data 1, []⟩), (["d"], ⟨.data 0, []⟩)] ]

example : _find ⟨exRec.reverse, [], 0, false⟩ ⟨true, ["g", "z"]⟩ = .ok (some 2) := by decide +kernel
example : _find ⟨exRec.reverse, [], 0, false⟩ ⟨true, ["g", "y"]⟩ = .ok (some 1) := by decide +kernel
example : _find ⟨exRec.reverse, [], 0, false⟩ ⟨true, ["g", "x"]⟩ = .ok none := by decide +kernel
example : _find ⟨exRec.reverse, [], 0, false⟩ ⟨true, ["d"]⟩ = .ok none := by decide +kernel
example : _find ⟨exRec.reverse, [], 0, false⟩ ⟨true, ["g", "y", "q"]⟩ = .error .valueError := by decide +kernel
example : (_children ⟨exRec.reverse, ["g"], 1, false⟩ : Except PyErr _) = .ok [("y", 1), ("z", 2)] := by decide +kernel

end MetadorModel.Bridge.OverlayScan
