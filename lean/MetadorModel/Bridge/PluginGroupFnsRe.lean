import MetadorModel.Gen.PluginGroupFns
import MetadorModel.Bridge.PluginGroupFnsDict
/-!
Bridge, part 1 (C16): the regular expressions of `plugin/types.py`, as parsed by Python's `re._parser`
on every run (`Gen/PluginGroupFns.lean`), accept exactly the strings that the hand-written recognisers
of `Model/Plugin.lean` accept:

  `SemVerStr(s)` succeeds ↔ `isSemVer s`      `NAME` ↔ `isName`      `QUAL_NAME` ↔ `isQualName`
  `EPName(s)` succeeds ↔ `isEpName s`

(`gen_SEMVER_STR_REGEX`, `gen_NAME`, `gen_QUAL_NAME`, `gen_EP_NAME_REGEX`, via the language `Re.Matches`
and `Re.test_iff`). A change of any of the pattern constants changes the generated `Re` terms and these
proofs have to be redone.
-/
namespace MetadorModel.Bridge.PluginGroupFns
open MetadorModel MetadorModel.Plugin MetadorModel.PluginPy

theorem gen_LETTER (s : Str) : Gen.PluginGroupFns.LETTER.Matches s ↔ ∃ c, s = [c] ∧ isLetter c = true := by
  simp [Gen.PluginGroupFns.LETTER, Re.Matches, Atom.ok, ClassItem.ok, isLetter]

theorem gen_ALNUM (s : Str) : Gen.PluginGroupFns.ALNUM.Matches s ↔ ∃ c, s = [c] ∧ isAlnum c = true := by
  simp [Gen.PluginGroupFns.ALNUM, Re.Matches, Atom.ok, ClassItem.ok, isAlnum, isLetter, isDigit]

theorem gen_LETSEP (s : Str) : Gen.PluginGroupFns.LETSEP.Matches s ↔ ∃ c, s = [c] ∧ isSep c = true := by
  simp [Gen.PluginGroupFns.LETSEP, Re.Matches, Atom.ok, ClassItem.ok, isSep]

theorem gen_NSSEP (s : Str) : Gen.PluginGroupFns.NSSEP.Matches s ↔ s = ['.'] := by
  simp [Gen.PluginGroupFns.NSSEP, Re.Matches, Atom.ok]

theorem gen_DIGIT_plus (s : Str) : (Re.plus Gen.PluginGroupFns.DIGIT).Matches s ↔ digs s := by
  unfold Gen.PluginGroupFns.DIGIT
  rw [matches_plus_atom]
  simp [digs, Atom.ok, ClassItem.ok, isDigit]

/-! ## the item lists the longer patterns are sequences of

Python's parser inlines `NAME` into `QUAL_NAME` and both into `EP_NAME_REGEX`; as lists of items the
longer patterns are appends of the shorter ones (each equation below holds by `rfl`). -/

theorem seqOf_single (r : Re) : Re.seqOf [r] = r := rfl

abbrev nameItems : List Re := [Gen.PluginGroupFns.LETTER, Gen.PluginGroupFns.ALNUM,
  .star (Re.seqOf [.opt Gen.PluginGroupFns.LETSEP, Gen.PluginGroupFns.ALNUM])]

abbrev qualItems : List Re := nameItems ++ [.star (Re.seqOf ([Gen.PluginGroupFns.NSSEP] ++ nameItems))]

abbrev semverItems : List Re := [.plus Gen.PluginGroupFns.DIGIT, Gen.PluginGroupFns.NSSEP,
  .plus Gen.PluginGroupFns.DIGIT, Gen.PluginGroupFns.NSSEP, .plus Gen.PluginGroupFns.DIGIT]

theorem matches_semver (s : Str) : (Re.seqOf semverItems).Matches s ↔ isSemVer s = true := by
  rw [isSemVer_iff]
  simp only [matches_seqOf_cons, seqOf_single, gen_DIGIT_plus, gen_NSSEP]
  constructor
  · rintro ⟨a, _, rfl, ha, _, _, rfl, rfl, b, _, rfl, hb, _, c, rfl, rfl, hc⟩
    exact ⟨a, b, c, by simp, ha, hb, hc⟩
  · rintro ⟨a, b, c, rfl, ha, hb, hc⟩
    exact ⟨a, _, rfl, ha, _, _, rfl, rfl, b, _, rfl, hb, _, c, rfl, rfl, hc⟩

/-- `SemVerStr(s)` succeeds exactly on the strings the model calls semantic version strings -/
theorem gen_SEMVER_STR_REGEX (s : Str) : Gen.PluginGroupFns.SemVerStr_pattern.test s = isSemVer s := by
  rw [Bool.eq_iff_iff, Re.test_iff]
  exact matches_semver s

/-- `({LETSEP}?{ALNUM})` -/
def tailPiece (x : Str) : Prop :=
  (∃ a, x = [a] ∧ isAlnum a = true) ∨ ∃ c a, x = [c, a] ∧ isSep c = true ∧ isAlnum a = true

theorem matches_tailPiece (x : Str) :
    (Re.seqOf [.opt Gen.PluginGroupFns.LETSEP, Gen.PluginGroupFns.ALNUM]).Matches x ↔ tailPiece x := by
  rw [matches_seqOf_cons]
  simp only [Re.seqOf, Re.Matches.eq_6, gen_LETSEP, gen_ALNUM, tailPiece]
  constructor
  · rintro ⟨s1, s2, rfl, h1 | ⟨c, rfl, hc⟩, a, rfl, ha⟩
    · subst h1; left; exact ⟨a, rfl, ha⟩
    · right; exact ⟨c, a, rfl, hc, ha⟩
  · rintro (⟨a, rfl, ha⟩ | ⟨c, a, rfl, hc, ha⟩)
    · exact ⟨[], [a], rfl, Or.inl rfl, a, rfl, ha⟩
    · exact ⟨[c], [a], rfl, Or.inr ⟨c, rfl, hc⟩, a, rfl, ha⟩

theorem isSep_not_alnum {c : Char} (h : isSep c = true) : isAlnum c = false := by
  simp only [isSep, Bool.or_eq_true, beq_iff_eq] at h
  rcases h with rfl | rfl <;> decide

theorem nameTail_cons_alnum {c : Char} {l : Str} (hc : isAlnum c = true) (hl : nameTail l = true) :
    nameTail (c :: l) = true := by
  cases l with
  | nil => simpa [nameTail] using hc
  | cons d r => simp [nameTail, hc, hl]

theorem nameTail_cons_sep {c a : Char} {l : Str} (hc : isSep c = true) (ha : isAlnum a = true)
    (hl : nameTail l = true) : nameTail (c :: a :: l) = true := by
  simp [nameTail, isSep_not_alnum hc, hc, ha, hl]

theorem nameTail_iff (s : Str) : nameTail s = true ↔
    ∃ l : List Str, s = l.flatten ∧ ∀ x ∈ l, tailPiece x := by
  constructor
  · intro h
    fun_induction nameTail s with
    | case1 => exact ⟨[], rfl, by simp⟩
    | case2 c => exact ⟨[[c]], rfl, by simpa [tailPiece] using h⟩
    | case3 c d rest hc ih =>
      obtain ⟨l, hl, hp⟩ := ih h
      refine ⟨[c] :: l, by simp [hl], ?_⟩
      intro x hx
      rcases List.mem_cons.mp hx with rfl | hx
      · left; exact ⟨c, rfl, hc⟩
      · exact hp x hx
    | case4 c d rest hc hsd ih =>
      obtain ⟨l, hl, hp⟩ := ih h
      simp only [Bool.and_eq_true] at hsd
      refine ⟨[c, d] :: l, by simp [hl], ?_⟩
      intro x hx
      rcases List.mem_cons.mp hx with rfl | hx
      · right; exact ⟨c, d, rfl, hsd.1, hsd.2⟩
      · exact hp x hx
    | case5 c d rest hc hsd => simp at h
  · rintro ⟨l, rfl, hp⟩
    induction l with
    | nil => rfl
    | cons x l ih =>
      have hl := ih (fun y hy => hp y (List.mem_cons_of_mem _ hy))
      rcases hp x (List.mem_cons_self) with ⟨a, rfl, ha⟩ | ⟨c, a, rfl, hc, ha⟩
      · exact nameTail_cons_alnum ha hl
      · exact nameTail_cons_sep hc ha hl

theorem matches_nameTail (s : Str) :
    (Re.star (Re.seqOf [.opt Gen.PluginGroupFns.LETSEP, Gen.PluginGroupFns.ALNUM])).Matches s ↔
      nameTail s = true := by
  rw [nameTail_iff]
  simp only [Re.Matches.eq_7, matches_tailPiece]

theorem matches_name (s : Str) : (Re.seqOf nameItems).Matches s ↔ isName s = true := by
  simp only [matches_seqOf_cons, gen_LETTER, gen_ALNUM, seqOf_single, matches_nameTail]
  constructor
  · rintro ⟨_, _, rfl, ⟨c, rfl, hc⟩, _, t, rfl, ⟨d, rfl, hd⟩, ht⟩
    simp [isName, hc, hd, ht]
  · intro h
    match s, h with
    | c :: d :: rest, h =>
      simp only [isName, Bool.and_eq_true] at h
      exact ⟨[c], _, rfl, ⟨c, rfl, h.1.1⟩, [d], rest, rfl, ⟨d, rfl, h.1.2⟩, h.2⟩

theorem isAlnum_ne_dot {c : Char} (h : isAlnum c = true) : c ≠ '.' :=
  ne_of_test h (by decide)

theorem isLetter_ne_dot {c : Char} (h : isLetter c = true) : c ≠ '.' :=
  ne_of_test h (by decide)

theorem tailPiece_noDot {x : Str} (h : tailPiece x) : ∀ c ∈ x, c ≠ '.' := by
  rcases h with ⟨a, rfl, ha⟩ | ⟨c, a, rfl, hc, ha⟩
  · intro d hd; simp only [List.mem_singleton] at hd; subst hd; exact isAlnum_ne_dot ha
  · intro d hd
    simp only [List.mem_cons, List.not_mem_nil, or_false] at hd
    rcases hd with rfl | rfl
    · exact ne_of_test hc (by decide)
    · exact isAlnum_ne_dot ha

theorem isName_noDot {n : Str} (h : isName n = true) : ∀ c ∈ n, c ≠ '.' := by
  match n, h with
  | a :: b :: rest, h =>
    simp only [isName, Bool.and_eq_true] at h
    obtain ⟨l, rfl, hl⟩ := (nameTail_iff rest).mp h.2
    intro c hc
    simp only [List.mem_cons, List.mem_flatten] at hc
    rcases hc with rfl | rfl | ⟨x, hx, hcx⟩
    · exact isLetter_ne_dot h.1.1
    · exact isAlnum_ne_dot h.1.2
    · exact tailPiece_noDot (hl x hx) c hcx

theorem isQualName_iff (s : Str) : isQualName s = true ↔
    ∃ (n0 : Str) (l : List Str), s = n0 ++ l.flatten ∧ isName n0 = true ∧
      ∀ x ∈ l, ∃ n, x = '.' :: n ∧ isName n = true := by
  constructor
  · intro h
    obtain ⟨p, t, hs, hjoin⟩ := splitChar_spec '.' s
    simp only [isQualName, hs, List.all_cons, Bool.and_eq_true, List.all_eq_true] at h
    refine ⟨p, t.map (fun x => '.' :: x), hjoin, h.1, ?_⟩
    intro x hx
    simp only [List.mem_map] at hx
    obtain ⟨n, hn, rfl⟩ := hx
    exact ⟨n, rfl, h.2 n hn⟩
  · rintro ⟨n0, l, rfl, h0, hl⟩
    have key : ∀ (l : List Str) (n0 : Str), isName n0 = true →
        (∀ x ∈ l, ∃ n, x = '.' :: n ∧ isName n = true) →
        (splitChar '.' (n0 ++ l.flatten)).all isName = true := by
      intro l
      induction l with
      | nil =>
        intro n0 h0 _
        simp [splitChar_noSep (isName_noDot h0), h0]
      | cons x l ih =>
        intro n0 h0 hl
        obtain ⟨n, rfl, hn⟩ := hl _ (List.mem_cons_self)
        simp only [List.flatten_cons, List.cons_append]
        rw [splitChar_append _ (isName_noDot h0)]
        simp only [List.all_cons, h0, Bool.true_and]
        exact ih n hn (fun y hy => hl y (List.mem_cons_of_mem _ hy))
    exact key l n0 h0 hl

theorem matches_qual (s : Str) : (Re.seqOf qualItems).Matches s ↔ isQualName s = true := by
  rw [matches_seqOf_append nameItems _ (List.cons_ne_nil _ _) (List.cons_ne_nil _ _), isQualName_iff]
  simp only [seqOf_single, Re.Matches.eq_7,
    matches_seqOf_append _ _ (List.cons_ne_nil _ _) (List.cons_ne_nil _ _), matches_name, gen_NSSEP]
  constructor
  · rintro ⟨n0, _, rfl, h0, l, rfl, hl⟩
    refine ⟨n0, l, rfl, h0, ?_⟩
    intro x hx
    obtain ⟨_, n, rfl, rfl, hn⟩ := hl x hx
    exact ⟨n, rfl, hn⟩
  · rintro ⟨n0, l, rfl, h0, hl⟩
    refine ⟨n0, _, rfl, h0, l, rfl, ?_⟩
    intro x hx
    obtain ⟨n, rfl, hn⟩ := hl x hx
    exact ⟨['.'], n, rfl, rfl, hn⟩

/-- what `splitUU` returns, put together again -/
theorem splitUU_spec (s acc : Str) :
    ∃ h t, splitUU s acc = h :: t ∧ acc.reverse ++ s = h ++ (t.map (fun x => '_' :: '_' :: x)).flatten := by
  fun_induction splitUU s acc with
  | case1 acc => exact ⟨acc.reverse, [], rfl, by simp⟩
  | case2 rest acc ih =>
    obtain ⟨h, t, hs, hj⟩ := ih
    refine ⟨acc.reverse, h :: t, by rw [hs], ?_⟩
    simp only [List.reverse_nil, List.nil_append] at hj
    simp [hj]
  | case3 c rest acc hne ih =>
    obtain ⟨h, t, hs, hj⟩ := ih
    exact ⟨h, t, hs, by simpa using hj⟩

theorem isEpName_iff (s : Str) : isEpName s = true ↔
    ∃ n v, s = n ++ '_' :: '_' :: v ∧ isQualName n = true ∧ isSemVer v = true := by
  constructor
  · intro h
    obtain ⟨p, t, hs, hj⟩ := splitUU_spec s []
    simp only [isEpName, hs] at h
    match t, h with
    | [v], h =>
      simp only [Bool.and_eq_true] at h
      exact ⟨p, v, by simpa using hj, h.1, h.2⟩
  · rintro ⟨n, v, rfl, hn, hv⟩
    simp only [isEpName]
    rw [splitUU_append n v [] (isQualName_noUU n hn) (isSemVer_noUnderscore hv)]
    simp [hn, hv]

theorem matches_epname (s : Str) :
    (Re.seqOf (qualItems ++ ([.atom (.chr '_'), .atom (.chr '_')] ++ semverItems))).Matches s ↔
      isEpName s = true := by
  have hu : ∀ x, (Re.seqOf [.atom (.chr '_'), .atom (.chr '_')]).Matches x ↔ x = ['_', '_'] := by
    intro x
    simp only [matches_seqOf_cons, seqOf_single, Re.Matches.eq_3, Atom.ok, beq_iff_eq]
    constructor
    · rintro ⟨_, _, rfl, ⟨c, rfl, rfl⟩, d, rfl, rfl⟩; rfl
    · rintro rfl; exact ⟨['_'], ['_'], rfl, ⟨'_', rfl, rfl⟩, '_', rfl, rfl⟩
  rw [matches_seqOf_append qualItems _ (List.cons_ne_nil _ _) (by simp), isEpName_iff]
  simp only [matches_qual, matches_seqOf_append [_, _] semverItems (List.cons_ne_nil _ _) (List.cons_ne_nil _ _),
    matches_semver, hu]
  constructor
  · rintro ⟨n, _, rfl, hn, _, v, rfl, rfl, hv⟩
    exact ⟨n, v, by simp, hn, hv⟩
  · rintro ⟨n, v, rfl, hn, hv⟩
    exact ⟨n, _, rfl, hn, _, v, rfl, rfl, hv⟩

/-- `EPName(s)` succeeds exactly on the strings the model calls entry point names -/
theorem gen_EP_NAME_REGEX (s : Str) : Gen.PluginGroupFns.EPName_pattern.test s = isEpName s := by
  rw [Bool.eq_iff_iff, Re.test_iff]
  exact matches_epname s

theorem gen_NAME (s : Str) : Gen.PluginGroupFns.NAME.test s = isName s := by
  rw [Bool.eq_iff_iff, Re.test_iff]; exact matches_name s

theorem gen_QUAL_NAME (s : Str) : Gen.PluginGroupFns.QUAL_NAME.test s = isQualName s := by
  rw [Bool.eq_iff_iff, Re.test_iff]; exact matches_qual s

end MetadorModel.Bridge.PluginGroupFns
