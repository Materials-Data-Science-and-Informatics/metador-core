import MetadorModel.Gen.CodecFns
import MetadorModel.Proofs.Codec
/-! Bridge (C12), `schema/base.py`: the functions regenerated from the source on every run
(`Gen/CodecFns.lean`, `harness/translate_c12.py`) equal the hand-written model functions of
`Model/CodecParsers.lean`. One theorem per source function, so that a broken proof names it. -/
namespace MetadorModel.Bridge.CodecFns
open MetadorModel MetadorModel.Codec MetadorModel.CodecParsers MetadorModel.CodecPy

theorem hasKey_setKey_self (k : Str) (x : Json) (d : Dict) : hasKey k (setKey k x d) = true := by
  rw [hasKey_eq_isSome, lookup_setKey_self]; rfl

theorem hasKey_setKey_ne (k k' : Str) (x : Json) (d : Dict) (h : k' ≠ k) : hasKey k' (setKey k x d) = hasKey k' d := by
  rw [hasKey_eq_isSome, lookup_setKey_ne k k' x d h, hasKey_eq_isSome]

theorem kwRest_setKey_alias (x : Json) (d : Dict) : kwRest (setKey kByAlias x d) = kwRest d :=
  filter_setKey _ kByAlias x d (fun y => by simp)

theorem kwRest_setKey_none (x : Json) (d : Dict) : kwRest (setKey kExcludeNone x d) = kwRest d :=
  filter_setKey _ kExcludeNone x d (fun y => by simp)

theorem kwFlag_of_hasKey_false (k : Str) (d : Dict) (h : hasKey k d = false) : kwFlag k d = false := by
  simp [kwFlag, lookup_none_of_hasKey k d h]

/-- `_mod_def_dump_args`: `by_alias` and `exclude_none` become `True` unless given, nothing else changes, it never
raises (stated through what pydantic reads, so that the order in which the two keys are added does not matter) -/
theorem gen_mod_def_dump_args (kw : Dict) : ∃ kw', Gen.CodecFns._mod_def_dump_args kw = .ok kw' ∧
    dumpOpts kw' = dumpOpts (forcedKw kw) ∧ kwRest kw' = kwRest (forcedKw kw) := by
  have hne : kByAlias ≠ kExcludeNone := by decide
  have h1 : (['b', 'y', '_', 'a', 'l', 'i', 'a', 's'] : Str) = kByAlias := rfl
  have h2 : (['e', 'x', 'c', 'l', 'u', 'd', 'e', '_', 'n', 'o', 'n', 'e'] : Str) = kExcludeNone := rfl
  refine ⟨_, rfl, ?_, ?_⟩ <;>
  · simp only [forcedKw, h1, h2, dumpOpts]
    cases ha : hasKey kByAlias kw <;> cases hn : hasKey kExcludeNone kw <;>
      simp [hn, hasKey_setKey_ne, hne, hne.symm, kwRest_setKey_alias, kwRest_setKey_none, kwFlag, lookup_setKey_self,
        lookup_setKey_ne]

/-- `BaseModelPlus.json(**kw)` is pydantic's `json` with the forced options -/
theorem gen_json (L : Lib) (leaf : EncLeaf) (v : PyVal) (kw : Dict) :
    Gen.CodecFns.BaseModelPlus.json L leaf v kw = jsonText L leaf v kw := by
  obtain ⟨kw', h0, h1, h2⟩ := gen_mod_def_dump_args kw
  simp only [Gen.CodecFns.BaseModelPlus.json, h0, jsonText, pydJson, h1, h2]

theorem gen_json_dict (L : Lib) (leaf : EncLeaf) (v : PyVal) (kw : Dict) :
    Gen.CodecFns.BaseModelPlus.json_dict L leaf v kw = jsonDict L leaf v kw := by
  simp only [Gen.CodecFns.BaseModelPlus.json_dict, gen_json, jsonDict, CodecPy.jsonLoads]
  cases jsonText L leaf v kw <;> rfl

/-- `.yaml()` ignores its keyword arguments and dumps the default JSON form -/
theorem gen_yaml (L : Lib) (leaf : EncLeaf) (v : PyVal) (kw : Dict) :
    Gen.CodecFns.BaseModelPlus.yaml L leaf v kw = yamlText L leaf v := by
  simp only [Gen.CodecFns.BaseModelPlus.yaml, gen_json, yamlText, jsonDict, toYamlStr]
  cases jsonText L leaf v [] with
  | error e => rfl
  | ok s => dsimp only; cases loadsOrRaise L s <;> rfl

theorem gen_bytes (L : Lib) (leaf : EncLeaf) (v : PyVal) :
    Gen.CodecFns.BaseModelPlus.__bytes__ L leaf v = bytesOf L leaf v := by
  simp only [Gen.CodecFns.BaseModelPlus.__bytes__, gen_json, bytesOf, utf8]
  cases jsonText L leaf v [] <;> rfl

theorem gen_str (L : Lib) (leaf : EncLeaf) (v : PyVal) :
    Gen.CodecFns.BaseModelPlus.__str__ L leaf v = strOf L leaf v := by
  simp only [Gen.CodecFns.BaseModelPlus.__str__, gen_json, strOf]

theorem gen_parse_file (L : Lib) (t : Ty) (path : Str) :
    Gen.CodecFns.BaseModelPlus.parse_file L t path = parseFile L t path := by
  simp only [Gen.CodecFns.BaseModelPlus.parse_file, parseFile]

/-- `parse_raw`: JSON first, the YAML parser exactly after a `ValidationError`, everything else
is passed on -/
theorem gen_parse_raw (L : Lib) (t : Ty) (dat : Str) (kw : Dict) :
    Gen.CodecFns.BaseModelPlus.parse_raw L t dat kw = parseRaw L t dat kw := by
  simp only [Gen.CodecFns.BaseModelPlus.parse_raw, parseRaw]
  cases pydParseRaw L t dat kw with
  | ok v => rfl
  | error e => cases e <;> simp [catches, ExcName.catches] <;> rfl

theorem gen_config : Gen.CodecFns.BaseModelPlus.Config = baseConfig := rfl

theorem gen_metaclass_BaseModelPlus : Gen.CodecFns.BaseModelPlus.metaclass = "DynEncoderModelMetaclass" := rfl

end MetadorModel.Bridge.CodecFns
