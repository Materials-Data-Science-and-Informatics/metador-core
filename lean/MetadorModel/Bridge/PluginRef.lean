import MetadorModel.Gen.PluginRef
/-!
Bridge between the Lean text generated from `PluginRef` in /repo (`Gen/PluginRef.lean`,
regenerated on every run) and the hand-written model the C16 theorems are about.
A change of `__eq__`, `__ge__`, `supports` or `__hash__` changes the generated definitions
and these equalities have to be re-proved.
-/
namespace MetadorModel.Bridge.PluginRef
open MetadorModel

theorem gen_eq (a b : Plugin.Ref) : Gen.PluginRef.eq a b = some (Plugin.eq a b) := by
  simp [Gen.PluginRef.eq, Plugin.eq]

theorem gen_ge (a b : Plugin.Ref) : Gen.PluginRef.ge a b = some (Plugin.ge a b) := by
  simp only [Gen.PluginRef.ge, Plugin.ge, bne_iff_ne, apply_ite some]

theorem gen_supports (a b : Plugin.Ref) :
    Gen.PluginRef.supports a b = some (Plugin.supports a b) := by
  simp only [Gen.PluginRef.supports, Plugin.supports, bne_iff_ne, decide_eq_true_eq, apply_ite some]

theorem gen_hashKey (a : Plugin.Ref) : Gen.PluginRef.hashKey a = Plugin.hashKey a := rfl

/-- the class defines exactly `__eq__` and `__ge__` and is decorated with
`functools.total_ordering`, so `<`, `<=`, `>` are the derived `_lt_from_ge`, `_le_from_ge`,
`_gt_from_ge` modelled by `Plugin.ltFrom/leFrom/gtFrom`. -/
theorem gen_cmp_ops : Gen.PluginRef.definedCmpOps = ["__eq__", "__ge__"] ∧
    Gen.PluginRef.totalOrderingDecorated = true := by decide

end MetadorModel.Bridge.PluginRef
