import MetadorModel.Gen.BytesFns
import MetadorModel.Proofs.Bytes
/-! Bridge theorems for `_hash_alg`, `hashsum`, `DEF_HASH_ALG`, `qualified_hashsum`, `file_hashsum` (part of `Bridge/BytesFns.lean`, which explains the set-up; a separate
module so that a broken proof is attributed to the function group that changed). -/
namespace MetadorModel.Bridge.BytesFns
open MetadorModel MetadorModel.Bytes MetadorModel.BytesPy
theorem gen_def_hash_alg : Gen.BytesFns.DEF_HASH_ALG = sha256 := by decide

/-- the table `_hash_alg`: its keys are the model's `hashAlgs`, and the constructor stored under
a key is `hashlib.<key>` -/
theorem gen_hash_alg {σ : Type} (hl : HashLib σ) (alg : Str) :
    (pyDictGet (Gen.BytesFns._hash_alg hl) alg).map (fun c => c ()) =
      if alg ∈ hashAlgs then some (hl.new alg) else none := by
  simp only [Gen.BytesFns._hash_alg, pyDictGet, hashAlgs, sha256, sha512, List.mem_cons, List.mem_nil_iff,
    or_false]
  by_cases h1 : alg = ['s', 'h', 'a', '2', '5', '6']
  · simp [h1]
  · by_cases h2 : alg = ['s', 'h', 'a', '5', '1', '2'] <;> simp [h1, h2]

/-- the `while True:` loop: second component of the loop state (the hash object) is the
model's `readLoop` -/
theorem gen_hashsum_loop {σ : Type} (hl : HashLib σ) :
    ∀ (fuel : Nat) (data : Bytes) (h : σ),
      (Gen.BytesFns.hashsum.loop1 hl fuel data h).2 = readLoop hl fuel data h := by
  intro fuel
  induction fuel with
  | zero => intro data h; rfl
  | succ f ih =>
    intro data h
    simp only [Gen.BytesFns.hashsum.loop1, readLoop]
    split <;> simp_all

theorem gen_hashsum {σ : Type} (hl : HashLib σ) (d : PyData) (alg : Str) :
    Gen.BytesFns.hashsum hl d alg = hashsum hl d.content alg := by
  have hk := gen_hash_alg hl alg
  have hloop := gen_hashsum_loop hl
  unfold Gen.BytesFns.hashsum hashsum
  cases hg : pyDictGet (Gen.BytesFns._hash_alg hl) alg with
  | none =>
    rw [hg] at hk
    by_cases ha : alg ∈ hashAlgs <;> simp_all
  | some c =>
    rw [hg] at hk
    by_cases ha : alg ∈ hashAlgs
    · simp only [ha, if_true, Option.map_some, Option.some.injEq] at hk
      cases d <;> simp [PyData.content, ha, hk, ← hloop]
    · simp [ha] at hk

theorem gen_qualified_hashsum {σ : Type} (hl : HashLib σ) (d : PyData) (alg : Str) :
    Gen.BytesFns.qualified_hashsum hl d alg = qualifiedHashsum hl d.content alg ∧
    Gen.BytesFns.qualified_hashsum_d hl d = qualifiedHashsum hl d.content sha256 := by
  have h : ∀ a, Gen.BytesFns.qualified_hashsum hl d a = qualifiedHashsum hl d.content a := by
    intro a
    unfold Gen.BytesFns.qualified_hashsum qualifiedHashsum
    rw [gen_hashsum]
    cases hashsum hl d.content a <;> simp
  exact ⟨h alg, by unfold Gen.BytesFns.qualified_hashsum_d; rw [h, gen_def_hash_alg]⟩

/-- `file_hashsum(path, alg)`: `content` is what the file at `path` holds -/
theorem gen_file_hashsum {σ : Type} (hl : HashLib σ) (content : Bytes) (alg : Str) :
    Gen.BytesFns.file_hashsum hl content alg = qualifiedHashsum hl content alg := by
  unfold Gen.BytesFns.file_hashsum
  simp only [(gen_qualified_hashsum hl _ _).1, PyData.content]
  cases qualifiedHashsum hl content alg <;> rfl

end MetadorModel.Bridge.BytesFns
