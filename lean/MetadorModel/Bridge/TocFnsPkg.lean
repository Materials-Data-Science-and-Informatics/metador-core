import MetadorModel.Bridge.TocFnsPaths
/-!
# Bridge: translated `TOCPackages` (`Gen/TocFns.lean`) = model (`Model/Container.lean`)

How the bridge theorems are proved is said at the head of `Bridge/TocFnsBase.lean`.
-/
namespace MetadorModel.Bridge.TocFns
open MetadorModel.Container MetadorModel.CtrPy MetadorModel.Gen.TocFns

/-- the model's `addProviders` as a state transition -/
def addProvidersM (pkg : PkgId) (info : PkgMeta) : M Unit :=
  modC fun c => { c with providers := addProviders c.providers pkg info.plugins }

theorem addProviders_eq_foldl (pkg : PkgId) : ∀ (l : List SRef) (prov : List (SRef × List PkgId)),
    addProviders prov pkg l = l.foldl (fun pr r => alSet pr r (setAdd ((alGet pr r).getD []) pkg)) prov
  | [], _ => rfl
  | r :: l, prov => by rw [addProviders, List.foldl_cons, addProviders_eq_foldl pkg l]

theorem gen_add_providers : TOCPackages._add_providers = addProvidersM := by
  funext pkg info s
  simp only [TOCPackages._add_providers, addProvidersM, bind_pure_unit, run_modC, addProviders_eq_foldl]
  refine forEachM_fold (fun pr => { s with c := { s.c with providers := pr } }) _ (fun _ => True) _ _ trivial
    fun r _ pr _ => ⟨?_, trivial⟩
  cases h : alGet pr r <;> simp [mstep, h, alGet_alSet_same, alSet_alSet]

theorem gen_pkg_register (pkg : PkgId) (plugins : List SRef) :
    TOCPackages._register addProvidersM pkg ⟨pkg, plugins⟩ = pkgRegister pkg plugins := by
  funext s
  simp only [TOCPackages._register, pkgRegister, gen_pkginfo_path_for', addProvidersM, bind_pure_unit, mstep]
  cases rawCreate s.raw (pkgPath pkg) (.ds (.pkginfo pkg plugins)) <;> rfl

/-- the same with the translated `_add_providers` as callee -/
theorem gen_pkg_register_closed (pkg : PkgId) (plugins : List SRef) :
    TOCPackages._register TOCPackages._add_providers pkg ⟨pkg, plugins⟩ = pkgRegister pkg plugins := by
  rw [gen_add_providers]; exact gen_pkg_register pkg plugins

def setProv (s : St) (prov : List (SRef × List PkgId)) : St := { s with c := { s.c with providers := prov } }

/-- what one iteration of the loop of `_unregister` over `info.plugins` does -/
def rmProvRun (pkg : PkgId) (r : SRef) (s : St) : Res Unit :=
  match alGet s.c.providers r with
  | none => (.error .key, s)
  | some ps =>
    if pkg ∈ ps then
      (.ok (), setProv s
        (if (setRemove ps pkg).isEmpty then alErase s.c.providers r else alSet s.c.providers r (setRemove ps pkg)))
    else (.error .key, s)

/-- a loop with that body, followed by `k`, is the model's `removeProviders` followed by `k`, except that a
`KeyError` half-way leaves the entries visited before updated -/
theorem rmProv_loop (pkg : PkgId) {f : SRef → M Unit} (hf : ∀ r s, f r s = rmProvRun pkg r s) {β : Type}
    (k : Unit → M β) : ∀ (l : List SRef) (s : St),
      Agree ((forEachM l f >>= k) s)
        (match removeProviders s.c.providers pkg l with
          | .ok prov => k () (setProv s prov)
          | .error e => (.error e, s))
  | [], s => Agree.rfl' rfl
  | r :: rs, s => by
    rw [forEachM_cons, bind_bind, run_bind, hf, rmProvRun, removeProviders]
    cases alGet s.c.providers r with
    | none => exact Agree.rfl' rfl
    | some ps =>
      by_cases hm : pkg ∈ ps
      · simp only [hm, not_true_eq_false, if_false, if_true]
        have ih := rmProv_loop pkg hf k rs (setProv s
          (if (setRemove ps pkg).isEmpty then alErase s.c.providers r else alSet s.c.providers r (setRemove ps pkg)))
        revert ih
        simp only [setProv]
        cases removeProviders _ pkg rs with
        | ok prov => exact id
        | error e => exact fun ih => ⟨ih.1, ih.2.1, ih.2.2.1, fun _ h => by cases h⟩
      · simp only [hm, not_false_eq_true, if_true, if_false]
        exact Agree.rfl' rfl

/-- `TOCPackages._unregister`: on a raw tree in which every node has its parent group (`PClosed`, part of
`Inv`), the translated method and `pkgUnregister` have the same outcome and leave the same state; if the loop
over the package's plugins raises (`KeyError`: a plugin without provider entry), the provider entries visited
before keep their update in Python and not in the model. -/
theorem gen_pkg_unregister (pkg : PkgId) (s : St) (hc : PClosed s.raw) :
    Agree (TOCPackages._unregister pkg s) (pkgUnregister pkg s) := by
  simp only [TOCPackages._unregister, pkgUnregister, gen_pkginfo_path_for', bind_pure_unit, mstep]
  cases h1 : rawDel s.raw (pkgPath pkg) with
  | error e => exact Agree.rfl' rfl
  | ok t1 =>
    simp only [mstep]
    cases alGet s.c.pkginfos pkg with
    | none => exact Agree.rfl' rfl
    | some info =>
      simp only [mstep]
      refine (rmProv_loop pkg (fun r s => ?_) _ info _).of_eq_right ?_
      · simp only [rmProvRun, mstep]
        cases alGet s.c.providers r with
        | none => rfl
        | some ps =>
          by_cases hm : pkg ∈ ps
          · simp only [hm, if_true, mstep]
            cases (setRemove ps pkg).isEmpty <;>
              simp only [if_true, Bool.false_eq_true, if_false, mstep, alGet_alSet_same, Option.isSome_some,
                alErase_alSet, setProv]
          · simp only [hm, if_false, mstep]
      · dsimp only
        cases removeProviders s.c.providers pkg info with
        | error e => rfl
        | ok prov =>
          simp only [run_rawRequireGroup_bind, setProv, parent_after_del (p := packagesP) hc h1, mstep, groupKeys, List.isEmpty_map]

/-- the fold function of `loadPackages` -/
def loadPkgF (acc : List (PkgId × List SRef) × List (SRef × List PkgId)) (kn : Key × Node) :
    List (PkgId × List SRef) × List (SRef × List PkgId) :=
  match kn with
  | (.pkg p, .ds (.pkginfo _ plugins)) => (alSet acc.1 p plugins, addProviders acc.2 p plugins)
  | _ => acc

theorem loadPackages_eq (t : Tree) : loadPackages t = (children t packagesP).foldl loadPkgF ([], []) := rfl

/-- what `TOCPackages.__init__` relies on: below `packages/` there are only package-info datasets -/
structure PkgTreeOK (t : Tree) : Prop where
  keys : KeysOK t
  closed : PClosed t
  dir : get? t packagesP = none ∨ get? t packagesP = some .grp
  pkg : ∀ k n, get? t (packagesP ++ [k]) = some n → ∃ p p' pl, k = .pkg p ∧ n = .ds (.pkginfo p' pl)

theorem gen_pkg_init (s : St) (h : PkgTreeOK s.raw) :
    TOCPackages.__init__ addProvidersM s
      = (.ok (), { s with c := { s.c with pkginfos := (loadPackages s.raw).1, providers := (loadPackages s.raw).2 } }) := by
  simp only [TOCPackages.__init__, bind_pure_unit, mstep, loadPackages_eq]
  rcases h.dir with hd | hd
  · rw [children_eq_nil h.keys h.closed hd]
    simp [has, hd, mstep]
  · simp only [has, hd, Option.isSome_some, if_true, run_rawRequireGroup_bind, mstep, groupItems, forEachM_map]
    refine forEachM_fold (fun x => { s with c := { s.c with pkginfos := x.1, providers := x.2 } }) loadPkgF
      (fun _ => True) _ ([], []) trivial fun kn hm x _ => ⟨?_, trivial⟩
    have hg := (mem_children h.keys (k := kn.1) (n := kn.2)).mp hm
    obtain ⟨p, p', pl, hk, hn⟩ := h.pkg kn.1 kn.2 hg
    obtain ⟨k, n⟩ := kn
    subst hk hn
    simp [mstep, Key.pkgName, dsRead, hg, Val.pkgMeta, addProvidersM, loadPkgF]

end MetadorModel.Bridge.TocFns
