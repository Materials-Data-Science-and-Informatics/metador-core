import MetadorModel.Bridge.PatchSteps
/-!
# Bridge for C11: `_delete_latest_container`, `discard_patch` as regenerated from the source

Only the writable (uncommitted) newest container is ever closed and unlinked, never the base container.
-/
namespace MetadorModel.Bridge.PatchSteps
open MetadorModel.FindFiles MetadorModel.Record MetadorModel.RecordPy MetadorModel.PatchPy
open MetadorModel.Gen.PatchSteps

theorem gen_delete_latest_container (w : World) (hs : List H5) (x : H5) (hf : w.self.files = hs ++ [x]) :
    IH5Record._delete_latest_container w =
      match pyDictDel w.self.ublocks x.name with
      | .error e => (.error e, { w with self := { w.self with files := hs } })
      | .ok d =>
        let w1 : World := { w with self := { w.self with files := hs, ublocks := d },
                                   trace := if x.live then w.trace ++ [.h5close x.name x.rw] else w.trace }
        match getF w.disk x.name with
        | none => (.error .fileNotFound, w1)
        | some _ => (.ok (), { w1 with disk := eraseF w.disk x.name, trace := w1.trace ++ [.unlink x.name] }) := by
  unfold IH5Record._delete_latest_container
  cases hd : pyDictDel w.self.ublocks x.name with
  | error e => simp [hf, pyPop_snoc, pySetFiles, hd]
  | ok d =>
    cases hg : getF w.disk x.name <;> cases hl : x.live <;>
      simp [hf, pyPop_snoc, pySetFiles, pySetUblocks, hd, pyH5Close, pyUnlink, hg, hl]

/-- **`discard_patch`** as regenerated from the source is the step sequence `discardW` -/
theorem gen_discard_patch (s : State) (hp : PyRep s.h) :
    IH5Record.discard_patch (World.ofState s) = discardW s := by
  have hlen : (World.ofState s).self.files.length = s.h.files.length := by rw [ofState_files, mkHandles_length]
  unfold IH5Record.discard_patch discardW
  rw [gen_guards s (fun b => !b)]
  refine guards_congr (fun x => x) rfl fun hc ha hw => ?_
  simp only [Bool.not_eq_false'] at ha hw
  rcases Bool.eq_false_or_eq_true (s.h.files.length == 1) with hone' | hone'
  · simp only [run_bind, run_pySelf, hlen, hone', if_true]
    simp
  · simp only [run_bind, run_pure, run_pySelf, hlen, hone', Bool.false_eq_true, if_false]
    obtain ⟨init, f, ub, hsn, hl, hrw⟩ := hasWritable_snoc hw
    have hfiles : (World.ofState s).self.files = init.map ro ++ [⟨f, true, true⟩] := by
      rw [ofState_files, hsn, mkHandles_snoc, hrw]
    have hni : f ∉ init.map Prod.fst := (snoc_fresh hp.1 hsn).2
    have hdel : pyDictDel (World.ofState s).self.ublocks f = .ok init := by
      show pyDictDel s.h.files f = .ok init
      rw [hsn]; exact (dict_snoc _ _ ub ub hni).2.2.1
    rw [gen_delete_latest_container _ _ _ hfiles]
    simp only [hdel, hl]
    cases hg : getF s.disk f <;>
      simp [World.ofState, Obj.ofHandle, hg, hsn, hrw, mkHandles_snoc, dropLastF_append_single, hc, ha]

theorem gen_discard_patch_model (s : State) (hp : PyRep s.h) (hd : OnDisk s) :
    resOf s (IH5Record.discard_patch (World.ofState s)) = discardPatch s := by
  rw [gen_discard_patch s hp]; exact discardW_res s hp hd

end MetadorModel.Bridge.PatchSteps
