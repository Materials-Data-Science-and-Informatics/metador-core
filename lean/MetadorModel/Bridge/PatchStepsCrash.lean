import MetadorModel.Model.Crash
import MetadorModel.Bridge.PatchStepsModel
/-!
# From step sequences to crash states (C11 translation tie; hand-written side)

`Model/Crash.lean` defines the crash states of a patching session directly (`Reach`, six constructors). The
translation (`Gen/PatchSteps.lean`) yields *sequences of file-system actions*. This file gives the sequences
a crash semantics — the assumptions about the file system stated in the header of `Model/Crash.lean`, one
rule per action — and proves that **every crash state of the session's step sequence is a `Reach` state**
(`session_crash_reach`, `discard_crash_reach`, `recover_crash_reach`). With the bridge theorems
(`gen_create_patch`, `gen_commit_patch`, `gen_mf_commit_patch`: the regenerated methods perform exactly
`createTrace`, `commitTrace`, `… ++ [writeManifest]`) the theorems of `Props/C11.lean`, which are about
`Reach`, apply to what the source does now.

Rules (`Mid`: states while an action is in progress, `Done`: states after it):
* `create f 1024` — the file appears; while it grows its user-block region is a prefix of zeros; afterwards
  it is 1024 zero bytes; payload and "is HDF5" arbitrary;
* `h5close f true` / `reopen f true` / `h5write f` — HDF5 may write: payload arbitrary, user block untouched;
* `h5close f false`, `reopen f false`, `hashPayload f n` — nothing is written;
* `writeUB f u` — in-place write of `frame u` at offset 0, cut after any number of bytes (`torn k`);
* `writeManifest g a b` with `g` the sidecar of `f` — the sidecar of `f` is absent, partial or complete;
* `unlink f` — the file is gone.
No action touches a file other than the one it names.
-/
namespace MetadorModel.Bridge.PatchCrash
open MetadorModel.Chain MetadorModel.UBlock MetadorModel.Crash MetadorModel.PatchPy

variable {P M : Type}

abbrev CAct := Act Crash.Name UBT

def delC (d : Disk P M) (n : Crash.Name) : Disk P M :=
  { d with cont := fun x => if x = n then none else d.cont x }

/-- the disk while action `a` is in progress -/
inductive Mid (side : Crash.Name → Crash.Name) : Disk P M → CAct → Disk P M → Prop
  | create (d : Disk P M) (f : Crash.Name) (n : Nat) (hn : n ≤ UBSIZE) (p : P) (ok : Bool) :
      Mid side d (.create f UBSIZE) (d.setC f ⟨zeros n, p, ok⟩)
  | h5close (d : Disk P M) (f : Crash.Name) (c : CFile P) (hc : d.cont f = some c) (p : P) (ok : Bool) :
      Mid side d (.h5close f true) (d.setC f ⟨c.head, p, ok⟩)
  | reopen (d : Disk P M) (f : Crash.Name) (c : CFile P) (hc : d.cont f = some c) (p : P) (ok : Bool) :
      Mid side d (.reopen f true) (d.setC f ⟨c.head, p, ok⟩)
  | h5write (d : Disk P M) (f : Crash.Name) (c : CFile P) (hc : d.cont f = some c) (p : P) (ok : Bool) :
      Mid side d (.h5write f) (d.setC f ⟨c.head, p, ok⟩)
  | writeUB (d : Disk P M) (f : Crash.Name) (u : UBT) (c : CFile P) (hc : d.cont f = some c) (k : Nat) :
      Mid side d (.writeUB f u) (d.setC f ⟨torn k c.head (frame SZ1024 u), c.payload, c.h5ok⟩)
  | writeManifest (d : Disk P M) (g f : Crash.Name) (hg : g = side f) (a b : Nat) (m : Option M) :
      Mid side d (.writeManifest g a b) (d.setM f m)

/-- the disk after action `a` -/
inductive Done (side : Crash.Name → Crash.Name) : Disk P M → CAct → Disk P M → Prop
  | create (d : Disk P M) (f : Crash.Name) (p : P) (ok : Bool) :
      Done side d (.create f UBSIZE) (d.setC f ⟨zeros UBSIZE, p, ok⟩)
  | h5closeRW (d : Disk P M) (f : Crash.Name) (c : CFile P) (hc : d.cont f = some c) (p : P) (ok : Bool) :
      Done side d (.h5close f true) (d.setC f ⟨c.head, p, ok⟩)
  | h5closeRO (d : Disk P M) (f : Crash.Name) : Done side d (.h5close f false) d
  | reopenRW (d : Disk P M) (f : Crash.Name) (c : CFile P) (hc : d.cont f = some c) (p : P) (ok : Bool) :
      Done side d (.reopen f true) (d.setC f ⟨c.head, p, ok⟩)
  | reopenRO (d : Disk P M) (f : Crash.Name) : Done side d (.reopen f false) d
  | h5write (d : Disk P M) (f : Crash.Name) (c : CFile P) (hc : d.cont f = some c) (p : P) (ok : Bool) :
      Done side d (.h5write f) (d.setC f ⟨c.head, p, ok⟩)
  | hash (d : Disk P M) (f : Crash.Name) (n : Nat) : Done side d (.hashPayload f n) d
  | writeUB (d : Disk P M) (f : Crash.Name) (u : UBT) (c : CFile P) (hc : d.cont f = some c) :
      Done side d (.writeUB f u) (d.setC f ⟨written c.head u, c.payload, c.h5ok⟩)
  | writeManifest (d : Disk P M) (g f : Crash.Name) (hg : g = side f) (a b : Nat) (m : M) :
      Done side d (.writeManifest g a b) (d.setM f (some m))
  | unlink (d : Disk P M) (f : Crash.Name) : Done side d (.unlink f) (delC d f)

/-- the disk when the process is killed somewhere along the step sequence `tr`, started on `d` -/
inductive CrashOf (side : Crash.Name → Crash.Name) : Disk P M → List CAct → Disk P M → Prop
  | here (d : Disk P M) (tr : List CAct) : CrashOf side d tr d
  | mid (d : Disk P M) (a : CAct) (tr : List CAct) (d' : Disk P M) : Mid side d a d' → CrashOf side d (a :: tr) d'
  | step (d : Disk P M) (a : CAct) (tr : List CAct) (d1 d' : Disk P M) :
      Done side d a d1 → CrashOf side d1 tr d' → CrashOf side d (a :: tr) d'

/-- a killed call that performed only a prefix of a step sequence leaves a crash state of that sequence -/
theorem CrashOf.of_prefix {side : Crash.Name → Crash.Name} {d d' : Disk P M} {pre tr : List CAct}
    (h : CrashOf side d pre d') (hp : pre <+: tr) : CrashOf side d tr d' := by
  obtain ⟨rest, rfl⟩ := hp
  induction h with
  | here d tr => exact .here _ _
  | mid d a tr d' hm => exact .mid _ _ _ _ hm
  | step d a tr d1 d' hd _ ih => exact .step _ _ _ _ _ hd ih

theorem setC_setC (d : Disk P M) (n : Crash.Name) (a b : CFile P) : (d.setC n a).setC n b = d.setC n b := by
  simp only [Disk.setC]
  congr 1
  funext x
  by_cases h : x = n <;> simp [h]

theorem setC_cont (d : Disk P M) (n : Crash.Name) (a : CFile P) : (d.setC n a).cont n = some a := by
  simp [Disk.setC]

theorem setM_self (d : Disk P M) (n : Crash.Name) : d.setM n (d.mf n) = d := by
  cases d with
  | mk c m =>
    simp only [Disk.setM]
    congr 1
    funext x
    by_cases h : x = n <;> simp [h]

theorem delC_setC (d : Disk P M) (n : Crash.Name) (a : CFile P) (h : d.cont n = none) : delC (d.setC n a) n = d := by
  cases d with
  | mk c m =>
    simp only [delC, Disk.setC]
    congr 1
    funext x
    by_cases hx : x = n
    · subst hx; simp only [if_true]; exact h.symm
    · simp [hx]

theorem crash_cons {side : Crash.Name → Crash.Name} {d d' : Disk P M} {a : CAct} {tr : List CAct} (h : CrashOf side d (a :: tr) d') :
    d' = d ∨ Mid side d a d' ∨ ∃ d1, Done side d a d1 ∧ CrashOf side d1 tr d' := by
  cases h with
  | here => exact Or.inl rfl
  | mid _ _ _ _ hm => exact Or.inr (Or.inl hm)
  | step _ _ _ d1 _ hd hr => exact Or.inr (Or.inr ⟨d1, hd, hr⟩)

theorem crash_nil {side : Crash.Name → Crash.Name} {d d' : Disk P M} (h : CrashOf side d [] d') : d' = d := by
  cases h; rfl

section Session
variable (side : Crash.Name → Crash.Name) (hside : Function.Injective side)
variable (d0 : Disk P M) (nn : Crash.Name) (uOld uNew : UBT)

def createSteps : List CAct := [.create nn 1024, .h5close nn true, .writeUB nn uOld, .reopen nn true]
def commitSteps : List CAct := [.h5close nn true, .hashPayload nn 1024, .writeUB nn uNew, .reopen nn false]
def mfSteps : Option (Nat × Nat) → List CAct
  | some (a, b) => [.writeManifest (side nn) a b]
  | none => []

/-- the new container with the given user-block region -/
def At (hd : Bytes) (d : Disk P M) : Prop := ∃ p ok, d = d0.setC nn ⟨hd, p, ok⟩

/-- HDF5 may be writing: the user-block region stays, the rest is arbitrary -/
theorem at_payload {hd : Bytes} {c : CFile P} {d : Disk P M} (h : At d0 nn hd d) (hc : d.cont nn = some c)
    (p : P) (ok : Bool) : At d0 nn hd (d.setC nn ⟨c.head, p, ok⟩) := by
  obtain ⟨p0, ok0, rfl⟩ := h
  rw [setC_cont] at hc; cases hc
  rw [setC_setC]
  exact ⟨p, ok, rfl⟩

/-- a step during which HDF5 may write (a writable handle is closed or reopened, or written through): killed
before or during it, or at its end, the user-block region is as it was -/
theorem payload_step {hd : Bytes} {a : CAct} {tr : List CAct} {d d' : Disk P M}
    (ha : a = .h5close nn true ∨ a = .reopen nn true ∨ a = .h5write nn)
    (h0 : At d0 nn hd d) (h : CrashOf side d (a :: tr) d') :
    At d0 nn hd d' ∨ ∃ d1, At d0 nn hd d1 ∧ CrashOf side d1 tr d' := by
  rcases crash_cons h with rfl | hm | ⟨d1, hdone, hr⟩
  · exact Or.inl h0
  · rcases ha with rfl | rfl | rfl <;> cases hm <;> exact Or.inl (at_payload d0 nn h0 ‹_› _ _)
  · rcases ha with rfl | rfl | rfl <;> cases hdone <;> exact Or.inr ⟨_, at_payload d0 nn h0 ‹_› _ _, hr⟩

/-- `IH5UserBlock.save` on the new container: a torn block while it runs, the written block afterwards -/
theorem save_step {hd : Bytes} {u : UBT} {tr : List CAct} {d d' : Disk P M}
    (h0 : At d0 nn hd d) (h : CrashOf side d (.writeUB nn u :: tr) d') :
    (∃ k p ok, d' = d0.setC nn ⟨torn k hd (frame SZ1024 u), p, ok⟩) ∨ At d0 nn hd d' ∨
      ∃ d1, At d0 nn (written hd u) d1 ∧ CrashOf side d1 tr d' := by
  obtain ⟨p, ok, rfl⟩ := h0
  rcases crash_cons h with rfl | hm | ⟨d1, hdone, hr⟩
  · exact Or.inr (Or.inl ⟨p, ok, rfl⟩)
  · cases hm with
    | writeUB _ _ c hc k =>
      rw [setC_cont] at hc; cases hc
      rw [setC_setC]; exact Or.inl ⟨k, p, ok, rfl⟩
  · cases hdone with
    | writeUB _ _ c hc =>
      rw [setC_cont] at hc; cases hc
      rw [setC_setC] at hr; exact Or.inr (Or.inr ⟨_, ⟨p, ok, rfl⟩, hr⟩)

theorem filling_reach {d : Disk P M} (h : At d0 nn (written (zeros UBSIZE) uOld) d) (pf : P) :
    Reach d0 nn uOld uNew pf d := by
  obtain ⟨p, ok, rfl⟩ := h
  exact .filling p ok

theorem creating_reach {d : Disk P M} (h : At d0 nn (zeros UBSIZE) d) (pf : P) : Reach d0 nn uOld uNew pf d := by
  obtain ⟨p, ok, rfl⟩ := h
  exact .creating UBSIZE (Nat.le_refl _) p ok

theorem committed_reach {d : Disk P M} (h : At d0 nn (written (written (zeros UBSIZE) uOld) uNew) d) :
    ∃ pf, Reach d0 nn uOld uNew pf d := by
  obtain ⟨p, ok, rfl⟩ := h
  refine ⟨p, ?_⟩
  have := Reach.manifest (d0 := d0) (nn := nn) (uOld := uOld) (uNew := uNew) (pf := p) (d0.mf nn) ok
  rwa [show d0.mf nn = (d0.setC nn ⟨written (written (zeros UBSIZE) uOld) uNew, p, ok⟩).mf nn from rfl,
    setM_self] at this

include hside in
theorem mf_crash {d d' : Disk P M} (mf : Option (Nat × Nat))
    (hd : At d0 nn (written (written (zeros UBSIZE) uOld) uNew) d)
    (h : CrashOf side d (mfSteps side nn mf) d') : ∃ pf, Reach d0 nn uOld uNew pf d' := by
  cases mf with
  | none => rw [crash_nil h]; exact committed_reach d0 nn uOld uNew hd
  | some ab =>
    obtain ⟨p, ok, rfl⟩ := hd
    rcases crash_cons h with rfl | hm | ⟨d1, hdone, hr⟩
    · exact committed_reach d0 nn uOld uNew ⟨p, ok, rfl⟩
    · cases hm with
      | writeManifest _ f hg _ _ m =>
        cases hside hg
        exact ⟨p, .manifest m ok⟩
    · cases hdone with
      | writeManifest _ f hg _ _ m =>
        cases hside hg
        rw [crash_nil hr]
        exact ⟨p, .manifest (some m) ok⟩

include hside in
/-- steps 4–8, from a state with the uncommitted block in place -/
theorem commit_crash {d d' : Disk P M} (p0 : P) (mf : Option (Nat × Nat))
    (hd : At d0 nn (written (zeros UBSIZE) uOld) d)
    (h : CrashOf side d (commitSteps nn uNew ++ mfSteps side nn mf) d') : ∃ pf, Reach d0 nn uOld uNew pf d' := by
  -- close of the writable handle
  rcases payload_step side d0 nn (.inl rfl) hd h with h' | ⟨d1, hd1, h⟩
  · exact ⟨p0, filling_reach d0 nn uOld uNew h' p0⟩
  -- hashsum_file
  rcases crash_cons h with rfl | hm | ⟨d2, hdone, h⟩
  · exact ⟨p0, filling_reach d0 nn uOld uNew hd1 p0⟩
  · cases hm
  cases hdone
  -- the committing save
  rcases save_step side d0 nn hd1 h with ⟨k, p, ok, rfl⟩ | h' | ⟨d3, hd3, h⟩
  · exact ⟨p, .committing k ok⟩
  · exact ⟨p0, filling_reach d0 nn uOld uNew h' p0⟩
  -- reopen read-only
  rcases crash_cons h with rfl | hm | ⟨d4, hdone, h⟩
  · exact committed_reach d0 nn uOld uNew hd3
  · cases hm
  · cases hdone
    exact mf_crash side hside d0 nn uOld uNew mf hd3 h

/-- HDF5 writes between `create_patch` and `commit_patch` keep the uncommitted block in place -/
theorem writes_crash {d d' : Disk P M} (p0 : P) (n : Nat) (rest : List CAct)
    (hd : At d0 nn (written (zeros UBSIZE) uOld) d)
    (hrest : ∀ d1, At d0 nn (written (zeros UBSIZE) uOld) d1 → CrashOf side d1 rest d' →
      ∃ pf, Reach d0 nn uOld uNew pf d')
    (h : CrashOf side d (List.replicate n (.h5write nn) ++ rest) d') : ∃ pf, Reach d0 nn uOld uNew pf d' := by
  induction n generalizing d with
  | zero => exact hrest d hd (by simpa using h)
  | succ n ih =>
    rcases payload_step side d0 nn (.inr (.inr rfl)) hd h with h' | ⟨d1, hd1, h⟩
    · exact ⟨p0, filling_reach d0 nn uOld uNew h' p0⟩
    · exact ih hd1 h

include hside in
/-- **the whole session**: `create_patch`, any number of HDF5 writes, `commit_patch` (with or without the
manifest sidecar). Every crash state of this step sequence is a crash state of `Model/Crash.lean`.
(`p0`: some payload, to name the session while no payload exists yet.) -/
theorem session_crash_reach {d : Disk P M} (p0 : P) (n : Nat) (mf : Option (Nat × Nat))
    (h : CrashOf side d0 (createSteps nn uOld ++ (List.replicate n (.h5write nn) ++
          (commitSteps nn uNew ++ mfSteps side nn mf))) d) :
    ∃ pf, Reach d0 nn uOld uNew pf d := by
  -- create with mode x
  rcases crash_cons h with rfl | hm | ⟨d1, hdone, h⟩
  · exact ⟨p0, .absent⟩
  · cases hm with
    | create _ k hk p ok => exact ⟨p0, .creating k hk p ok⟩
  cases hdone with
  | create _ p1 ok1 =>
  -- close of the fresh handle
  rcases payload_step side d0 nn (.inl rfl) ⟨p1, ok1, rfl⟩ h with h' | ⟨d2, hd2, h⟩
  · exact ⟨p0, creating_reach d0 nn uOld uNew h' p0⟩
  -- the first save
  rcases save_step side d0 nn hd2 h with ⟨k, p, ok, rfl⟩ | h' | ⟨d3, hd3, h⟩
  · exact ⟨p0, .initUB k p ok⟩
  · exact ⟨p0, creating_reach d0 nn uOld uNew h' p0⟩
  -- reopen r+
  rcases payload_step side d0 nn (.inr (.inl rfl)) hd3 h with h' | ⟨d4, hd4, h⟩
  · exact ⟨p0, filling_reach d0 nn uOld uNew h' p0⟩
  · exact writes_crash side d0 nn uOld uNew p0 n _ hd4
      (fun d1 hd1 hc1 => commit_crash side hside d0 nn uOld uNew p0 mf hd1 hc1) h

include hside in
/-- **recovery**: an interrupted patch (uncommitted block in place) is re-opened `r+`, written to and
committed: the crash states are again crash states of the same session -/
theorem recover_crash_reach {d1 d : Disk P M} (p0 : P) (n : Nat) (mf : Option (Nat × Nat))
    (hd : At d0 nn (written (zeros UBSIZE) uOld) d1)
    (h : CrashOf side d1 (.reopen nn true :: (List.replicate n (.h5write nn) ++
          (commitSteps nn uNew ++ mfSteps side nn mf))) d) :
    ∃ pf, Reach d0 nn uOld uNew pf d := by
  rcases payload_step side d0 nn (.inr (.inl rfl)) hd h with h' | ⟨d4, hd4, h⟩
  · exact ⟨p0, filling_reach d0 nn uOld uNew h' p0⟩
  · exact writes_crash side d0 nn uOld uNew p0 n _ hd4
      (fun d1 hd1 hc1 => commit_crash side hside d0 nn uOld uNew p0 mf hd1 hc1) h

/-- **discard**: closing and unlinking the uncommitted container leads back to the disk before the session
(`hfresh`: the name was free, `h5py.File(path, "x")`) -/
theorem discard_crash_reach {d1 d : Disk P M} (p0 : P) (hfresh : d0.cont nn = none)
    (hd : At d0 nn (written (zeros UBSIZE) uOld) d1)
    (h : CrashOf side d1 [.h5close nn true, .unlink nn] d) :
    ∃ pf, Reach d0 nn uOld uNew pf d := by
  rcases payload_step side d0 nn (.inl rfl) hd h with h' | ⟨d2, hd2, h⟩
  · exact ⟨p0, filling_reach d0 nn uOld uNew h' p0⟩
  rcases crash_cons h with rfl | hm | ⟨d3, hdone3, h3⟩
  · exact ⟨p0, filling_reach d0 nn uOld uNew hd2 p0⟩
  · cases hm
  · obtain ⟨p2, ok2, rfl⟩ := hd2
    cases hdone3
    rw [delC_setC _ _ _ hfresh] at h3
    rw [crash_nil h3]
    exact ⟨p0, .absent⟩

end Session

/-! ## the step sequences of `Bridge/PatchStepsModel.lean` (= of the regenerated methods) are these sessions

File names of the record model are `List Char`, user blocks are `Record.UB`; the crash model has `String` names
and textual user blocks `UBT`. `fn` and `ρ` translate (any injective naming and any rendering will do). -/

section Link
open MetadorModel.Bridge.PatchSteps
variable (fn : FindFiles.Name → Crash.Name) (ρ : Record.UB → UBT)

theorem map_createTrace (path : FindFiles.Name) (ub : Record.UB) :
    (createTrace path ub).map (Act.map fn ρ) = createSteps (fn path) (ρ ub) := rfl

theorem map_commitTrace (f : FindFiles.Name) (ub : Record.UB) :
    (commitTrace f ub).map (Act.map fn ρ) = commitSteps (fn f) (ρ ub) := rfl

/-- the sidecar step of `commitMFW` -/
def mfTrace (f : FindFiles.Name) : Option (Nat × Nat) → List (Act FindFiles.Name Record.UB)
  | some (a, b) => [.writeManifest (FindFiles.manifestFile f) a b]
  | none => []

/-- **every crash state of `create_patch … writes … commit_patch`, as the regenerated methods perform them,
is a crash state of `Model/Crash.lean`** — so `crash_frame`, `crash_committed_opens` and `crash_trichotomy`
(Props/C11) apply to it. -/
theorem steps_session_crash {side : Crash.Name → Crash.Name} (hside : Function.Injective side)
    (hsn : ∀ f, fn (FindFiles.manifestFile f) = side (fn f))
    {d0 d : Disk P M} (p0 : P) (path : FindFiles.Name) (ub ub' : Record.UB) (n : Nat) (mfid : Option (Nat × Nat))
    (h : CrashOf side d0
      ((createTrace path ub ++ (List.replicate n (Act.h5write path) ++ (commitTrace path ub' ++ mfTrace path mfid))).map
        (Act.map fn ρ)) d) :
    ∃ pf, Reach d0 (fn path) (ρ ub) (ρ ub') pf d := by
  apply session_crash_reach side hside d0 (fn path) (ρ ub) (ρ ub') p0 n mfid
  have e : (mfTrace path mfid).map (Act.map fn ρ) = mfSteps side (fn path) mfid := by
    cases mfid with
    | none => rfl
    | some ab => obtain ⟨a, b⟩ := ab; simp [mfTrace, mfSteps, Act.map, hsn]
  simpa only [List.map_append, map_createTrace, map_commitTrace, e, List.map_replicate, Act.map] using h

/-- the trace of `create_patch`: nothing at all when it refuses, steps 1–3 on a fresh name when it goes through -/
theorem createPatchW_trace (s : Record.State) :
    ((createPatchW s).1 ≠ .ok () ∧ (createPatchW s).2.trace = []) ∨
    ∃ path ul, (createPatchW s).1 = .ok () ∧ Record.getF s.disk path = none ∧
      (createPatchW s).2.trace = createTrace path (Record.newPatchUB ul s.next) ∧
      (Record.newPatchUB ul s.next).hash = none := by
  unfold createPatchW
  by_cases h1 : s.h.closed = true
  · exact Or.inl (by rw [if_pos h1]; exact ⟨nofun, rfl⟩)
  by_cases h2 : (!s.h.allow) = true
  · exact Or.inl (by rw [if_neg h1, if_pos h2]; exact ⟨nofun, rfl⟩)
  by_cases h3 : Record.hasWritable s.h = true
  · exact Or.inl (by rw [if_neg h1, if_neg h2, if_pos h3]; exact ⟨nofun, rfl⟩)
  rw [if_neg h1, if_neg h2, if_neg h3]
  generalize Record.lastFile s.h.files = o
  cases s.h.files with
  | nil => exact Or.inl ⟨nofun, rfl⟩
  | cons a rest =>
    cases o with
    | none => exact Or.inl ⟨nofun, rfl⟩
    | some y =>
      simp only
      by_cases h4 : (Record.fileNames s.h).contains (FindFiles.patchFile (FindFiles.inferName a.1) (y.2.idx + 1)) = true
      · exact Or.inl (by rw [if_pos h4]; exact ⟨nofun, rfl⟩)
      by_cases h5 : (Record.getF s.disk (FindFiles.patchFile (FindFiles.inferName a.1) (y.2.idx + 1))).isSome = true
      · exact Or.inl (by rw [if_neg h4, if_pos h5]; exact ⟨nofun, rfl⟩)
      rw [if_neg h4, if_neg h5]
      exact Or.inr ⟨_, y.2, rfl, Option.not_isSome_iff_eq_none.mp h5, rfl, rfl⟩

/-- the trace of `IH5Record.commit_patch`: a prefix of steps 4–7 on the newest container, all of them when it
goes through -/
theorem commitPlainW_trace (s : Record.State) (kw : Kw) :
    (commitPlainW s kw).2.trace = [] ∨
    ∃ f ub p, Record.lastFile s.h.files = some (f, ub) ∧
      (commitPlainW s kw).2.trace <+: commitTrace f { ub with hash := some p } ∧
      ((commitPlainW s kw).1 = .ok () → (commitPlainW s kw).2.trace = commitTrace f { ub with hash := some p }) := by
  rcases commitPlainW_cases s kw with ⟨e, -, h⟩ | ⟨f, ub, hl, h⟩
  · rw [h]; exact Or.inl rfl
  · rw [h]
    cases Record.payloadOf s.disk f with
    | none => exact Or.inr ⟨f, ub, [], hl, ⟨_, rfl⟩, nofun⟩
    | some p => exact Or.inr ⟨f, ub, p, hl, List.prefix_refl _, fun _ => rfl⟩

end Link

end MetadorModel.Bridge.PatchCrash
