import MetadorModel.Gen.CodecFns
/-! Bridge (C12), `NumValue.Parser.parse` (`schema/common/__init__.py`): the whole decision cascade
(F20: booleans refused; F29: a missing unit stays missing). -/
namespace MetadorModel.Bridge.CodecFns
open MetadorModel MetadorModel.Codec MetadorModel.CodecParsers MetadorModel.CodecPy

-- the `isinstance` tests and the reading of a possibly unbound `arr`: for the inputs answered before the final check
attribute [local simp] isBool isInt isFloat isStr isDict isBase getBound

theorem isNone_json (j : Json) : isNone (Obj.json j) = isNull j := by cases j <;> rfl

/-- not stated by `rfl`, so that `simp` rebuilds the `Decidable` instance of an `if` whose test it rewrites -/
theorem truthy_json (L : Lib) (j : Json) : Obj.truthy L (.json j) = truthyJ j := by cases j <;> rfl

theorem gen_num_cfg : Gen.CodecFns.NumValue.Parser.cfg = ⟨[], none, false⟩ ∧
    Gen.CodecFns.Pixels.Parser.cfg = ⟨[['p', 'x']], some ['p', 'x'], false⟩ := ⟨rfl, rfl⟩

/-- The two kinds of input that bind `arr`: a string (to its words) and an instance of `tcls.__base__` (to the
tuple of its value and the chosen unit). -/
theorem numParse_bound (L : Lib) (cfg : NumCfg) :
    (∀ s, Gen.CodecFns.NumValue.Parser.parse L cfg (.json (.str s)) =
      numFinish L cfg (.json (.arr ((stripSplit1 s).map .str)))) ∧
    (∀ q, isBaseInst q = true →
      Gen.CodecFns.NumValue.Parser.parse L cfg (.qv q) = numFinish L cfg (numUnpack cfg q)) := by
  constructor
  case' left =>
    intro s
    simp only [Gen.CodecFns.NumValue.Parser.parse, isBool, isInt, isFloat, isStr, isDict, isBase, pyStrip, pySplit1,
      getBound, stripSplit1, objOfOptStr, Bool.false_eq_true, ↓reduceIte, Bool.or_self]
    generalize Obj.json (Json.arr _) = a
  case' right =>
    intro q hq
    simp only [Gen.CodecFns.NumValue.Parser.parse, isBool, isInt, isFloat, isStr, isDict, isBase, getBound, objOfOptStr, hq,
      attrUnitText, attrUnitCode, attrValue, truthy_json, isNone_json, numUnpack,
      Bool.false_eq_true, ↓reduceIte, Bool.or_self, ← apply_ite Except.ok, ← apply_ite Obj.json]
    generalize (if isNull _ = true then Obj.tuple _ else _ : Obj) = a
  -- What is left in both is the end of the parser, from `len(arr) == 1` on, with `arr` bound to `a`.
  all_goals
    simp only [numFinish]
    cases pyLen a with
    | error e => rfl
    | ok n =>
      dsimp only
      split
      · -- one element: the same tests in the same order
        split
        · rfl
        · cases pyIndex a 0 with
          | error e => rfl
          | ok x => dsimp only; cases L.parseNumber x <;> rfl
      · cases L.parseNumStr a with
        | error e => rfl
        | ok val =>
          -- The source tests `val[1]` against the allowed units, if there are any, and then reads `val[0]` and
          -- `val[1]` again; `numFinish` reads `val[1]` once. They agree in each case of the three.
          dsimp only
          cases cfg.allowedUnits <;> cases pyIndex val 1 <;> cases pyIndex val 0 <;> try rfl
          all_goals (rename_i u _; cases Obj.inStrs u _ <;> rfl)

theorem numParse_qv (L : Lib) (cfg : NumCfg) (q : QV) :
    Gen.CodecFns.NumValue.Parser.parse L cfg (.qv q) = numParse L cfg (.qv q) := by
  by_cases hq : isBaseInst q = true
  · simp only [(numParse_bound L cfg).2 q hq, numParse, hq, if_true]
  · simp [Gen.CodecFns.NumValue.Parser.parse, numParse, hq]

/-- a dict is parsed as what `L.baseValidate` makes of it -/
theorem numParse_dict (L : Lib) (cfg : NumCfg) (kvs : Dict) (q : QV)
    (h : L.baseValidate (.json (.obj kvs)) = .ok (.qv q)) :
    Gen.CodecFns.NumValue.Parser.parse L cfg (.json (.obj kvs)) = Gen.CodecFns.NumValue.Parser.parse L cfg (.qv q) := by
  simp only [Gen.CodecFns.NumValue.Parser.parse, h, isBool, isInt, isFloat, isStr, isDict, Bool.false_eq_true, ↓reduceIte,
    Bool.or_self]

/-- `NumValue.Parser.parse` is the model's `numParse`, for every configuration and every input object -/
theorem gen_num_parse (L : Lib) (cfg : NumCfg) (v : Obj) :
    Gen.CodecFns.NumValue.Parser.parse L cfg v = numParse L cfg v := by
  cases v with
  | json j =>
    cases j with
    | str s => exact (numParse_bound L cfg).1 s
    | obj kvs =>
      cases h : L.baseValidate (.json (.obj kvs)) with
      | error e => simp [Gen.CodecFns.NumValue.Parser.parse, numParse, h]
      | ok w =>
        cases w with
        | qv q => rw [numParse_dict L cfg kvs q h, numParse_qv]; simp only [numParse, h]
        | _ => simp [Gen.CodecFns.NumValue.Parser.parse, numParse, h]
    | _ => simp [Gen.CodecFns.NumValue.Parser.parse, numParse, objOfOptStr]
  | qv q => exact numParse_qv L cfg q
  | _ => simp [Gen.CodecFns.NumValue.Parser.parse, numParse]
end MetadorModel.Bridge.CodecFns
