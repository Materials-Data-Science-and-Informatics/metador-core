import MetadorModel.Proofs.ContainerToc
import MetadorModel.Py.CtrPy
import MetadorModel.Bridge.TocFnsAttr
/-!
# Lemmas shared by the bridge theorems of the translated container bookkeeping

Nothing here depends on the generated file. How `Bridge/TocFns*.lean` prove a translated method equal to the
model's function:

* Every effectful method a translated method calls is a parameter of the generated definition; the bridge
  theorem instantiates the parameters with the model's functions. So each theorem ties the text of one method
  to the model, and the theorems chain along the call graph.
* Both programs are run on a state one statement at a time (simp set `mstep`, below); the case splits of a proof
  are the tests the two programs make.
* A translated loop is never written down: `forEachM_fold`, `pyFoldM_fold`, `pyFoldM_foldl`, `pyMapM_map` have the
  loop body as a variable and are applied with `refine`, which finds the generated body by unification; what is
  left is to run the body once.
* Where Python keeps the partial cache updates of a loop that raises half-way, the statement is `Agree` (end of
  this file) instead of equality.
-/
namespace MetadorModel.Bridge.TocFns
open MetadorModel.Container MetadorModel.CtrPy

section AL
variable {α β : Type} [DecidableEq α]

theorem alSet_alSet (l : List (α × β)) (a : α) (b b' : β) : alSet (alSet l a b) a b' = alSet l a b' := by
  fun_induction alSet l a b <;> simp_all [alSet]

theorem alErase_alSet (l : List (α × β)) (a : α) (b : β) : alErase (alSet l a b) a = alErase l a := by
  fun_induction alSet l a b <;> simp_all [alErase]

theorem alSet_same (l : List (α × β)) (a : α) (b : β) (h : alGet l a = some b) : alSet l a b = l := by
  fun_induction alSet l a b <;> simp_all [alGet_cons]

theorem setRemove_not_mem (l : List α) (a : α) (h : a ∉ l) : setRemove l a = l := by
  simp only [setRemove, List.filter_eq_self]
  intro x hx
  simp only [ne_eq, decide_not, Bool.not_eq_eq_eq_not, Bool.not_true, decide_eq_false_iff_not]
  rintro rfl; exact h hx

theorem alGet_alSet_same (l : List (α × β)) (a : α) (b : β) : alGet (alSet l a b) a = some b := by
  simp [alGet_alSet]
end AL

section Run
variable {α : Type}
@[simp] theorem run_pyAssert_true (s : St) : pyAssert true s = (.ok (), s) := rfl
@[simp] theorem run_pyAssert_false (s : St) : pyAssert false s = (.error .other, s) := rfl
@[simp] theorem run_requireKey_true (s : St) : requireKey true s = (.ok (), s) := rfl
@[simp] theorem run_requireKey_false (s : St) : requireKey false s = (.error .key, s) := rfl
theorem run_rawSetItem (p : Path) (v : Val) (s : St) :
    rawSetItem p v s = liftRaw (fun t => rawCreate t p (.ds v)) s := rfl
theorem run_rawDelItem (p : Path) (s : St) : rawDelItem p s = liftRaw (fun t => rawDel t p) s := rfl
@[simp] theorem run_bind_pure_unit (m : M Unit) (s : St) :
    (match m s with
      | (.ok _, s') => ((.ok (), s') : Res Unit)
      | (.error e, s') => (.error e, s')) = m s := by
  rcases m s with ⟨r, s'⟩; cases r <;> rfl
@[simp] theorem bind_pure_unit (m : M Unit) : (do m; pure ()) = m := by
  funext s
  simp only [run_bind]
  rcases m s with ⟨r, s'⟩; cases r <;> rfl
end Run

/-! ### running a program one statement at a time

`mstep` evaluates the first statement of `(m >>= f) s` and leaves `f` alone until the branch is known. (The general
`run_bind` unfolds every continuation into nested matches at once; the term is then walked again after every case
split, also in the branches that have already raised, which is slow to check.) Besides the rules below the set
unfolds the entries of the value dictionary and decides the tests on known values that the evaluation meets. -/
section Step
variable {α β γ : Type}
theorem run_pure_bind (a : α) (f : α → M β) (s : St) : (pure a >>= f) s = f a s := rfl
theorem run_raise_bind (e : Err) (f : α → M β) (s : St) : (raise e >>= f) s = (.error e, s) := rfl
theorem run_getSt_bind (f : St → M β) (s : St) : (getSt >>= f) s = f s s := rfl
theorem run_modC_bind (g : Caches → Caches) (f : Unit → M β) (s : St) :
    (modC g >>= f) s = f () { s with c := g s.c } := rfl
theorem run_ofOpt_some_bind (e : Err) (a : α) (f : α → M β) (s : St) : (ofOpt e (some a) >>= f) s = f a s := rfl
theorem run_ofOpt_none_bind (e : Err) (f : α → M β) (s : St) :
    (ofOpt e (none : Option α) >>= f) s = (.error e, s) := rfl

/-- the rest `f` of a program after a raw-tree primitive with result `r` -/
def afterRaw (r : Except Err Tree) (f : Unit → M β) (s : St) : Res β :=
  match r with
  | .ok t => f () { s with raw := t }
  | .error e => (.error e, s)
theorem run_liftRaw_bind (F : Tree → Except Err Tree) (f : Unit → M β) (s : St) :
    (liftRaw F >>= f) s = afterRaw (F s.raw) f s := by
  simp only [run_bind, run_liftRaw, afterRaw]; cases F s.raw <;> rfl
theorem run_liftRaw' (F : Tree → Except Err Tree) (s : St) : liftRaw F s = afterRaw (F s.raw) pure s := by
  simp only [run_liftRaw, afterRaw]; cases F s.raw <;> rfl
theorem afterRaw_ok (t : Tree) (f : Unit → M β) (s : St) : afterRaw (.ok t) f s = f () { s with raw := t } := rfl
theorem afterRaw_error (e : Err) (f : Unit → M β) (s : St) : afterRaw (.error e) f s = (.error e, s) := rfl

theorem bind_bind (m : M α) (f : α → M β) (g : β → M γ) : m >>= f >>= g = m >>= fun a => f a >>= g := by
  funext s
  simp only [run_bind]
  rcases m s with ⟨_ | a, s'⟩ <;> rfl
theorem run_ite (c : Prop) [Decidable c] (m m' : M α) (s : St) :
    (if c then m else m') s = if c then m s else m' s := ite_apply ..

/-- `require_group` of an existing group (as a rewrite rule with a side condition) -/
theorem run_rawRequireGroup_bind {p : Path} {s : St} (f : Path → M β) (h : get? s.raw p = some .grp) :
    (rawRequireGroup p >>= f) s = f p s := by
  simp [rawRequireGroup, h]
theorem run_bind_ok {m : M α} {s s' : St} {a : α} (h : m s = (.ok a, s')) (f : α → M β) : (m >>= f) s = f a s' := by
  simp only [run_bind, h]
theorem bind_run_congr {m : M α} {f g : α → M β} {s : St} (h : ∀ a s', m s = (.ok a, s') → f a s' = g a s') :
    (m >>= f) s = (m >>= g) s := by
  simp only [run_bind]
  rcases hm : m s with ⟨_ | a, s'⟩
  · rfl
  · exact h a s' hm
theorem bind_run_congr₂ {m m' : M α} {f g : α → M β} {s : St} (P : α → St → Prop)
    (hm : ∃ r s', m s = (r, s') ∧ m' s = (r, s') ∧ ∀ a, r = .ok a → P a s')
    (h : ∀ a s', P a s' → f a s' = g a s') : (m >>= f) s = (m' >>= g) s := by
  obtain ⟨r, s', h1, h2, hP⟩ := hm
  rw [run_bind, run_bind, h1, h2]
  cases r with
  | error e => rfl
  | ok a => exact h a s' (hP a rfl)
end Step

attribute [mstep] run_pure run_raise run_getSt run_modC run_ofOpt_some run_ofOpt_none run_pure_bind run_raise_bind
  run_getSt_bind run_modC_bind run_ofOpt_some_bind run_ofOpt_none_bind run_liftRaw_bind run_liftRaw' afterRaw_ok
  afterRaw_error bind_bind dictGetItem rawSetItem rawDelItem rawMoveM rawCopyM pyAssert requireKey
  rawGetItem pySetRemove optAttr optValue
attribute [mstep] if_true if_false Bool.false_eq_true Bool.not_true Bool.not_false Option.isSome_some Option.isSome_none
  Option.isNone_some Option.isNone_none Option.getD_some Option.getD_none decide_true decide_false not_true_eq_false
  not_false_eq_true ne_eq beq_self_eq_true bne_self_eq_false

theorem forEachM_congr {α : Type} {f : α → M Unit} (g : α → M Unit) (h : ∀ a, f a = g a) (l : List α) :
    forEachM l f = forEachM l g := by
  have : f = g := funext h
  rw [this]
theorem pyMapM_congr {α β : Type} {f : α → M β} (g : α → M β) (h : ∀ a, f a = g a) (l : List α) :
    pyMapM l f = pyMapM l g := by
  have : f = g := funext h
  rw [this]

theorem forEachM_map {α γ : Type} (h : γ → α) (f : α → M Unit) : ∀ l : List γ,
    forEachM (l.map h) f = forEachM l fun c => f (h c)
  | [] => rfl
  | c :: l => by rw [List.map_cons, forEachM_cons, forEachM_cons, forEachM_map h f l]
theorem pyFoldM_map {α β γ : Type} (h : γ → α) (f : β → α → M β) : ∀ (l : List γ) (b : β),
    pyFoldM (l.map h) b f = pyFoldM l b fun b c => f b (h c)
  | [], _ => rfl
  | c :: l, b => by simp only [List.map_cons, pyFoldM, pyFoldM_map h f l]

/-- A loop that never raises: if, while `I` holds of the part `x` of the state the loop works on (`put x` is the
state with that part set to `x`), the body does what the pure step `G` does, then the loop does what the fold of
`G` does. `pyFoldM_fold`, `pyFoldM_foldl`, `pyMapM_map` are the same for loops with an accumulator and for
comprehensions whose body only reads the state. -/
theorem forEachM_fold {α σ : Type} (put : σ → St) (G : σ → α → σ) (I : σ → Prop) {f : α → M Unit} :
    ∀ (l : List α) (x : σ), I x →
      (∀ a ∈ l, ∀ x, I x → f a (put x) = (.ok (), put (G x a)) ∧ I (G x a)) →
      forEachM l f (put x) = (.ok (), put (l.foldl G x))
  | [], _, _, _ => rfl
  | a :: l, x, hx, hf => by
    obtain ⟨ha, hx'⟩ := hf a (List.mem_cons_self ..) x hx
    rw [forEachM_cons, run_bind_ok ha]
    exact forEachM_fold put G I l _ hx' fun a' ha' => hf a' (List.mem_cons_of_mem _ ha')

theorem pyFoldM_fold {α β : Type} (s : St) (G : β → α → Except Err β) {f : β → α → M β} :
    ∀ (l : List α) (b : β), (∀ a ∈ l, ∀ b, f b a s = liftE (G b a) s) →
      pyFoldM l b f s = liftE (l.foldlM G b) s
  | [], _, _ => rfl
  | a :: l, b, hf => by
    rw [pyFoldM, List.foldlM_cons]
    cases hg : G b a with
    | error e => rw [run_bind, hf a (List.mem_cons_self ..) b, hg]; rfl
    | ok b' =>
      rw [run_bind_ok (by rw [hf a (List.mem_cons_self ..) b, hg]; rfl)]
      exact pyFoldM_fold s G l b' fun a' ha' => hf a' (List.mem_cons_of_mem _ ha')

theorem pyFoldM_foldl {α β σ : Type} (s : St) (put : σ → β) (g : σ → α → σ) {f : β → α → M β} :
    ∀ (l : List α) (x : σ), (∀ a ∈ l, ∀ x, f (put x) a s = (.ok (put (g x a)), s)) →
      pyFoldM l (put x) f s = (.ok (put (l.foldl g x)), s)
  | [], _, _ => rfl
  | a :: l, x, hf => by
    rw [pyFoldM, run_bind_ok (hf a (List.mem_cons_self ..) x)]
    exact pyFoldM_foldl s put g l _ fun a' ha' => hf a' (List.mem_cons_of_mem _ ha')

theorem pyMapM_map {α β γ : Type} (s : St) (h : γ → α) (g : γ → β) {f : α → M β} :
    ∀ l : List γ, (∀ c ∈ l, f (h c) s = (.ok (g c), s)) → pyMapM (l.map h) f s = (.ok (l.map g), s)
  | [], _ => rfl
  | c :: l, hf => by
    rw [List.map_cons, pyMapM, run_bind_ok (hf c (List.mem_cons_self ..)),
      run_bind_ok (pyMapM_map s h g l fun c' hc' => hf c' (List.mem_cons_of_mem _ hc'))]
    rfl

theorem children_eq_nil {t : Tree} (hk : KeysOK t) (hc : PClosed t) {p : Path} (h : get? t p = none) :
    children t p = [] := by
  rw [List.eq_nil_iff_forall_not_mem]
  rintro ⟨k, n⟩ hm
  have hg := hc p k (by rw [(mem_children hk).mp hm]; simp)
  rw [h] at hg; cases hg

theorem parent_after_del {t t1 : Tree} {p : Path} {k : Key} (hc : PClosed t)
    (h : rawDel t (p ++ [k]) = .ok t1) : get? t1 p = some .grp := by
  have hu : under (p ++ [k]) p = false := by
    rw [Bool.eq_false_iff, ne_eq, under_iff]
    intro hpre
    have := hpre.length_le
    rw [List.length_append, List.length_singleton] at this
    omega
  rw [rawDel_get? h p, hu]
  exact hc p k (rawDel_inv h).2.1

theorem mem_foldl_setAdd {α : Type} [DecidableEq α] (x : α) : ∀ (l acc : List α),
    x ∈ l.foldl setAdd acc ↔ x ∈ acc ∨ x ∈ l
  | [], acc => by simp
  | a :: l, acc => by
    simp only [List.foldl_cons, mem_foldl_setAdd x l, mem_setAdd, List.mem_cons, or_assoc]

theorem mem_pyUnion_aux {α : Type} [DecidableEq α] (x : α) : ∀ (ls : List (List α)) (acc : List α),
    x ∈ ls.foldl (fun acc l => l.foldl setAdd acc) acc ↔ x ∈ acc ∨ ∃ l ∈ ls, x ∈ l
  | [], acc => by simp
  | l :: ls, acc => by
    simp only [List.foldl_cons, mem_pyUnion_aux x ls, mem_foldl_setAdd, List.mem_cons, exists_eq_or_imp, or_assoc]

theorem mem_pyUnion {α : Type} [DecidableEq α] (x : α) (ls : List (List α)) :
    x ∈ pyUnion ls ↔ ∃ l ∈ ls, x ∈ l := by
  simp [pyUnion, mem_pyUnion_aux]


/-- what a translated method and its model agree on in every case: the outcome, the raw tree and the
uuid counter; and the whole state whenever the model does not raise. (They may differ in the caches
left behind when a loop over a cache raises half-way: Python has updated the entries visited so far,
the model's loops are pure functions whose partial result is dropped.) -/
def Agree {α : Type} (g m : Res α) : Prop :=
  g.1 = m.1 ∧ g.2.raw = m.2.raw ∧ g.2.next = m.2.next ∧ (∀ a, m.1 = .ok a → g = m)

theorem Agree.rfl' {α : Type} {g m : Res α} (h : g = m) : Agree g m := by
  subst h; exact ⟨rfl, rfl, rfl, fun _ _ => rfl⟩

theorem Agree.of_eq_right {α : Type} {g m m' : Res α} (h : Agree g m) (e : m = m') : Agree g m' := e ▸ h

end MetadorModel.Bridge.TocFns
