import MetadorModel.Gen.ChainCheck
import MetadorModel.Proofs.Chain
/-!
# Bridge (C04): the translated `_ublock`, `ih5_uuid`, `_check_ublock` are the model's `checkUB`

`Gen/ChainCheck.lean` is regenerated from `src/metador_core/ih5/record.py` and `manifest.py` on every
run by `harness/translate_c04.py`. The theorems below say that what the source says *now* is what
`Model/Chain.lean` says: the generated function, applied to the values the dictionary
(`Py/ChainPy.lean`) assigns to the Python arguments, returns the model's result, a `ValueError` of the
source being the model's `Err` of the same message (`liftE`). In particular none of the
interpreter's own exceptions (`IndexError`, `AttributeError` on `None`) can occur: the guards of the
source (`if prev is not None`, `prev is None or ubext is None or …`) really protect the accesses behind
them, although the translation knows nothing about such narrowing.

`self` is the record, i.e. its sorted non-empty file list `b :: rest`; `self.ih5_uuid` is then
`b.ub.rid`, the model's `rid0`. `filename` and `ub` are one container and *its* user block
(`_open` passes `files[i].filename`, `_ublock(i)`), hence `f` and `f.ub`.
-/
namespace MetadorModel.Bridge.ChainCheck
open MetadorModel.Chain MetadorModel.ChainPy MetadorModel.Gen.ChainCheck

variable {P M : Type} (H : P → Digest) (HM : M → Digest)

/-- a result of the model seen through the dictionary: `Err e` is the `ValueError` listed for `e` -/
def liftE {α : Type} (x : Except Err α) : Except PyErr α := x.mapError PyErr.err

@[simp] theorem liftE_ok {α : Type} (a : α) : liftE (.ok a : Except Err α) = .ok a := rfl
@[simp] theorem liftE_error {α : Type} (e : Err) : liftE (.error e : Except Err α) = .error (.err e) := rfl
theorem liftE_bind {α β : Type} (x : Except Err α) (f : α → Except Err β) :
    liftE (x >>= f) = liftE x >>= fun a => liftE (f a) := by
  cases x <;> rfl

/-- the class of the record ↦ the model's `mfAware` -/
def mfAwareOf : Cls → Bool
  | .IH5Record => false
  | .IH5MFRecord => true

/-- `USER_BLOCK_SIZE` is the 1024 the model's `H` (hash of everything after the user block) and the
harness (`chn_common.UB`) assume -/
theorem gen_user_block_size : USER_BLOCK_SIZE = 1024 := rfl

theorem pyIdx_nat {α : Type} (xs : List α) (k : Nat) (x : α) (h : xs[k]? = some x) :
    pyIdx xs (k : Int) = .ok x := by
  have : ¬ ((k : Int) < 0) := by omega
  simp [pyIdx, this, h]

theorem pyIdx_zero_cons {α : Type} (b : α) (rest : List α) : pyIdx (b :: rest) 0 = .ok b :=
  pyIdx_nat (b :: rest) 0 b rfl

/-- `_ublock(f)` for an `h5py.File`: its user block -/
theorem gen_ublock_file (self : List (File P M)) (f : File P M) :
    IH5Record._ublock_file H HM self f = f.ub := rfl

/-- `_ublock(i)` for an `int`: the user block of `__files__[i]` -/
theorem gen_ublock_int (self : List (File P M)) (i : Int) :
    IH5Record._ublock_int H HM self i = (pyIdx self i).map (fun f => f.ub) := by
  unfold IH5Record._ublock_int
  cases pyIdx self i <;> rfl

/-- `ih5_uuid`: the record uuid of the first container -/
theorem gen_ih5_uuid (b : File P M) (rest : List (File P M)) :
    IH5Record.ih5_uuid H HM (b :: rest) = .ok b.ub.rid := by
  unfold IH5Record.ih5_uuid
  rw [gen_ublock_int, pyIdx_zero_cons]; rfl

/-- `IH5Record._check_ublock` = `checkUB` (class `IH5Record`) -/
theorem gen_check_ublock (b : File P M) (rest : List (File P M)) (f : File P M) (prev : Option UB) (ch : Bool) :
    IH5Record._check_ublock H HM (b :: rest) f f.ub prev ch = liftE (checkUB H false b.ub.rid f prev ch) := by
  unfold IH5Record._check_ublock checkUB
  rw [gen_ih5_uuid]
  -- statement by statement: `k1 …` is what follows a statement of the source, `m1 …` of the model
  extract_lets g1 g2 g3 g4 k1 k2 k3 k4 m1 m2 m3 m4
  have s1 : k1 () = liftE (m2 ()) := by
    simp only [k1, g4, g3, m2, m1]
    cases prev <;> cases f.ub.prev <;>
      simp [pyNotNone, liftE, Except.mapError, bind, Except.bind, pure, Except.pure, throw, throwThe, MonadExceptOf.throw]
    all_goals (split_ifs <;> rfl)
  have s3 : k3 () = liftE (m3 ()) := by
    simp only [k3, k2, g2, g1, m3]
    cases f.ub.hash <;> simp [s1, apply_ite liftE, bind, Except.bind, throw, throwThe, MonadExceptOf.throw]
  have s4 : k4 () = liftE (m4 ()) := by
    simp only [k4, m4]
    simp [s3, apply_ite liftE, bind, Except.bind, throw, throwThe, MonadExceptOf.throw]
  simp [s4, apply_ite liftE, bind, Except.bind, throw, throwThe, MonadExceptOf.throw]

/-- `IH5MFRecord._check_ublock` = `checkUB` (class `IH5MFRecord`: plus "only the base may be a stub") -/
theorem gen_check_ublock_mf (b : File P M) (rest : List (File P M)) (f : File P M) (prev : Option UB) (ch : Bool) :
    IH5MFRecord._check_ublock H HM (b :: rest) f f.ub prev ch = liftE (checkUB H true b.ub.rid f prev ch) := by
  unfold IH5MFRecord._check_ublock
  rw [gen_check_ublock, checkUB_mf, liftE_bind]
  congr 1
  cases prev <;> cases f.ub.ext <;> simp [pyNotNone, bind, Except.bind, pure, Except.pure]
  all_goals (split_ifs <;> rfl)

/-- `ret._check_ublock(…)` dispatched on the class of `ret` -/
theorem gen_dispatch_check_ublock (cls : Cls) (b : File P M) (rest : List (File P M)) (f : File P M)
    (prev : Option UB) (ch : Bool) :
    dispatch_check_ublock H HM cls (b :: rest) f f.ub prev ch
      = liftE (checkUB H (mfAwareOf cls) b.ub.rid f prev ch) := by
  cases cls
  · exact gen_check_ublock H HM b rest f prev ch
  · exact gen_check_ublock_mf H HM b rest f prev ch

end MetadorModel.Bridge.ChainCheck
