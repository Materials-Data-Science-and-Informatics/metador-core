import MetadorModel.Bridge.SubtypeFnsChecks
/-! Bridge (continued): the field policy of `SchemaMagic.__new__` (schema/core.py) and the decorators `make_mandatory`,
`add_const_fields`, `override` (schema/decorators.py), translated on every `./check C13` run (`Gen/SubtypeFns.lean`),
refuse a class definition exactly when the model's `defineOk` does, with the same kind of exception. -/
namespace MetadorModel.Bridge.SubtypeFns
open MetadorModel MetadorModel.Codec MetadorModel.Subtype MetadorModel.SubtypePy

/-! ## schema/core.py: the field policy of `SchemaMagic.__new__` -/

/-- the refusals of `defineOk` that come from the metaclass -/
def policyOk (T : Table) (c : ClassDef) : Except Refusal Unit :=
  let own := c.fields.map (fun f => f.1)
  let parentForbids := parentExtraOf T c == .forbid
  if own.any (fun n => hasKey n (baseConsts T c)) then .error .typeError
  else if parentForbids && effExtra T c != .forbid then .error .typeError
  else if parentForbids && own.any (fun n => (getHint n (baseHints T c)).isNone) then .error .typeError
  else .ok ()

/-- the refusals of `defineOk` that come from `make_mandatory` -/
def mandatoryOk (T : Table) (c : ClassDef) : Except Refusal Unit :=
  if c.mandatory.any (fun n => ((getHint n (baseHints T c)).isNone && !hasKey n (baseConsts T c)) ||
      (c.fields.map (fun f => f.1)).contains n)
  then .error .valueError else .ok ()

def constsOk (T : Table) (c : ClassDef) : Except Refusal Unit :=
  firstErr (c.consts.map (constOk T c (C13.decoratorHints T c) (baseConsts T c) (parentExtraOf T c == .forbid)))

theorem ite_error_bind {ε α β : Type} (c : Prop) [Decidable c] (e : ε) (x : Except ε α) (f : α → Except ε β) :
    (if c then Except.error e else x).bind f = if c then .error e else x.bind f := by
  split <;> rfl

/-- `defineOk` is the sequence metaclass, `make_mandatory`, `add_const_fields` -/
theorem defineOk_eq (T : Table) (c : ClassDef) :
    defineOk T c = (policyOk T c).bind fun _ => (mandatoryOk T c).bind fun _ => constsOk T c := by
  simp only [policyOk, mandatoryOk, ite_error_bind]
  rfl

/-- the checks of `SchemaMagic.__new__` in one chain: the test for fields named like an inherited constant is vacuous
when there are no inherited constants -/
theorem new_policy_eq (b r : ClsView) : (Gen.SubtypeFns.new_policy b r).map (fun _ => ()) =
    if !(setInter (dictKeys r.annotations) (dictKeys b.constants)).isEmpty then throw .typeError
    else if b.extra == .forbid && r.extra != .forbid then throw .typeError
    else if b.extra == .forbid && !(setDiff (dictKeys r.fields) (dictKeys b.fields)).isEmpty then throw .typeError
    else pure () := by
  unfold Gen.SubtypeFns.new_policy bne
  cases hb : dictKeys b.constants with
  | nil =>
    have : setInter (dictKeys r.annotations) [] = [] := by simp [setInter]
    simp only [this, List.isEmpty_nil, Bool.not_true, Bool.false_eq_true, if_false]
    cases b.extra == Extra.forbid <;> cases r.extra == Extra.forbid <;>
      cases (setDiff (dictKeys r.fields) (dictKeys b.fields)).isEmpty <;> rfl
  | cons k ks =>
    simp only [List.isEmpty_cons, Bool.not_false, if_true]
    cases (setInter (dictKeys r.annotations) (k :: ks)).isEmpty <;> cases b.extra == Extra.forbid <;>
      cases r.extra == Extra.forbid <;> cases (setDiff (dictKeys r.fields) (dictKeys b.fields)).isEmpty <;> rfl

theorem dictHas_fieldsOf (x : Str) (hints : List (Str × Ty)) (bc : List (Str × Json)) :
    dictHas (fieldsOf hints bc) x = ((getHint x hints).isSome || hasKey x bc) := by
  rw [fieldsOf, dictHas_append, ← dictHas_eq_hasKey, getHint_eq_dictGet?, dictHas, dictHas, dictHas,
    dictGet?_map_val x (fun t => fieldOfHint (.ty t)), dictGet?_map_val x (fun _ => fieldOfHint .optAny),
    Option.isSome_map, Option.isSome_map]

theorem dictHas_map_fst {α β : Type} (x : Str) (f : α → Str × β) (l : List α) :
    dictHas (l.map f) x = (l.map (fun a => (f a).1)).contains x := by
  rw [← contains_dictKeys, dictKeys, List.map_map]; rfl

theorem isSome_declHints (T : Table) (c : ClassDef) (x : Str) :
    (getHint x (declHints T c)).isSome = ((getHint x (baseHints T c)).isSome || (c.fields.map (fun f => f.1)).contains x) := by
  rw [declHints, isSome_foldl_setHint, dictHas_map_fst]

theorem viewNew_fields_has (T : Table) (c : ClassDef) (a : Str) :
    dictHas (viewNew T c).fields a =
      ((getHint a (baseHints T c)).isSome || (c.fields.map (fun f => f.1)).contains a || hasKey a (baseConsts T c)) := by
  rw [viewNew, dictHas_fieldsOf, isSome_declHints]

theorem viewNew_ann_has (T : Table) (c : ClassDef) (a : Str) :
    dictHas (viewNew T c).annotations a = (c.fields.map (fun f => f.1)).contains a := by
  rw [viewNew, hintsOf, List.map_map, dictHas_map_fst]; rfl

theorem viewNew_parent_has (T : Table) (c : ClassDef) (a : Str) :
    dictHas (viewNew T c).parentHints a = ((getHint a (baseHints T c)).isSome || hasKey a (baseConsts T c)) := by
  rw [viewNew, dictHas_append, dictHas_hintsOf, dictHas_anyOf]


/-- the checks of `SchemaMagic.__new__` after the class is built are the metaclass refusals of the model -/
theorem gen_new_policy (T : Table) (c : ClassDef) :
    (Gen.SubtypeFns.new_policy (viewBase T c) (viewNew T c)).map (fun _ => ()) = ofRefusal (policyOk T c) := by
  have hI : (setInter (dictKeys (viewNew T c).annotations) (dictKeys (viewBase T c).constants)).isEmpty =
      !(c.fields.map (fun f => f.1)).any (fun n => hasKey n (baseConsts T c)) := by
    simp only [setInter, isEmpty_filter, contains_dictKeys, dictHas_eq_hasKey]
    rw [show dictKeys (viewNew T c).annotations = c.fields.map (fun f => f.1) by
      rw [viewNew, dictKeys_hintsOf, List.map_map]; rfl]
    rfl
  -- a name the base has no field for is a new field, unless it is one of the inherited constants
  have hD : (c.fields.map (fun f => f.1)).any (fun n => hasKey n (baseConsts T c)) = false →
      (setDiff (dictKeys (viewNew T c).fields) (dictKeys (viewBase T c).fields)).isEmpty =
      !(c.fields.map (fun f => f.1)).any (fun n => (getHint n (baseHints T c)).isNone) := by
    intro hno
    have hB : ∀ x, dictHas (viewBase T c).fields x =
        ((getHint x (baseHints T c)).isSome || hasKey x (baseConsts T c)) := fun x => dictHas_fieldsOf x _ _
    simp only [setDiff, isEmpty_filter, contains_dictKeys, hB]
    congr 1
    rw [Bool.eq_iff_iff, List.any_eq_true, List.any_eq_true]
    simp only [List.any_eq_false] at hno
    constructor
    · rintro ⟨x, hx, hb⟩
      rw [← dictHas_iff, viewNew_fields_has] at hx
      rw [Bool.not_eq_true', Bool.or_eq_false_iff] at hb
      rw [hb.1, hb.2, Bool.false_or, Bool.or_false] at hx
      exact ⟨x, List.contains_iff_mem.mp hx, by rw [← Option.not_isSome, hb.1]; rfl⟩
    · rintro ⟨x, hx, hnone⟩
      refine ⟨x, ?_, ?_⟩
      · rw [← dictHas_iff, viewNew_fields_has, List.contains_iff_mem.mpr hx, Bool.or_true, Bool.true_or]
      · rw [← Option.not_isSome, Bool.not_eq_true'] at hnone
        rw [hnone, Bool.eq_false_iff.mpr (hno x hx)]
        rfl
  rw [new_policy_eq, hI, policyOk, show (viewBase T c).extra = parentExtraOf T c from rfl,
    show (viewNew T c).extra = effExtra T c from rfl]
  cases hA : (c.fields.map (fun f => f.1)).any (fun n => hasKey n (baseConsts T c))
  · rw [hD hA]
    simp only [Bool.not_not, apply_ite ofRefusal]
    rfl
  · rfl

/-! ## schema/decorators.py -/

/-- first failure of a sequence of checks -/
def firstE : List (E Unit) → E Unit
  | [] => pure ()
  | .ok _ :: r => firstE r
  | .error e :: _ => throw e

theorem ofRefusal_firstErr (l : List (Except Refusal Unit)) : ofRefusal (firstErr l) = firstE (l.map ofRefusal) := by
  induction l with
  | nil => rfl
  | cons r l ih =>
    cases r with
    | ok u => cases u; simpa [firstErr, firstE, ofRefusal] using ih
    | error e => cases e <;> rfl

/-- a loop whose body either refuses an element (whatever the loop state is) or goes on with a new state -/
theorem foldlM_outcome {σ α : Type} (F : σ → α → E σ) (I : List α → σ → Prop) (r : α → E Unit) :
    ∀ (l : List α) (s : σ), I l s →
      (∀ a rest s, I (a :: rest) s →
        match r a with
        | .ok _ => ∃ s', F s a = pure s' ∧ I rest s'
        | .error e => F s a = throw e) →
      (List.foldlM F s l).map (fun _ => ()) = firstE (l.map r) := by
  intro l
  induction l with
  | nil => intro s _ _; rfl
  | cons a l ih =>
    intro s hI hstep
    have h := hstep a l s hI
    rw [List.foldlM_cons, List.map_cons]
    cases hr : r a with
    | ok u =>
      rw [hr] at h
      obtain ⟨s', hF, hI'⟩ := h
      rw [hF]
      simp only [pure_bind, firstE]
      exact ih s' hI' hstep
    | error e =>
      rw [hr] at h
      rw [h]
      rfl

theorem gen_check_names_public (names : List Str) (h : ∀ x ∈ names, PubName x) :
    Gen.SubtypeFns._check_names_public names = pure () := by
  simp only [Gen.SubtypeFns._check_names_public]
  rw [filterM_pure _ (fun _ => false)]
  · simp
  · intro a ha
    simp [gen_is_public_name a (h a ha)]

@[simp] theorem gen_expect_schema_class (v : ClsView) : Gen.SubtypeFns._expect_schema_class v = pure () := rfl

/-- `override` only records the names -/
theorem gen_override (names : List Str) (v : ClsView) (h : ∀ x ∈ names, PubName x) :
    Gen.SubtypeFns.override names v = pure { v with overrides := v.overrides ++ names } := by
  simp [Gen.SubtypeFns.override, gen_check_names_public names h]

/-- what `make_mandatory` requires of a name, on the class before the decorator ran -/
def mandOk (v : ClsView) (a : Str) : Bool := dictHas v.fields a && !dictHas v.annotations a

theorem gen_make_mandatory_view (names : List Str) (v0 : ClsView) (hpub : ∀ x ∈ names, PubName x) (hnd : names.Nodup)
    (hpar : ∀ k, dictHas v0.fields k = true → dictHas v0.annotations k = false → dictHas v0.parentHints k = true) :
    (Gen.SubtypeFns.make_mandatory names v0).map (fun _ => ()) =
      ofRefusal (firstErr (names.map fun a => if mandOk v0 a then .ok () else .error .valueError)) := by
  simp only [Gen.SubtypeFns.make_mandatory, gen_check_names_public names hpub, pure_bind, gen_expect_schema_class]
  simp only [bind_pure]
  rw [ofRefusal_firstErr, List.map_map]
  refine foldlM_outcome _
    (fun rest v => rest.Nodup ∧ v.parentHints = v0.parentHints ∧
      ∀ k ∈ rest, dictHas v.fields k = dictHas v0.fields k ∧ dictHas v.annotations k = dictHas v0.annotations k)
    _ names v0 ⟨hnd, rfl, fun _ _ => ⟨rfl, rfl⟩⟩ ?_
  · intro a rest s ⟨hnd', hph, hinv⟩
    obtain ⟨hf, ha⟩ := hinv a (by simp)
    have hnd'' := List.nodup_cons.mp hnd'
    dsimp only [Function.comp_apply]
    cases hm : mandOk v0 a
    · simp only [Bool.false_eq_true, if_false, ofRefusal]
      simp only [mandOk, Bool.and_eq_false_iff, Bool.not_eq_false'] at hm
      rcases hm with hm | hm
      · simp [hf, hm]
      · cases hf0 : dictHas v0.fields a <;> simp [hf, ha, hm, hf0] <;> rfl
    · simp only [if_true, ofRefusal]
      simp only [mandOk, Bool.and_eq_true, Bool.not_eq_true'] at hm
      obtain ⟨hm1, hm2⟩ := hm
      have hp := hpar a hm1 hm2
      obtain ⟨ph, hph'⟩ := Option.isSome_iff_exists.mp (show (dictGet? a v0.parentHints).isSome = true from hp)
      obtain ⟨fd, hfd⟩ := Option.isSome_iff_exists.mp (show (dictGet? a s.fields).isSome = true by
        have := hf; simp only [dictHas] at this; rw [this]; exact hm1)
      refine ⟨{ s with fields := dictSet a { fd with required := true } s.fields,
                       annotations := dictSet a (unoptional ph) s.annotations }, ?_, ?_⟩
      · simp only [hf, ha, hm1, hm2, Bool.not_true, Bool.false_eq_true, if_false, fieldParentType, hph, hph', dictGet, hfd,
          pure_bind]
      · refine ⟨hnd''.2, hph, ?_⟩
        intro k hk
        have hne : k ≠ a := fun h => hnd''.1 (h ▸ hk)
        have hne' : (k == a) = false := by simpa using hne
        obtain ⟨h1, h2⟩ := hinv k (by simp [hk])
        simp [dictHas_dictSet, hne', h1, h2]

/-- `make_mandatory` on the class the metaclass has built refuses exactly what the model's `defineOk` refuses for
the decorator (public names, no name twice) -/
theorem gen_make_mandatory (T : Table) (c : ClassDef) (hpub : ∀ x ∈ c.mandatory, PubName x) (hnd : c.mandatory.Nodup) :
    (Gen.SubtypeFns.make_mandatory c.mandatory (viewNew T c)).map (fun _ => ()) = ofRefusal (mandatoryOk T c) := by
  rw [gen_make_mandatory_view c.mandatory (viewNew T c) hpub hnd,
    firstErr_check _ (mandOk (viewNew T c)) .valueError _ fun _ _ => rfl]
  · have : ∀ a, (!mandOk (viewNew T c) a) = (((getHint a (baseHints T c)).isNone && !hasKey a (baseConsts T c)) ||
        (c.fields.map (fun f => f.1)).contains a) := by
      intro a
      rw [mandOk, viewNew_fields_has, viewNew_ann_has]
      cases getHint a (baseHints T c) <;> cases hasKey a (baseConsts T c) <;>
        cases (c.fields.map (fun f => f.1)).contains a <;> rfl
    rw [mandatoryOk, List.all_eq_not_any_not]
    simp only [this]
    cases c.mandatory.any _ <;> rfl
  · intro k h1 h2
    rw [viewNew_fields_has, ← viewNew_ann_has, h2, Bool.or_false] at h1
    rw [viewNew_parent_has, h1]

theorem dictGet?_fieldsOf (k : Str) (hints : List (Str × Ty)) (bc : List (Str × Json)) :
    dictGet? k (fieldsOf hints bc) =
      match getHint k hints with
      | some t => some (fieldOfHint (.ty t))
      | none => if hasKey k bc then some (fieldOfHint .optAny) else none := by
  rw [fieldsOf, dictGet?_append, dictGet?_map_val k (fun t => fieldOfHint (.ty t)), dictGet?_map_val k (fun _ => fieldOfHint .optAny),
    ← getHint_eq_dictGet?, ← dictHas_eq_hasKey, dictHas]
  cases getHint k hints
  · cases dictGet? k bc <;> rfl
  · rfl

theorem singletonTy_inner (t t' : Ty) (h : singletonTy t = some t') : innerTy t = t' := by
  fun_induction singletonTy t <;> simp_all [innerTy]

theorem gen_is_subtype_litOf (T : Table) (fuel : Nat) (j : Json) (vs : List Lit) :
    Gen.SubtypeFns.is_subtype T (fuel + 1) (.litOf j) (.ty (.lit vs)) = pure false := by
  simp [Gen.SubtypeFns.is_subtype, Gen.SubtypeFns.is_annotated, Gen.SubtypeFns.is_literal, getOrigin, rvIsSubtype]

theorem isSubtype_lit (T : Table) (l : Lit) (vs : List Lit) :
    isSubtype T (.lit [l]) (.lit vs) = le T (.oneOf [some l]) (.oneOf (vs.map some)) := by
  rw [C13.isSubtype_plain T _ _ (Or.inl rfl)]
  simp [isAnn, isLit, canon]

/-! The field `add_const_fields` finds under a name, in the three cases its loop body and the model's `constOk`
distinguish: no such field; a field that is no `Literal` singleton; a `Literal` singleton. -/

theorem constOk_new (T : Table) (c : ClassDef) (hints : List (Str × Ty)) (bc : List (Str × Json)) (pf : Bool) (kv : Str × Json)
    (hg : getHint kv.1 hints = none) (hb : hasKey kv.1 bc = false) :
    constOk T c hints bc pf kv = if pf then .error .typeError else .ok () := by
  simp only [constOk, hg, hb, Bool.false_eq_true, if_false]

theorem constOk_plain (T : Table) (c : ClassDef) (hints : List (Str × Ty)) (bc : List (Str × Json)) (pf : Bool) (kv : Str × Json)
    (h : (getHint kv.1 hints = none ∧ hasKey kv.1 bc = true) ∨
      ∃ t, getHint kv.1 hints = some t ∧ ∀ vs, singletonTy t ≠ some (.lit vs)) :
    constOk T c hints bc pf kv = if c.constOverride then .ok () else .error .valueError := by
  rcases h with ⟨hg, hb⟩ | ⟨t, hg, hs⟩
  · simp only [constOk, hg, hb, if_true]
  · simp only [constOk, hg]

theorem constOk_lit (T : Table) (c : ClassDef) (hints : List (Str × Ty)) (bc : List (Str × Json)) (pf : Bool) (kv : Str × Json)
    (t : Ty) (vs : List Lit) (hg : getHint kv.1 hints = some t) (hs : singletonTy t = some (.lit vs)) :
    constOk T c hints bc pf kv = match jsonLit? kv.2 with
      | some l => if le T (.oneOf [some l]) (.oneOf (vs.map some)) then .ok () else .error .typeError
      | none => .error .typeError := by
  simp only [constOk, hg, hs]
  cases jsonLit? kv.2 <;> rfl

theorem field_cases (k : Str) (hints : List (Str × Ty)) (bc : List (Str × Json)) :
    (getHint k hints = none ∧ hasKey k bc = false ∧ dictGet? k (fieldsOf hints bc) = none) ∨
    (((getHint k hints = none ∧ hasKey k bc = true) ∨ ∃ t, getHint k hints = some t ∧ ∀ vs, singletonTy t ≠ some (.lit vs)) ∧
      ∃ fd, dictGet? k (fieldsOf hints bc) = some fd ∧
        (fd.shape == .singleton && Gen.SubtypeFns.is_literal fd.type_) = false) ∨
    (∃ t vs, getHint k hints = some t ∧ singletonTy t = some (.lit vs) ∧
      dictGet? k (fieldsOf hints bc) = some { shape := .singleton, type_ := .ty (.lit vs) }) := by
  rw [dictGet?_fieldsOf]
  cases hg : getHint k hints with
  | none =>
    cases hb : hasKey k bc
    · exact Or.inl ⟨rfl, rfl, rfl⟩
    · exact Or.inr (Or.inl ⟨Or.inl ⟨rfl, rfl⟩, _, rfl, rfl⟩)
  | some t =>
    cases hs : singletonTy t with
    | none =>
      refine Or.inr (Or.inl ⟨Or.inr ⟨t, rfl, fun vs h => by rw [hs] at h; cases h⟩, _, rfl, ?_⟩)
      simp [fieldOfHint, hs]
    | some t' =>
      have hf : fieldOfHint (.ty t) = { shape := .singleton, type_ := .ty t' } := by
        simp [fieldOfHint, hs, singletonTy_inner t t' hs]
      cases hl : isLit t' with
      | true =>
        obtain ⟨vs, rfl⟩ : ∃ vs, t' = .lit vs := by cases t' <;> first | exact ⟨_, rfl⟩ | cases hl
        exact Or.inr (Or.inr ⟨t, vs, rfl, hs, congrArg some hf⟩)
      | false =>
        refine Or.inr (Or.inl ⟨Or.inr ⟨t, rfl, fun vs h => ?_⟩, _, congrArg some hf, ?_⟩)
        · rw [hs] at h; cases Option.some.inj h; cases hl
        · simp [hl]

/-- one constant of `add_const_fields`, on a class whose `__fields__` still hold, for this name, what `hints` and the
inherited constants `bc` say -/
theorem gen_add_const_fields_view (T : Table) (c : ClassDef) (fuel : Nat) (hints : List (Str × Ty)) (bc consts : List (Str × Json))
    (v0 : ClsView) (hv : v0.fields = fieldsOf hints bc)
    (hpub : ∀ x ∈ dictKeys consts, PubName x) (hnd : (dictKeys consts).Nodup) (h0 : 0 < fuel) :
    (Gen.SubtypeFns.add_const_fields T fuel consts c.constOverride v0).map (fun _ => ()) =
      ofRefusal (firstErr (consts.map (constOk T c hints bc (v0.baseExtra == .forbid)))) := by
  obtain ⟨f, rfl⟩ : ∃ f, fuel = f + 1 := ⟨fuel - 1, by omega⟩
  simp only [Gen.SubtypeFns.add_const_fields, gen_check_names_public _ hpub, pure_bind, gen_expect_schema_class]
  rw [ofRefusal_firstErr, List.map_map]
  have hmap : ∀ (m : E (List Str × ClsView)),
      (m >>= fun st => pure { st.2 with constants := dictUpdate st.2.constants consts }).map (fun _ => ()) = m.map (fun _ => ()) := by
    intro m; cases m <;> rfl
  rw [hmap]
  refine foldlM_outcome _
    (fun rest (st : List Str × ClsView) => (dictKeys rest).Nodup ∧ st.2.baseExtra = v0.baseExtra ∧
      ∀ kv ∈ rest, dictGet? kv.1 st.2.fields = dictGet? kv.1 v0.fields)
    _ consts ([], v0) ⟨hnd, rfl, fun _ _ => rfl⟩ ?_
  rintro ⟨k, val⟩ rest ⟨ov, s⟩ ⟨hnd', hbe, hinv⟩
  have hk := hinv (k, val) (by simp)
  have hnd'' : k ∉ dictKeys rest ∧ (dictKeys rest).Nodup := List.nodup_cons.mp hnd'
  -- whatever the round writes under `k`, the fields of the names still to come are untouched
  have hnext : ∀ (ov' : List Str) (fd : PyField) (h : Hint), ∃ s', (pure (ov',
      ({ s with fields := dictSet k fd s.fields, annotations := dictSet k h s.annotations } : ClsView)) : E _) = pure s' ∧
      (dictKeys rest).Nodup ∧ s'.2.baseExtra = v0.baseExtra ∧
      ∀ kv ∈ rest, dictGet? kv.1 s'.2.fields = dictGet? kv.1 v0.fields := by
    intro ov' fd h
    refine ⟨_, rfl, hnd''.2, hbe, fun kv hkv => ?_⟩
    have hne : kv.1 ≠ k := fun h' => hnd''.1 (h' ▸ List.mem_map_of_mem hkv)
    rw [dictGet?_dictSet, if_neg hne]
    exact hinv kv (by simp [hkv])
  rw [hv] at hk
  dsimp only [Function.comp_apply] at hk ⊢
  rw [show (v0.baseExtra == Extra.forbid) = (s.baseExtra == Extra.forbid) by rw [← hbe], hk]
  rcases field_cases k hints bc with ⟨hg, hb, hf⟩ | ⟨hp, fd, hf, hns⟩ | ⟨t, vs, hg, hs, hf⟩
  · rw [hf, constOk_new T c hints bc _ (k, val) hg hb]
    cases s.baseExtra == Extra.forbid
    · exact hnext _ _ _
    · rfl
  · rw [hf, constOk_plain T c hints bc _ (k, val) hp]
    simp only [isEnum, Bool.and_false, hns, Bool.false_eq_true, if_false, pure_bind, Bool.false_and,
      Bool.or_false]
    cases c.constOverride
    · rfl
    · exact hnext _ _ _
  · rw [hf, constOk_lit T c hints bc _ (k, val) t vs hg hs]
    simp only [isEnum, Bool.and_false, shape_beq, decide_true, Bool.true_and, gen_is_literal, isLit,
      Bool.false_eq_true, if_false, if_true, bind_pure, Bool.or_true, Bool.not_true, mkLiteral]
    cases hj : jsonLit? val with
    | none =>
      simp only [gen_is_subtype_litOf, pure_bind, Bool.not_false, if_true]
      rfl
    | some l =>
      simp only [gen_is_subtype T (f + 1) (.lit [l]) (.lit vs) (Nat.succ_pos _), isSubtype_lit, pure_bind]
      cases le T (.oneOf [some l]) (.oneOf (vs.map some))
      · rfl
      · exact hnext _ _ _


/-- `add_const_fields` on the class as the decorator finds it refuses exactly what the model's `defineOk` refuses
for the constants, with the same kind of exception (public names, a dict has no key twice) -/
theorem gen_add_const_fields (T : Table) (c : ClassDef) (fuel : Nat)
    (hpub : ∀ x ∈ dictKeys c.consts, PubName x) (hnd : (dictKeys c.consts).Nodup) (h0 : 0 < fuel) :
    (Gen.SubtypeFns.add_const_fields T fuel c.consts c.constOverride (viewDeco T c)).map (fun _ => ()) =
      ofRefusal (constsOk T c) :=
  gen_add_const_fields_view T c fuel (C13.decoratorHints T c) (baseConsts T c) c.consts (viewDeco T c) rfl hpub hnd h0

/-- **Class construction**: the model's `defineOk` is the metaclass check, then `make_mandatory`, then
`add_const_fields` of the translated source, each on the class as it finds it (`viewNew`, `viewDeco`: the
dictionary's account of what pydantic has built by then), with the same kind of exception -/
theorem gen_defineOk (T : Table) (c : ClassDef) (fuel : Nat) (h0 : 0 < fuel)
    (hpm : ∀ x ∈ c.mandatory, PubName x) (hnm : c.mandatory.Nodup)
    (hpc : ∀ x ∈ dictKeys c.consts, PubName x) (hnc : (dictKeys c.consts).Nodup) :
    ofRefusal (defineOk T c) =
      ((Gen.SubtypeFns.new_policy (viewBase T c) (viewNew T c)).map (fun _ => ()) >>= fun _ =>
       (Gen.SubtypeFns.make_mandatory c.mandatory (viewNew T c)).map (fun _ => ()) >>= fun _ =>
       (Gen.SubtypeFns.add_const_fields T fuel c.consts c.constOverride (viewDeco T c)).map (fun _ => ())) := by
  rw [gen_new_policy, gen_make_mandatory T c hpm hnm, gen_add_const_fields T c fuel hpc hnc h0, defineOk_eq]
  cases policyOk T c with
  | error e => cases e <;> rfl
  | ok u =>
    cases mandatoryOk T c with
    | error e => cases e <;> rfl
    | ok u' => rfl

end MetadorModel.Bridge.SubtypeFns
