import MetadorModel.Bridge.BytesFnsWrap
import MetadorModel.Bridge.BytesFnsDel
import MetadorModel.Bridge.BytesFnsHash
import MetadorModel.Props.C17
/-!
Bridge between the Lean text generated from /repo on every run (`Gen/BytesFns.lean`, by
`harness/translate_c17.py`: `_h5_wrap_bytes`, `DEL_VALUE`, `_is_del_mark`, `_node_is_del_mark`,
`IH5Node._guard_value`, `_hash_alg`, `hashsum`, `qualified_hashsum`, `file_hashsum`) and the
hand-written model `Model/Bytes.lean` that the C17 (and, for the hashing part, C19) theorems are
about. The value dictionary is `Model/BytesPy.lean`.

A change of the meaning of one of these functions changes the generated definitions and the
equalities below have to be re-proved; renaming locals, comments, `x if c else y` versus an
`if` statement, or reordering independent statements does not disturb them (the proofs never
mention a local name of the generated text).

The theorems live in three modules, one per source file, so that a broken proof is attributed
to the function group that changed: `Bridge/BytesFnsWrap.lean` (`gen_h5_wrap_bytes`),
`Bridge/BytesFnsDel.lean` (`gen_del_value`, `gen_is_del_mark`, `gen_node_is_del_mark`,
`gen_guard_value`), `Bridge/BytesFnsHash.lean` (`gen_def_hash_alg`, `gen_hash_alg`,
`gen_hashsum_loop`, `gen_hashsum`, `gen_qualified_hashsum`, `gen_file_hashsum`); all in namespace
`MetadorModel.Bridge.BytesFns`. This module collects them and states what they give together.
-/
namespace MetadorModel.Bridge.BytesFns
open MetadorModel MetadorModel.Bytes MetadorModel.BytesPy

/-- What the tie gives for the property: the value `pack_file` hands to `create_dataset` is
refused by the guard that the source has now exactly when the file content is the single byte
`0x7f`, and reading back what the source's wrapping produced gives the bytes. -/
theorem gen_guard_wrap_iff (bs : Bytes) :
    Gen.BytesFns._guard_value (.value (Gen.BytesFns._h5_wrap_bytes bs)) = .error .valueError ↔ bs = [0x7f] := by
  rw [gen_guard_value, gen_h5_wrap_bytes]
  show guardValue (wrapBytes bs) = .error .valueError ↔ _
  rw [← C17.isDelMark_wrap_iff, guardValue]
  cases isDelMark (wrapBytes bs) <;> simp

/-- the digest the source's `hashsum` computes now is the one-shot digest, under the streaming
hypothesis on `hashlib` -/
theorem gen_hashsum_oneShot {σ : Type} (hl : HashLib σ) (h : Streaming hl) (alg : Str)
    (ha : alg ∈ hashAlgs) (d : PyData) :
    Gen.BytesFns.hashsum hl d alg = .ok (oneShot hl alg d.content) := by
  rw [gen_hashsum, hashsum_eq_oneShot hl h alg ha]

end MetadorModel.Bridge.BytesFns
