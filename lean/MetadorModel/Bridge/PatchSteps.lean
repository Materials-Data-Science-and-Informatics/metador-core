import MetadorModel.Gen.PatchSteps
import MetadorModel.Bridge.PatchStepsModel
/-!
# Bridge for C11: constants, file names, guards, `_ublock` / `_set_ublock`
as regenerated from the source (`Gen/PatchSteps.lean`, written by `harness/translate_c11.py` on every run)

Each `gen_*` theorem says that a regenerated method, run on the Python object that stands for a state `s`
of the record model, is the hand-written step sequence of `Bridge/PatchStepsModel.lean` — same result or
exception, same object afterwards, same disk, **same file-system actions in the same order**. Together with
`createPatchW_res` … (there) this gives the `gen_*_model` theorems: the regenerated method *is* the operation of the
record model. A change of the source that reorders, drops or adds a file-system effect, or changes a guard,
changes the generated text and breaks the `gen_*` theorem of that method.
-/
namespace MetadorModel.Bridge.PatchSteps
open MetadorModel.FindFiles MetadorModel.Record MetadorModel.RecordPy MetadorModel.PatchPy
open MetadorModel.Gen.PatchSteps

theorem gen_constants : USER_BLOCK_SIZE = 1024 := rfl

theorem gen_has_writable (w : World) : IH5Record._has_writable w = (.ok (lastIsRW w.self.files), w) := by
  unfold IH5Record._has_writable
  rcases nil_or_append w.self.files with h | ⟨init, x, h⟩
  · simp [h, pyTruthyList, lastIsRW]
  · simp [h, pyTruthyList, lastIsRW, pyIdx_last_snoc, pyH5Mode]
    cases x.rw <;> simp

theorem gen_expect_open (w : World) :
    IH5Record._expect_open w = (if w.self.closed then (.error .valueError, w) else (.ok (), w)) := by
  unfold IH5Record._expect_open
  cases h : w.self.closed <;> simp [h]

theorem gen_mode (w : World) : IH5Record.mode w = (.ok (if w.self.allow then ['r', '+'] else ['r']), w) := by
  unfold IH5Record.mode
  cases h : w.self.allow <;> simp [h]

theorem gen_expect_not_ro (w : World) :
    IH5Record._expect_not_ro w = (if w.self.allow then (.ok (), w) else (.error .valueError, w)) := by
  unfold IH5Record._expect_not_ro
  cases h : w.self.allow <;> simp [gen_mode, h]

/-- the guards `create_patch`, `discard_patch` and `commit_patch` start with: open, patchable, and a test `c` on
`_has_writable`; when they pass, the method goes on with `k` in the same world -/
theorem gen_guards (s : State) (c : Bool → Bool) (k : PatchM Unit) :
    (do IH5Record._expect_open
        IH5Record._expect_not_ro
        if c (← IH5Record._has_writable) then
          throw Out.valueError
        k) (World.ofState s) =
      if s.h.closed then (.error .valueError, World.ofState s)
      else if !s.h.allow then (.error .valueError, World.ofState s)
      else if c (hasWritable s.h) then (.error .valueError, World.ofState s)
      else k (World.ofState s) := by
  have hcl : (World.ofState s).self.closed = s.h.closed := rfl
  have hal : (World.ofState s).self.allow = s.h.allow := rfl
  have hwr : lastIsRW (World.ofState s).self.files = hasWritable s.h := (hasWritable_eq s.h).symm
  cases hc : s.h.closed
  case true => simp [gen_expect_open, hcl, hc]
  case false =>
    cases ha : s.h.allow
    case false => simp [gen_expect_open, gen_expect_not_ro, hcl, hal, hc, ha]
    case true =>
      cases hw : c (hasWritable s.h) <;>
        simp [gen_expect_open, gen_expect_not_ro, gen_has_writable, hcl, hal, hwr, hc, ha, hw]

theorem gen_ublock_last_nil (w : World) (h : w.self.files = []) :
    IH5Record._ublock (.int (-1 : Int)) w = (.error .indexError, w) := by
  unfold IH5Record._ublock
  simp [h, pyIdx_last_nil]

theorem gen_ublock_last_snoc (w : World) (hs : List H5) (x : H5) (h : w.self.files = hs ++ [x]) :
    IH5Record._ublock (.int (-1 : Int)) w = (pyDictGet w.self.ublocks x.name, w) := by
  unfold IH5Record._ublock
  cases hg : pyDictGet w.self.ublocks x.name <;> simp [h, pyIdx_last_snoc, hg]

theorem gen_set_ublock_last_snoc (w : World) (hs : List H5) (x : H5) (u : UB) (h : w.self.files = hs ++ [x]) :
    IH5Record._set_ublock (.int (-1 : Int)) u w =
      (.ok (), { w with self := { w.self with ublocks := pyDictSet w.self.ublocks x.name u } }) := by
  unfold IH5Record._set_ublock
  simp [h, pyIdx_last_snoc, pySetUblocks]

theorem gen_ublock_last (w : World) :
    IH5Record._ublock (.int (-1 : Int)) w = match w.self.files.getLast? with
      | none => (.error .indexError, w)
      | some x => (pyDictGet w.self.ublocks x.name, w) := by
  rcases nil_or_append w.self.files with h | ⟨hs, x, h⟩
  · rw [gen_ublock_last_nil w h, h]; rfl
  · rw [gen_ublock_last_snoc w hs x h, h]; simp

theorem gen_set_ublock_last (w : World) (u : UB) :
    IH5Record._set_ublock (.int (-1 : Int)) u w = match w.self.files.getLast? with
      | none => (.error .indexError, w)
      | some x => (.ok (), { w with self := { w.self with ublocks := pyDictSet w.self.ublocks x.name u } }) := by
  rcases nil_or_append w.self.files with h | ⟨hs, x, h⟩
  · unfold IH5Record._set_ublock
    simp [h, pyIdx_last_nil]
  · rw [gen_set_ublock_last_snoc w hs x u h, h]; simp

end MetadorModel.Bridge.PatchSteps
