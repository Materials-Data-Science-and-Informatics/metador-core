import MetadorModel.Gen.Diff
import MetadorModel.Bridge.DiffBase
/-! Bridge (C18): the generated `DiffNode.nodes` lists, for a node whose three dicts are in *any*
insertion order, the records the model's `nodes` lists for the node with ascending buckets
(`canon`); for the nodes built by `compare` that is the node itself (`Bridge/Diff.lean`). -/
set_option linter.unusedSimpArgs false
namespace MetadorModel.Bridge.Diff
open MetadorModel MetadorModel.Diff MetadorModel.DiffPy

/-- `DiffNode.nodes()` on a node whose buckets are in *any* insertion order lists the records the
model lists for the node with ascending buckets. (Without the `sorted(...)` in the source this
is false.) -/
theorem gen_nodes : ∀ (fuel : Nat) (d : DNode), ndepth d < fuel →
    ∃ l, Gen.Diff.nodes fuel d = .ok l ∧ l.map DNode.rec' = Diff.nodes (canon d) := by
  intro fuel
  induction fuel with
  | zero => intro _ h; omega
  | succ fuel IH =>
    intro d hd
    obtain ⟨p, pv, cv, rm, md, ad⟩ := d
    have hd' := Nat.max_lt.mp (Nat.lt_of_succ_lt_succ hd)
    have hrm := hd'.1
    have hmd := (Nat.max_lt.mp hd'.2).1
    have had := (Nat.max_lt.mp hd'.2).2
    -- the listing of a child, as a function
    let lst : DNode → List DNode := fun v =>
      match Gen.Diff.nodes fuel v with
      | .ok l => l
      | .error _ => []
    have hl : ∀ (b : List DNode), ndepthL b < fuel → ∀ v ∈ sortedByPath b,
        Gen.Diff.nodes fuel v = .ok (lst v) ∧ (lst v).map DNode.rec' = nodes (canon v) := by
      intro b hdb v hv
      have hv' := (perm_sortedByPath b).mem_iff.mp hv
      obtain ⟨t, h1, h2⟩ := IH v (Nat.lt_of_le_of_lt (ndepth_mem hv') hdb)
      have : lst v = t := by simp only [lst, h1]
      rw [this]; exact ⟨h1, h2⟩
    have hb : ∀ (b : List DNode), ndepthL b < fuel → ∀ (ret : List DNode)
        (f : List DNode → DNode → M (List DNode)),
        (∀ ret v, f ret v = Gen.Diff.nodes fuel v >>= fun t => .ok (ret ++ t)) →
        (sortedByPath b).foldlM f ret = .ok (ret ++ (sortedByPath b).flatMap lst) := by
      intro b hdb ret f hf
      apply loop_extend
      intro ret v hv
      rw [hf, (hl b hdb v hv).1]
      rfl
    have hr : ∀ (b : List DNode), ndepthL b < fuel →
        ((sortedByPath b).flatMap lst).map DNode.rec' = (sortedByPath b).flatMap (fun v => nodes (canon v)) := by
      intro b hdb
      rw [List.map_flatMap]
      apply List.flatMap_congr
      intro v hv
      exact (hl b hdb v hv).2
    rw [Gen.Diff.nodes, nodes_canon]
    simp only [List.foldlM_cons, List.foldlM_nil, values, DNode.removed, DNode.modified, DNode.added,
      pure_eq_ok, ok_bind, bind_pure]
    rw [hb rm hrm _ _ (fun _ _ => by simp)]
    simp only [ok_bind]
    rw [hb md hmd _ _ (fun _ _ => by simp)]
    simp only [ok_bind]
    rw [hb ad had _ _ (fun _ _ => by simp)]
    refine ⟨_, rfl, ?_⟩
    simp only [List.map_append, List.nil_append, List.map_cons, List.map_nil, hr rm hrm,
      hr md hmd, hr ad had, List.append_assoc, List.cons_append]
    simp [DNode.rec', DNode.path, DNode.prev, DNode.curr]

end MetadorModel.Bridge.Diff
