import MetadorModel.Bridge.TocFnsPkg
import MetadorModel.Bridge.TocFnsLinks
import MetadorModel.Bridge.TocFnsMeta
import MetadorModel.Proofs.ContainerInv
/-!
# The hypotheses of the load-loop bridges follow from the container invariant `Inv`

(`PkgTreeOK` for `TOCPackages.__init__`, `LinkTreeOK` for `TOCLinks.__init__`, `MetaDirOK` for
`MetadorMeta.__init__`; `PClosed`, the hypothesis of the two `_unregister` bridges, is a field of `Inv`.)
-/
namespace MetadorModel.Bridge.TocFns
open MetadorModel.Container MetadorModel.CtrPy MetadorModel.Gen.TocFns


theorem holds_cases {o : Option Node} {P : Prop} {n : Node} (h : Holds o P n) : o = none ∨ o = some n := by
  by_cases hp : P
  · exact Or.inr (h.1 hp)
  · exact Or.inl (h.2 hp)

theorem holds_some {o : Option Node} {P : Prop} {n m : Node} (h : Holds o P n) (hg : o = some m) : m = n := by
  rcases holds_cases h with h' | h' <;> rw [h'] at hg <;> cases hg
  rfl

theorem PkgTreeOK.of_inv {e : Env} {s : St} (hi : Inv e s) : PkgTreeOK s.raw where
  keys := hi.keys
  closed := hi.pclosed
  dir := holds_cases hi.toc.packages
  pkg := by
    intro k n hg
    have hsh := hi.toc.shape [.packages, k] (by
      have : (Key.toc :: [Key.packages, k]) = packagesP ++ [k] := rfl
      rw [this, hg]; simp)
    cases hsh with
    | pkg p =>
      refine ⟨p, p, e.pkgPlugins p, rfl, ?_⟩
      exact holds_some (hi.toc.pkg p) hg

theorem LinkTreeOK.of_inv {e : Env} {s : St} (hi : Inv e s) : LinkTreeOK s.raw where
  keys := hi.keys
  closed := hi.pclosed
  dir := holds_cases hi.toc.links
  ep := by
    intro k n hg
    have hsh := hi.toc.shape [.links, k] (by
      have : (Key.toc :: [Key.links, k]) = linksP ++ [k] := rfl
      rw [this, hg]; simp)
    cases hsh with
    | linkDir r =>
      refine ⟨r, rfl, ?_⟩
      exact holds_some (hi.toc.ldir r) hg
  link := by
    intro r k n hg
    have hsh := hi.toc.shape [.links, .ep r, k] (by
      have : (Key.toc :: [Key.links, Key.ep r, k]) = linkDir r ++ [k] := rfl
      rw [this, hg]; simp)
    cases hsh with
    | link r u =>
      have hg' : get? s.raw (linkPath r u) = some n := hg
      by_cases hex : ∃ p, ObjAt s.raw p r u
      · obtain ⟨p, hp⟩ := hex
        rw [hi.toc.link_some p r u hp] at hg'
        cases hg'
        exact ⟨u, _, rfl, rfl⟩
      · rw [hi.toc.link_none r u hex] at hg'; cases hg'

theorem MetaDirOK.of_inv {e : Env} {s : St} (hi : Inv e s) (b : Path) (m : String) (hb : isInternal b = false) :
    MetaDirOK s.raw (b ++ [.metaDir m]) where
  keys := hi.keys
  closed := hi.pclosed
  objs := by
    intro k n hg
    have hne : get? s.raw (b ++ Key.metaDir m :: k :: []) ≠ none := by
      have : b ++ Key.metaDir m :: k :: [] = b ++ [Key.metaDir m] ++ [k] := by simp
      rw [this, hg]; simp
    obtain ⟨_, r, u, rfl⟩ := below_metaDir hi.treeOK hb hne
    have hq : b ++ [Key.metaDir m] ++ [Key.obj r u] = b ++ [Key.metaDir m, Key.obj r u] := by simp
    have hsh := hi.mok.ushape (b ++ [Key.metaDir m, Key.obj r u]) n (by simp) (objPath_head hb) (by rw [← hq]; exact hg)
    generalize hqq : b ++ [Key.metaDir m, Key.obj r u] = q at hsh
    cases hsh with
    | user q n hi' _ =>
      rw [← hqq, isInternal_append] at hi'
      simp [isInternal, Key.internal] at hi'
    | metaDir base m' hb' =>
      have : b ++ [Key.metaDir m, Key.obj r u] = (b ++ [Key.metaDir m]) ++ [Key.obj r u] := by simp
      rw [this] at hqq
      have := List.append_inj_right' hqq (by simp)
      simp at this
    | obj base m' r' u' tok hb' => exact ⟨r, u, _, rfl, rfl⟩

end MetadorModel.Bridge.TocFns
