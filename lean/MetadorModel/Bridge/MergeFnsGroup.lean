import MetadorModel.Proofs.OverlayWriteSorted
import MetadorModel.Proofs.OverlayWriteLook
import MetadorModel.Py.MergePy
/-!
# Bridge for C05, part 1: the listing of a record is the concatenation of the listings of its
top-level subtrees

`IH5Record.merge_files` copies the source key by key (`for name in source_node.keys():
h5_copy_from_to(source_node[name], target_node, name)`), the model replays the whole listing at
once (`Merge.materialise`). Both write the same sequence because the listing is sorted by
`pathLt` (a path precedes its extensions, siblings in string order) and every visible node has a
visible top-level ancestor: the entries below one top-level key are contiguous.
-/
namespace MetadorModel.Bridge.MergeFns
open MetadorModel.Tree MetadorModel.Overlay MetadorModel.Merge MetadorModel.MergePy
variable {V : Type}

theorem childKey_nil (q : Path) (k : Key) : childKey [] q = some k ↔ q = [k] := by
  cases q with
  | nil => simp [childKey]
  | cons a t =>
    cases t with
    | nil => simp [childKey]
    | cons b t' => simp [childKey]

theorem isPre_single (k : Key) (q : Path) : isPre [k] q = true ↔ ∃ s, q = k :: s := by
  rw [isPre_iff]; simp

section grouping
variable {β : Type}

/-- the blocks of a sorted, duplicate-free path-keyed list below its top-level keys, in order, are the
list without its root entry -/
theorem flatMap_blocks (L : List (Path × β))
    (hs : Srt pathLt (L.map (·.1))) (hn : (L.map (·.1)).Nodup)
    (htop : ∀ e ∈ L, ∀ k s, e.1 = k :: s → ∃ e' ∈ L, e'.1 = [k]) :
    (L.filterMap (fun e => childKey [] e.1)).flatMap (fun k => L.filter (fun e => isPre [k] e.1)) =
      L.filter (fun e => e.1 != []) := by
  have hS := strict_of_sorted_nodup L hs hn
  have hirr : ∀ {a b : Path × β}, pathLt a.1 b.1 = true → a ≠ b := by
    intro a b h hab
    subst hab
    rw [pathLt_irrefl] at h; cases h
  -- the concatenation of the blocks is increasing: inside a block as in `L`, across blocks by the first key
  have hblocks : ((L.filterMap (fun e => childKey [] e.1)).flatMap
      (fun k => L.filter (fun e => isPre [k] e.1))).Pairwise (fun a b => pathLt a.1 b.1 = true) := by
    rw [List.pairwise_flatMap]
    refine ⟨fun k _ => hS.sublist List.filter_sublist, ?_⟩
    rw [List.pairwise_filterMap]
    refine hS.imp ?_
    intro a b hab k1 hk1 k2 hk2 x hx y hy
    rw [childKey_nil] at hk1 hk2
    rw [hk1, hk2] at hab
    have hlt : k1 < k2 := by
      simp only [pathLt] at hab
      by_cases h : k1 < k2
      · exact h
      · by_cases h' : k1 = k2 <;> simp [h, h'] at hab
    simp only [List.mem_filter] at hx hy
    obtain ⟨s, hxs⟩ := (isPre_single k1 x.1).1 hx.2
    obtain ⟨s', hys⟩ := (isPre_single k2 y.1).1 hy.2
    rw [hxs, hys]
    simp [pathLt, hlt]
  have hrest := hS.sublist (List.filter_sublist (p := fun e => e.1 != []))
  -- two increasing lists with the same elements are equal
  apply List.Perm.eq_of_pairwise (le := fun a b => pathLt a.1 b.1 = true)
  · intro a b _ _ h1 h2
    rw [pathLt_asymm _ _ h1] at h2; cases h2
  · exact hblocks
  · exact hrest
  · rw [List.perm_ext_iff_of_nodup (hblocks.imp hirr) (hrest.imp hirr)]
    intro x
    simp only [List.mem_flatMap, List.mem_filterMap, List.mem_filter, childKey_nil, bne_iff_ne, ne_eq]
    constructor
    · rintro ⟨k, _, hx, hpre⟩
      obtain ⟨s, hs'⟩ := (isPre_single k x.1).1 hpre
      exact ⟨hx, by rw [hs']; simp⟩
    · rintro ⟨hx, hne⟩
      cases hx1 : x.1 with
      | nil => exact absurd hx1 hne
      | cons k s =>
        obtain ⟨e', he', hk⟩ := htop x hx k s hx1
        exact ⟨k, ⟨e', he', hk⟩, hx, (isPre_single k _).2 ⟨s, rfl⟩⟩
end grouping

end MetadorModel.Bridge.MergeFns
