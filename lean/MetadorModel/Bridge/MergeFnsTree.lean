import MetadorModel.Bridge.MergeFnsGroup
import MetadorModel.Proofs.Single
/-!
# Bridge for C05 / C10, part 2: what the loops of `merge_files` and `init_stub_skeleton` write

Reference folds over the dictionary operations (`mergeFold`, `stubFold`) and the proofs that they
are the model's `Merge.mergeCont` / `Merge.stubCont`. `Bridge/MergeFns.lean` shows that the
generated functions compute these folds.
-/
namespace MetadorModel.Bridge.MergeFns
open MetadorModel.Tree MetadorModel.Overlay MetadorModel.Merge MetadorModel.MergePy MetadorModel.Single
variable {V : Type}

/-- `obj["/"].keys()` -/
def topKeys (r : Rec V) : List Key := (Overlay.listing r).filterMap (fun e => childKey [] e.1)

/-- the entries below the top-level key `k` (the subtree `h5_copy_from_to` lists) -/
def block (r : Rec V) (k : Key) : Listing V := (Overlay.listing r).filter (fun e => isPre [k] e.1)

theorem listing_blocks (r : Rec V) : (topKeys r).flatMap (block r) = nonRoot (Overlay.listing r) :=
  flatMap_blocks (Overlay.listing r) (listing_keys_sorted r) (listing_keys_nodup r) (listing_top r)

theorem mem_topKeys (r : Rec V) (k : Key) (h : k ∈ topKeys r) : ∃ kd, viewKind r [k] = some kd := by
  simp only [topKeys, List.mem_filterMap, childKey_nil] at h
  obtain ⟨e, he, hk⟩ := h
  obtain ⟨hv, _⟩ := mem_listing r e he
  exact ⟨e.2.1, by rw [← hk, hv]⟩

theorem replay_append (s d : Path) (l1 l2 : Listing V) : ∀ (r : Rec V),
    W.replay s d r (l1 ++ l2) = W.replay s d r l1 >>= fun r' => W.replay s d r' l2 := by
  induction l1 with
  | nil => intro r; simp [W.replay, bind, Except.bind]
  | cons e more ih =>
    intro r
    obtain ⟨q, kd, as⟩ := e
    simp only [List.cons_append, W.replay, bind_assoc]
    congr 1; funext r1
    congr 1; funext r2
    exact ih r2

/-- copying the subtree at the top-level key `k` to the same key of the target writes the entries where they
were -/
theorem replay_shift (k : Key) (l : Listing V) (h : ∀ e ∈ l, isPre [k] e.1 = true) : ∀ (r : Rec V),
    W.replay [k] ([] ++ [k]) r l = W.replay [] [] r l := by
  induction l with
  | nil => intro r; simp [W.replay]
  | cons e more ih =>
    intro r
    obtain ⟨q, kd, as⟩ := e
    obtain ⟨s, hs⟩ := (isPre_single k q).1 (h (q, kd, as) (by simp))
    subst hs
    simp only [W.replay, List.nil_append, List.length_cons, List.length_nil, List.drop_succ_cons, List.drop_zero,
      List.singleton_append, Nat.zero_add]
    congr 1; funext r1
    congr 1; funext r2
    exact ih (fun e he => h e (by simp [he])) r2


/-! ## `merge_files`: root attributes, then one `h5_copy_from_to` per top-level key -/

section fold
variable {α β : Type}

theorem pyFor_append {m : Type → Type} [Monad m] [LawfulMonad m] (xs ys : List α) (f : α → β → m β) :
    ∀ b, pyFor (xs ++ ys) b f = pyFor xs b f >>= fun b' => pyFor ys b' f := by
  induction xs with
  | nil => intro b; simp [pyFor]
  | cons x xs ih => intro b; simp [pyFor, ih]

theorem pyFor_congr_mem {m : Type → Type} [Monad m] (xs : List α) (f g : α → β → m β)
    (h : ∀ x ∈ xs, ∀ b, f x b = g x b) : ∀ b, pyFor xs b f = pyFor xs b g := by
  induction xs with
  | nil => intro b; rfl
  | cons x xs ih =>
    intro b
    simp only [pyFor]
    rw [h x (by simp) b]
    congr 1; funext b'
    exact ih (fun y hy => h y (by simp [hy])) b'

theorem pyFor_pure (xs : List α) (f : α → β → PyM V β) (g : α → β → Except PyErr β) (w : World V)
    (h : ∀ x ∈ xs, ∀ b, f x b w = (g x b, w)) : ∀ b, pyFor xs b f w = (pyFor xs b g, w) := by
  induction xs with
  | nil => intro b; rfl
  | cons x xs ih =>
    intro b
    simp only [pyFor, run_bind]
    rw [h x (by simp) b]
    cases hg : g x b with
    | error e => simp [bind, Except.bind]
    | ok b' =>
      simp only [bind, Except.bind]
      exact ih (fun y hy => h y (by simp [hy])) b'

theorem pyFor_liftTree (xs : List α) (g : α → Rec V → Except Tree.Err (Rec V)) :
    ∀ (o : Obj V), pyFor xs o (fun x o => liftTree o (g x o.conts)) = liftTree o (pyFor xs o.conts g) := by
  induction xs with
  | nil => intro o; simp [pyFor, liftTree, pure, Except.pure]
  | cons x xs ih =>
    intro o
    simp only [pyFor]
    cases hg : g x o.conts with
    | error e => simp [liftTree, bind, Except.bind]
    | ok c =>
      simp only [liftTree, bind, Except.bind]
      have := ih { o with conts := c }
      simpa [liftTree] using this
end fold

/-- `for name in source_node.keys(): h5_copy_from_to(source_node[name], target_node, name)` on the target tree -/
def keyStep (src : Rec V) (name : Key) (t : Rec V) : Except Tree.Err (Rec V) :=
  W.replay [name] ([] ++ [name]) t (block src name)

/-- the two loops of `merge_files` on the target tree -/
def mergeFold (src t : Rec V) : Except Tree.Err (Rec V) :=
  W.copyAttrs t [] (attrsList src []) >>= fun t1 => pyFor (topKeys src) t1 (keyStep src)

theorem keys_replay (src : Rec V) (ks : List Key) : ∀ (t : Rec V),
    pyFor ks t (keyStep src) = W.replay [] [] t (ks.flatMap (block src)) := by
  induction ks with
  | nil => intro t; simp [pyFor, W.replay, pure, Except.pure]
  | cons k ks ih =>
    intro t
    simp only [pyFor, List.flatMap_cons, replay_append, keyStep]
    rw [replay_shift k (block src k) (fun e he => by simpa [block] using (List.mem_filter.1 he).2)]
    congr 1; funext t'
    exact ih t'

theorem materialise_unfold (l : Listing V) :
    materialise l = W.copyAttrs (Rec.init : Rec V) [] (rootAttrsOf l) >>= fun r1 => W.replay [] [] r1 (nonRoot l) := rfl

/-- **the writes of `merge_files` are the model's `mergeCont`** -/
theorem mergeFold_eq (r : Rec V) : mergeFold r Rec.init = mergeCont r := by
  rw [mergeCont, materialise_unfold, Listing.rootAttrs_listing]
  simp only [mergeFold, keys_replay, listing_blocks]

/-! ## `init_stub_skeleton`: one node and its attribute placeholders per skeleton entry -/

/-- what `init_stub_skeleton` does for one skeleton entry -/
def stubEntry (E : Env V) (e : Path × Bool × List Key) (o : Obj V) : Except PyErr (Obj V) :=
  (if e.2.1 == true then
      pyContains o e.1 >>= fun b => if !b then pyCreateGroup o e.1 else pure o
    else if e.2.1 == false then pySetItem o e.1 E.empty
    else pure o) >>= fun o1 => pyFor e.2.2 o1 (fun a o => pyItemAttrSet o e.1 a E.empty)

/-- the loop of `init_stub_skeleton` -/
def stubFold (E : Env V) (sk : Skel) (o : Obj V) : Except PyErr (Obj V) := pyFor sk o (stubEntry E)

theorem stubAttrs_single (empty : V) (p : Path) (names : List Key) :
    ∀ (o : Obj V) (c : Cont V) (n : RNode V), o.conts = [c] → Good c → aget p c = some n →
      pyFor names o (fun a o => pyItemAttrSet o p a empty) =
        .ok { o with conts := [aput p { n with attrs := putAll (names.map (fun a => (a, empty))) n.attrs } c] } := by
  induction names with
  | nil =>
    intro o c n ho _ hp
    simp only [pyFor, List.map_nil, putAll, List.foldl_nil, pure, Except.pure]
    rw [aput_self p _ c (by simpa using hp), ← ho]
  | cons a rest ih =>
    intro o c n ho g hp
    obtain ⟨i, m, hl⟩ := look_single_found g hp
    have hstep : pyItemAttrSet o p a empty =
        .ok { o with conts := [aput p { n with attrs := aput a (some empty) n.attrs } c] } := by
      simp only [pyItemAttrSet, ho, hl, setAttrRaw_single c p n a (some empty) hp, liftTree]
    have g' := good_aput_attrs g (aput a (some empty) n.attrs) hp
    rw [pyFor, hstep]
    simp only [bind, Except.bind]
    rw [ih { o with conts := [aput p { n with attrs := aput a (some empty) n.attrs } c] } _
      { n with attrs := aput a (some empty) n.attrs } rfl g' (aget_aput_same _ _ _)]
    simp [putAll, aput_aput_same]

theorem stubEntry_single (E : Env V) (e : Path × NKind V × List (Key × V)) (o : Obj V) (c : Cont V)
    (ho : o.conts = [c]) (g : Good c) (h : StepOk c (e.1, emptied E.empty e.2)) :
    stubEntry E (skelEntry e) o = .ok { o with conts := [apply1 c (e.1, emptied E.empty e.2)] } ∧
      Good (apply1 c (e.1, emptied E.empty e.2)) := by
  obtain ⟨par, k, np, hq, hnp, hg, hnone⟩ := h
  obtain ⟨q, kd, as⟩ := e
  simp only at hq hnone
  subst hq
  refine ⟨?_, (step_single g _ ⟨par, k, np, rfl, hnp, hg, hnone⟩).2⟩
  -- the node is created without attributes, then the placeholders are set one by one
  have hat : ∀ n : RNode V, n.kind.isDel = false → _ := fun n hn =>
    stubAttrs_single E.empty (par ++ [k]) (as.map (·.1)) { o with conts := [aput (par ++ [k]) n c] } _ n rfl
      (good_aput_new g k n hnp hg hnone hn) (aget_aput_same _ _ _)
  have hmap : (as.map (fun kv => kv.1)).map (fun a => (a, E.empty)) = as.map (fun kv => (kv.1, E.empty)) := by
    simp [List.map_map, Function.comp_def]
  cases kd with
  | group =>
    simp only [stubEntry, skelEntry, beq_self_eq_true, if_true, pyContains, ho, look_single_part g.wf k hnp hg hnone,
      pyCreateGroup, createGroup_single g.wf k hnp hg hnone, liftTree, bind, Except.bind, Bool.not_false]
    rw [hat vnode rfl]
    simp [apply1, emptied, rawKind, aput_aput_same, vnode, hmap]
  | data v =>
    simp only [stubEntry, skelEntry, pySetItem, ho, createDataset_single g.wf k E.empty hnp hg hnone, liftTree, bind,
      Except.bind, show ((false : Bool) == true) = false from rfl, show ((false : Bool) == false) = true from rfl,
      if_true, Bool.false_eq_true, if_false]
    rw [hat ⟨.data E.empty, []⟩ rfl]
    simp [apply1, emptied, rawKind, aput_aput_same, hmap]

theorem stubFold_chain (E : Env V) (l : Listing V) : ∀ (o : Obj V) (c : Cont V), o.conts = [c] → Good c →
    Chain c (stubListing E.empty l) →
    stubFold E (skel l) o = .ok { o with conts := [(stubListing E.empty l).foldl apply1 c] } := by
  induction l with
  | nil =>
    intro o c ho _ _
    simp [stubFold, skel, pyFor, stubListing, pure, Except.pure, ← ho]
  | cons e more ih =>
    intro o c ho g hch
    rw [stubListing_eq, List.map_cons] at hch
    obtain ⟨hs, hmore⟩ := hch
    obtain ⟨h1, g1⟩ := stubEntry_single E e o c ho g hs
    have := ih { o with conts := [apply1 c (e.1, emptied E.empty e.2)] } _ rfl g1 (by rw [stubListing_eq]; exact hmore)
    simp only [stubFold, skel, List.map_cons, pyFor, bind, Except.bind] at this ⊢
    rw [h1]
    simpa [stubListing_eq] using this

theorem rootCont_nil : rootCont ([] : List (Key × V)) = Cont.init := by
  simp [rootCont, putAll, Cont.init, aput, vnode]

/-- **the writes of `init_stub_skeleton` are the model's `stubCont`** (for a record whose view is a tree listed
parents-first — the hypothesis of the C05 / C10 theorems, reported as `wf T` by the driver on every run) -/
theorem stubFold_eq (E : Env V) (r : Rec V) (h : Replayable (Overlay.listing r)) (o : Obj V) (ho : o.conts = Rec.init) :
    stubFold E (skel (Overlay.listing r)) o = liftTree o (stubCont E.empty r) := by
  have hrep := replayable_stub E.empty (Overlay.listing r) h
  obtain ⟨heq, _⟩ := materialise_eq _ hrep
  rw [stubCont, heq]
  unfold Replayable at hrep
  rw [nonRoot_stub] at hrep ⊢
  rw [rootAttrsOf_stub, Listing.rootAttrs_listing] at hrep ⊢
  -- the loop: root entry (if any), then the rest
  have hsplit : stubFold E (skel (Overlay.listing r)) o =
      stubFold E (skel (if [] ∈ candidates r then [([], NKind.group, attrsList r [])] else [])) o >>=
        fun o1 => stubFold E (skel (nonRoot (Overlay.listing r))) o1 := by
    conv_lhs => rw [listing_root_first r]
    simp only [stubFold, skel, List.map_append]
    exact pyFor_append _ _ _ _
  rw [hsplit]
  have hroot : stubFold E (skel (if [] ∈ candidates r then [([], NKind.group, attrsList r [])] else [])) o =
      .ok { o with conts := [rootCont ((attrsList r []).map (fun kv => (kv.1, E.empty)))] } := by
    by_cases hc : [] ∈ candidates r
    · have hat := stubAttrs_single E.empty [] ((attrsList r []).map (·.1)) o Cont.init vnode (by rw [ho]; rfl) good_init
        (by simp [Cont.init, aget])
      have hmap : ((attrsList r []).map (fun kv => kv.1)).map (fun a => (a, E.empty)) =
          (attrsList r []).map (fun kv => (kv.1, E.empty)) := by
        simp [List.map_map, Function.comp_def]
      simp only [hc, if_true, stubFold, skel, List.map_cons, List.map_nil, pyFor, skelEntry, stubEntry,
        beq_self_eq_true, pyContains, ho, bind, Except.bind]
      simp only [show look (Rec.init : Rec V) [] = .found 0 vnode from rfl, Bool.not_true, Bool.false_eq_true, if_false,
        pure, Except.pure]
      rw [hat]
      simp [rootCont, hmap, vnode]
    · have hnil : attrsList r [] = [] := by
        rw [← Listing.rootAttrs_listing, Listing.rootAttrsOf_eq, Listing.aget_listing_root]; simp [hc]
      simp only [hc, if_false, stubFold, skel, List.map_nil, pyFor, pure, Except.pure, hnil, rootCont_nil]
      congr 1
      cases o; simp_all [Rec.init]
  rw [hroot]
  simp only [bind, Except.bind]
  rw [stubFold_chain E (nonRoot (Overlay.listing r)) _ _ rfl (good_rootCont _) hrep]
  simp [liftTree, stubListing_eq]

end MetadorModel.Bridge.MergeFns
