import MetadorModel.Model.ByteStreams
import MetadorModel.Proofs.Bytes
/-! Helper lemmas for `Model/ByteStreams.lean` (the read loop of `hashsum` on streams that
deliver short reads). Used by C19. -/
namespace MetadorModel.Bytes

/-- Whatever the delivery schedule (every read delivers at least one byte while bytes are
left), the loop of `hashsum` leaves the hash object in the state of one `update` with the whole
content of the stream. -/
theorem readLoopS_eq {σ : Type} (hl : HashLib σ) (h : Streaming hl) (cap : Nat → Nat)
    (hcap : ∀ i, 0 < cap i) :
    ∀ (fuel i : Nat) (bs : Bytes) (s : σ), bs.length < fuel →
      readLoopS hl cap fuel i bs s = hl.update s bs := by
  intro fuel
  induction fuel with
  | zero => intro i bs s hl'; omega
  | succ f ih =>
    intro i bs s hlt
    have hpos : 0 < min (hl.blockSize s) (cap i) := Nat.lt_min.mpr ⟨h.block_pos s, hcap i⟩
    rw [readLoopS]
    split_ifs with he
    · rw [eq_nil_of_take_isEmpty hpos he, h.empty]
    · have := drop_length_lt hpos he
      rw [ih _ _ _ (by omega), h.append, List.take_append_drop]

/-- the loop of `Model/Bytes.lean` is the instance "no read is ever short" -/
theorem readLoopS_full {σ : Type} (hl : HashLib σ) (cap : Nat → Nat)
    (hfull : ∀ i s, hl.blockSize s ≤ cap i) :
    ∀ (fuel i : Nat) (bs : Bytes) (s : σ), readLoopS hl cap fuel i bs s = readLoop hl fuel bs s := by
  intro fuel
  induction fuel with
  | zero => intro i bs s; rfl
  | succ f ih =>
    intro i bs s
    unfold readLoopS readLoop
    simp only
    rw [Nat.min_eq_left (hfull i s)]
    split_ifs with he
    · rfl
    · rw [ih]

theorem hashsumS_eq_oneShot {σ : Type} (hl : HashLib σ) (h : Streaming hl) (cap : Nat → Nat)
    (hcap : ∀ i, 0 < cap i) (alg : Str) (ha : alg ∈ hashAlgs) (bs : Bytes) :
    hashsumS hl cap bs alg = .ok (oneShot hl alg bs) := by
  unfold hashsumS oneShot
  rw [if_pos ha]
  simp only
  rw [readLoopS_eq hl h cap hcap _ _ _ _ (Nat.lt_succ_self _)]

theorem qualifiedHashsumS_eq {σ : Type} (hl : HashLib σ) (h : Streaming hl) (cap : Nat → Nat)
    (hcap : ∀ i, 0 < cap i) (alg : Str) (ha : alg ∈ hashAlgs) (bs : Bytes) :
    qualifiedHashsumS hl cap bs alg = .ok (alg ++ ':' :: oneShot hl alg bs) := by
  unfold qualifiedHashsumS
  rw [hashsumS_eq_oneShot hl h cap hcap alg ha]

theorem hashsumS_unsupported {σ : Type} (hl : HashLib σ) (cap : Nat → Nat) (alg : Str)
    (ha : alg ∉ hashAlgs) (bs : Bytes) : hashsumS hl cap bs alg = .error .valueError := by
  unfold hashsumS
  rw [if_neg ha]

theorem cyclic_pos (cyc : List Nat) (big : Nat) (hb : 0 < big) (hc : ∀ k ∈ cyc, 0 < k) (i : Nat) :
    0 < cyclic cyc big i := by
  unfold cyclic
  split
  · next k hk => exact hc k (List.mem_of_getElem? hk)
  · exact hb

end MetadorModel.Bytes
