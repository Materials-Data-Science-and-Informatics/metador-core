import MetadorModel.Model.Codec
/-!
# Helper definitions and lemmas for the codec model (C12, used by C13)

* `Valid env t v` — `v` is a validated instance value of field type `t`: what pydantic holds
  after validation (normal forms of the library codecs, stripped strings, de-duplicated sets,
  all declared fields present with `none` for a missing optional, constants of the class,
  extras according to the policy), with a missing optional expressed by omission
  (`ValidF`: `none` only for a field without default) and every Union value stored at the
  first alternative that accepts its encoding (`ValidU`).
* `roundtrip_core`: `Valid env t v → decode env t (encode v) = ok v`, by mutual structural
  recursion over `Ty` / `List Ty` / `List Field` / `Field`.
-/
namespace MetadorModel.Codec

theorem encode_null (v : PyVal) (h : encode v = .null) : v = .none := by
  cases v <;> simp [encode] at h ⊢

theorem isNull_encode (v : PyVal) : isNull (encode v) = true ↔ v = .none := by
  cases v <;> simp [encode, isNull]

theorem decode_opt_nonnull (env : Env) (t : Ty) (j : Json) (h : j ≠ .null) :
    decode env (.opt t) j = decode env t j := by
  cases j <;> simp [decode] at h ⊢

theorem accepts_iff (env : Env) (t : Ty) (j : Json) :
    accepts env t j = true ↔ ∃ v, decode env t j = .ok v := by
  unfold accepts
  cases decode env t j <;> simp

theorem mapOk_ok {α β : Type} (f : α → β) (r : Except Err α) (a : α) (h : r = .ok a) :
    mapOk f r = .ok (f a) := by
  subst h; rfl

/-- `None` is kept out of the serialised object (`exclude_none`) -/
def encOpt : PyVal → Option Json
  | .none => none
  | v => some (encode v)

theorem encOpt_of_ne_none (v : PyVal) (h : v ≠ .none) : encOpt v = some (encode v) := by
  cases v <;> simp [encOpt] at h ⊢

/-- extras an object of the schema may carry: none unless the policy is `allow`; then keys
other than the declared names, values other than `None` (`exclude_none` drops those) -/
def ExtrasOk (e : Extra) (fs : List Field) (cs : List (Str × Json)) (xs : List (Str × Json)) : Prop :=
  match e with
  | .allow => ∀ p ∈ xs, isNull p.2 = false ∧ fs.any (fun f => fieldName f == p.1) = false ∧ hasKey p.1 cs = false
  | _ => xs = []

mutual
def Valid (env : Env) : Ty → PyVal → Prop
  | .bool, v => ∃ b, v = .bool b
  | .int, v => ∃ i, v = .int i
  | .float, v => ∃ t, v = .float t ∧ env.normFloat t = some t
  | .str, v => ∃ s, v = .str s ∧ stripWs s = s ∧ s ≠ []
  | .cstr k, v => ∃ s, v = .str s ∧ recog k s = true
  | .opq k, v => ∃ s, v = .opq k s ∧ env.norm k s = some s ∧ env.crash k s = false
  | .lit vs, v => ∃ l, v = litVal l ∧
      (vs.filter (fun l' => litMatch l' (encode (litVal l)))).getLast? = some l
  | .opt t, v => v = .none ∨ Valid env t v
  | .ann t, v => Valid env t v
  | .union ts, v => ValidU env ts v
  | .list t, v => ∃ vs, v = .list vs ∧ ∀ x ∈ vs, Valid env t x
  | .set t, v => ∃ vs, v = .set vs ∧ (∀ x ∈ vs, Valid env t x) ∧ vs.all hashable = true ∧ dedup vs = vs
  | .model n e fs cs, v => ∃ fvs xs, v = .obj n fvs cs xs ∧ ValidFs env fs fvs ∧ ExtrasOk e fs cs xs
      ∧ (fs.map fieldName).Nodup ∧ (∀ f ∈ fs, hasKey (fieldName f) cs = false)
      ∧ (∀ p ∈ cs, isNull p.2 = false)
/-- the value sits at the first alternative that accepts its encoding -/
def ValidU (env : Env) : List Ty → PyVal → Prop
  | [], _ => False
  | t :: ts, v => Valid env t v ∨
      ((∃ e, decode env t (encode v) = .error e ∧ e ≠ .crash) ∧ ValidU env ts v)
def ValidFs (env : Env) : List Field → List (Str × PyVal) → Prop
  | [], fvs => fvs = []
  | f :: fs, fvs => ∃ v rest, fvs = (fieldName f, v) :: rest ∧ ValidF env f v ∧ ValidFs env fs rest
/-- a missing optional is `none` only where no default is declared (an explicit `None` for a
field with a non-`None` default legitimately reads back as that default) -/
def ValidF (env : Env) : Field → PyVal → Prop
  | .mk _ t req d, v => (v = .none ∧ req = false ∧ d = none) ∨ (v ≠ .none ∧ Valid env t v)
end

theorem allOk_roundtrip (env : Env) (t : Ty) :
    ∀ vs : List PyVal, (∀ x ∈ vs, decode env t (encode x) = .ok x) →
      allOk ((encodeList vs).map (fun j => decode env t j)) = .ok vs
  | [], _ => by simp [encodeList, allOk]
  | v :: vs, h => by
    have h1 := h v (by simp)
    have h2 := allOk_roundtrip env t vs (fun x hx => h x (by simp [hx]))
    simp [encodeList, allOk, h1, h2, mapOk]

theorem lookup_append (k : Str) (a b : List (Str × Json)) :
    lookup k (a ++ b) = match lookup k a with
      | some v => some v
      | none => lookup k b := by
  induction a with
  | nil => rfl
  | cons p a ih =>
    obtain ⟨k', v⟩ := p
    by_cases h : k = k' <;> simp [lookup, h, ih]

theorem lookup_none_of_notin (k : Str) (l : List (Str × Json)) (h : ∀ p ∈ l, p.1 ≠ k) :
    lookup k l = none := by
  induction l with
  | nil => rfl
  | cons p l ih =>
    have hk : ¬ (k = p.1) := fun e => h p (by simp) e.symm
    simp [lookup, hk, ih (fun q hq => h q (by simp [hq]))]

theorem hasKey_eq_isSome (k : Str) (l : List (Str × Json)) : hasKey k l = (lookup k l).isSome := by
  induction l with
  | nil => rfl
  | cons p l ih =>
    rw [show hasKey k (p :: l) = (p.1 == k || hasKey k l) from rfl, ih]
    by_cases h : k = p.1
    · simp [lookup, h]
    · simp [lookup, h, Ne.symm h]

theorem lookup_none_of_hasKey (k : Str) (l : List (Str × Json)) (h : hasKey k l = false) :
    lookup k l = none := by
  simpa [hasKey_eq_isSome] using h

theorem encodeFields_cons_none (k : Str) (r : List (Str × PyVal)) :
    encodeFields ((k, .none) :: r) = encodeFields r := by
  simp [encodeFields]

theorem encodeFields_cons_ne (k : Str) (v : PyVal) (r : List (Str × PyVal)) (h : v ≠ .none) :
    encodeFields ((k, v) :: r) = (k, encode v) :: encodeFields r := by
  cases v <;> simp [encodeFields] at h ⊢

theorem encodeFields_keys (fvs : List (Str × PyVal)) :
    ∀ p ∈ encodeFields fvs, ∃ q ∈ fvs, q.1 = p.1 := by
  induction fvs with
  | nil => simp [encodeFields]
  | cons q fvs ih =>
    obtain ⟨k, v⟩ := q
    intro p hp
    by_cases hv : v = .none
    · subst hv
      obtain ⟨q, hq, e⟩ := ih p hp
      exact ⟨q, by simp [hq], e⟩
    · rw [encodeFields_cons_ne k v fvs hv, List.mem_cons] at hp
      rcases hp with rfl | hp
      · exact ⟨(k, v), by simp, rfl⟩
      · obtain ⟨q, hq, e⟩ := ih p hp
        exact ⟨q, by simp [hq], e⟩

theorem lookup_encodeFields (fvs : List (Str × PyVal)) (hnd : (fvs.map (·.1)).Nodup) :
    ∀ p ∈ fvs, lookup p.1 (encodeFields fvs) = encOpt p.2 := by
  induction fvs with
  | nil => simp
  | cons q fvs ih =>
    obtain ⟨k, v⟩ := q
    simp only [List.map_cons, List.nodup_cons, List.mem_map, not_exists, not_and] at hnd
    have hhead : lookup k (encodeFields ((k, v) :: fvs)) = encOpt v := by
      by_cases hv : v = .none
      · subst hv
        exact lookup_none_of_notin k _ fun p hp e =>
          have ⟨q, hq, e2⟩ := encodeFields_keys fvs p hp
          hnd.1 q hq (e2.trans e)
      · simp [encodeFields_cons_ne k v fvs hv, lookup, encOpt_of_ne_none v hv]
    intro p hp
    rcases List.mem_cons.mp hp with rfl | hp'
    · exact hhead
    · have hne : ¬ (p.1 = k) := hnd.1 p hp'
      by_cases hv : v = .none
      · subst hv
        exact ih hnd.2 p hp'
      · simp [encodeFields_cons_ne k v fvs hv, lookup, hne, ih hnd.2 p hp']

theorem ValidFs_keys (env : Env) : ∀ (fs : List Field) (fvs : List (Str × PyVal)),
    ValidFs env fs fvs → fvs.map (·.1) = fs.map fieldName
  | [], _, h => by
    simp only [ValidFs] at h
    simp [h]
  | f :: fs, _, h => by
    simp only [ValidFs] at h
    obtain ⟨v, rest, rfl, _, hr⟩ := h
    simp [ValidFs_keys env fs rest hr]

theorem valid_model_inv (env : Env) (n : Str) (ex : Extra) (fs : List Field) (cs : List (Str × Json))
    (v : PyVal) (h : Valid env (.model n ex fs cs) v) :
    ∃ fvs xs, v = .obj n fvs cs xs ∧ ValidFs env fs fvs ∧ ExtrasOk ex fs cs xs
      ∧ (fs.map fieldName).Nodup ∧ (∀ f ∈ fs, hasKey (fieldName f) cs = false)
      ∧ (∀ p ∈ cs, isNull p.2 = false) := by
  simpa only [Valid] using h

theorem ExtrasOk.all {ex : Extra} {fs : List Field} {cs xs : List (Str × Json)} (hxs : ExtrasOk ex fs cs xs) :
    ∀ p ∈ xs, isNull p.2 = false ∧ fs.any (fun f => fieldName f == p.1) = false ∧ hasKey p.1 cs = false := by
  cases ex
  case allow => exact hxs
  all_goals simp [show xs = [] from hxs]

theorem extras_filter_self (ex : Extra) (fs : List Field) (cs xs : List (Str × Json))
    (hxs : ExtrasOk ex fs cs xs) : xs.filter (fun p => !isNull p.2) = xs :=
  List.filter_eq_self.mpr fun q hq => by simp [(hxs.all q hq).1]

theorem dump_lookup (env : Env) (ex : Extra) (fs : List Field) (cs xs : List (Str × Json))
    (fvs : List (Str × PyVal)) (hfs : ValidFs env fs fvs) (hxs : ExtrasOk ex fs cs xs)
    (hnd : (fs.map fieldName).Nodup) (hdisj : ∀ f ∈ fs, hasKey (fieldName f) cs = false) :
    ∀ p ∈ fvs, lookup p.1 (encodeFields fvs ++ cs ++ xs) = encOpt p.2 := by
  have hkeys := ValidFs_keys env fs fvs hfs
  intro p hp
  rw [List.append_assoc, lookup_append, lookup_encodeFields fvs (hkeys ▸ hnd) p hp]
  cases encOpt p.2 with
  | some j => rfl
  | none =>
    -- the key is a declared name, so neither a constant nor an extra
    obtain ⟨f, hf, hfn⟩ := List.mem_map.mp (hkeys ▸ List.mem_map.mpr ⟨p, hp, rfl⟩)
    have hc : lookup p.1 cs = none := lookup_none_of_hasKey _ _ (hfn ▸ hdisj f hf)
    have hx : lookup p.1 xs = none :=
      lookup_none_of_notin _ _ fun q hq e => by
        simpa [e, hfn] using List.any_eq_false.mp (hxs.all q hq).2.1 f hf
    simp [lookup_append, hc, hx]

theorem dump_extras (env : Env) (ex : Extra) (fs : List Field) (cs xs : List (Str × Json))
    (fvs : List (Str × PyVal)) (hfs : ValidFs env fs fvs) (hxs : ExtrasOk ex fs cs xs) :
    (encodeFields fvs ++ cs ++ xs).filter
      (fun p => !(fs.any (fun f => fieldName f == p.1)) && !hasKey p.1 cs) = xs := by
  have hkeys := ValidFs_keys env fs fvs hfs
  have e1 : ∀ p ∈ encodeFields fvs, fs.any (fun f => fieldName f == p.1) = true := by
    intro p hp
    obtain ⟨q, hq, e⟩ := encodeFields_keys fvs p hp
    obtain ⟨f, hf, hfn⟩ := List.mem_map.mp (hkeys ▸ List.mem_map.mpr ⟨q, hq, e⟩)
    exact List.any_eq_true.mpr ⟨f, hf, by simp [hfn]⟩
  have e2 : ∀ p ∈ cs, hasKey p.1 cs = true := fun p hp => List.any_eq_true.mpr ⟨p, hp, by simp⟩
  rw [List.filter_append, List.filter_append, List.filter_eq_nil_iff.mpr fun p hp => by simp [e1 p hp],
    List.filter_eq_nil_iff.mpr fun p hp => by simp [e2 p hp],
    List.filter_eq_self.mpr fun q hq => by simp [(hxs.all q hq).2]]
  rfl

mutual
theorem roundtrip_core (env : Env) : ∀ (t : Ty) (v : PyVal), Valid env t v →
    decode env t (encode v) = .ok v
  | .bool, v, h | .int, v, h | .float, v, h | .str, v, h | .cstr _, v, h | .opq _, v, h | .lit _, v, h => by
    -- a scalar: `Valid` gives the value and what the decoder tests
    simp only [Valid] at h
    obtain ⟨x, h⟩ := h
    simp [h, encode, decode, decodeLit]
  | .opt t, v, h => by
    by_cases hv : v = .none
    · subst hv
      rfl
    · rw [decode_opt_nonnull env t _ (fun e => hv (encode_null v e))]
      simp only [Valid] at h
      exact roundtrip_core env t v (h.resolve_left hv)
  | .ann t, v, h => roundtrip_core env t v h
  | .union ts, v, h => roundtripU_core env ts v h
  | .list t, v, h => by
    simp only [Valid] at h
    obtain ⟨vs, rfl, hvs⟩ := h
    have := allOk_roundtrip env t vs (fun x hx => roundtrip_core env t x (hvs x hx))
    simp [encode, decode, this, mapOk]
  | .set t, v, h => by
    simp only [Valid] at h
    obtain ⟨vs, rfl, hvs, hh, hd⟩ := h
    have := allOk_roundtrip env t vs (fun x hx => roundtrip_core env t x (hvs x hx))
    simp [encode, decode, this, mkSet, hh, hd]
  | .model n ex fs cs, v, h => by
    obtain ⟨fvs, xs, rfl, hfs, hxs, hnd, hdisj, _⟩ := valid_model_inv env n ex fs cs v h
    have hdec := roundtripFs_core env fs fvs _ hfs (dump_lookup env ex fs cs xs fvs hfs hxs hnd hdisj)
    simp only [encode, extras_filter_self ex fs cs xs hxs, decode, asDict, hdec, dump_extras env ex fs cs xs fvs hfs hxs]
    cases ex
    case allow => rfl
    all_goals cases (show xs = [] from hxs); rfl
theorem roundtripU_core (env : Env) : ∀ (ts : List Ty) (v : PyVal), ValidU env ts v →
    decodeUnion env ts (encode v) = .ok v
  | [], v, h => by simp [ValidU] at h
  | t :: ts, v, h => by
    simp only [ValidU] at h
    rcases h with h | ⟨⟨e, he, hne⟩, h⟩
    · simp [decodeUnion, roundtrip_core env t v h]
    · have := roundtripU_core env ts v h
      cases e <;> simp_all [decodeUnion]
theorem roundtripFs_core (env : Env) : ∀ (fs : List Field) (fvs : List (Str × PyVal))
    (kvs : List (Str × Json)), ValidFs env fs fvs → (∀ p ∈ fvs, lookup p.1 kvs = encOpt p.2) →
    decodeFields env fs kvs = .ok fvs
  | [], fvs, kvs, h, _ => by
    simp only [ValidFs] at h
    simp [h, decodeFields]
  | f :: fs, fvs, kvs, h, hl => by
    simp only [ValidFs] at h
    obtain ⟨v, rest, rfl, hf, hr⟩ := h
    have h1 := roundtripF_core env f v kvs hf (hl (fieldName f, v) (by simp))
    have h2 := roundtripFs_core env fs rest kvs hr (fun p hp => hl p (by simp [hp]))
    simp [decodeFields, h1, h2]
theorem roundtripF_core (env : Env) : ∀ (f : Field) (v : PyVal) (kvs : List (Str × Json)),
    ValidF env f v → lookup (fieldName f) kvs = encOpt v →
    decodeField env f kvs = .ok (fieldName f, v)
  | .mk n t req d, v, kvs, h, hl => by
    simp only [ValidF] at h
    simp only [fieldName] at hl ⊢
    rcases h with ⟨rfl, hreq, hd⟩ | ⟨hv, ht⟩
    · simp [encOpt] at hl
      simp [decodeField, hl, hreq, hd]
    · rw [encOpt_of_ne_none v hv] at hl
      have := roundtrip_core env t v ht
      simp [decodeField, hl, this, mapOk]
end

theorem decodeFields_congr (env : Env) : ∀ (fs : List Field) (kvs kvs' : List (Str × Json)),
    (∀ f ∈ fs, lookup (fieldName f) kvs = lookup (fieldName f) kvs') →
    decodeFields env fs kvs = decodeFields env fs kvs'
  | [], _, _, _ => rfl
  | .mk n t req d :: fs, kvs, kvs', h => by
    have h1 : lookup n kvs = lookup n kvs' := h (.mk n t req d) (by simp)
    have h2 := decodeFields_congr env fs kvs kvs' (fun g hg => h g (by simp [hg]))
    simp only [decodeFields, decodeField, h1, h2]

theorem decodeField_ok (env : Env) (n : Str) (t : Ty) (req : Bool) (d : Option Json) (kvs : List (Str × Json))
    (p : Str × PyVal) (h : decodeField env (.mk n t req d) kvs = .ok p) :
    p = (n, .none) ∨ ∃ j v, decode env t j = .ok v ∧ p = (n, v) := by
  have dec : ∀ j, mapOk (fun v => (n, v)) (decode env t j) = .ok p → ∃ j v, decode env t j = .ok v ∧ p = (n, v) := by
    intro j h
    cases hd : decode env t j with
    | ok v => exact ⟨j, v, hd, by simpa [hd, mapOk] using h.symm⟩
    | error e => simp [hd, mapOk] at h
  simp only [decodeField] at h
  split at h
  · exact .inr (dec _ h)
  · split at h
    · cases h
    · split at h
      · exact .inl (by simpa using h.symm)
      · exact .inr (dec _ h)

theorem decodeFields_cons_ok (env : Env) (f : Field) (fs : List Field) (kvs : List (Str × Json))
    (fvs : List (Str × PyVal)) (h : decodeFields env (f :: fs) kvs = .ok fvs) :
    ∃ p r, decodeField env f kvs = .ok p ∧ decodeFields env fs kvs = .ok r ∧ fvs = p :: r := by
  simp only [decodeFields] at h
  split at h <;> cases h
  exact ⟨_, _, ‹_›, ‹_›, rfl⟩

theorem decodeFields_keys (env : Env) : ∀ (fs : List Field) (kvs : List (Str × Json))
    (fvs : List (Str × PyVal)), decodeFields env fs kvs = .ok fvs → fvs.map (·.1) = fs.map fieldName
  | [], kvs, fvs, h => by
    cases h
    rfl
  | .mk n t req d :: fs, kvs, fvs, h => by
    obtain ⟨p, r, h1, h2, rfl⟩ := decodeFields_cons_ok env _ fs kvs fvs h
    have : p.1 = n := by
      rcases decodeField_ok env n t req d kvs p h1 with rfl | ⟨_, _, _, rfl⟩ <;> rfl
    simp [this, fieldName, decodeFields_keys env fs kvs r h2]

theorem lookup_setKey_ne (k n : Str) (x : Json) (l : List (Str × Json)) (h : n ≠ k) :
    lookup n (setKey k x l) = lookup n l := by
  induction l with
  | nil => simp [setKey, lookup, h]
  | cons p l ih =>
    by_cases hk : k = p.1
    · subst hk
      simp [setKey, lookup, h]
    · by_cases hn : n = p.1 <;> simp [setKey, hk, lookup, hn, ih]

theorem lookup_setKey_self (k : Str) (x : Json) (l : List (Str × Json)) : lookup k (setKey k x l) = some x := by
  induction l with
  | nil => simp [setKey, lookup]
  | cons p l ih => by_cases e : k = p.1 <;> simp [setKey, lookup, e, ih]

theorem filter_setKey (P : Str × Json → Bool) (k : Str) (x : Json) (l : List (Str × Json))
    (h : ∀ y, P (k, y) = false) : (setKey k x l).filter P = l.filter P := by
  induction l with
  | nil => simp [setKey, h]
  | cons p l ih =>
    by_cases hk : k = p.1
    · subst hk
      simp [setKey, h]
    · simp [setKey, hk, List.filter_cons, ih]

/-- constants on input are ignored: writing any values under constant keys, one after the other, changes nothing -/
theorem decode_setKeys_consts (env : Env) (n : Str) (ex : Extra) (fs : List Field) (cs : List (Str × Json))
    (hdisj : ∀ f ∈ fs, hasKey (fieldName f) cs = false) : ∀ (l kvs : List (Str × Json)),
    (∀ p ∈ l, hasKey p.1 cs = true) →
    decode env (.model n ex fs cs) (.obj (l.foldl (fun acc p => setKey p.1 p.2 acc) kvs)) =
      decode env (.model n ex fs cs) (.obj kvs)
  | [], _, _ => rfl
  | (k, x) :: l, kvs, hl => by
    have hk : hasKey k cs = true := hl (k, x) (by simp)
    -- no declared name is a constant key, so the fields are looked up as before, and the key is no extra
    have hne : ∀ f ∈ fs, fieldName f ≠ k := fun f hf e => by simpa [e, hk] using hdisj f hf
    have h1 : decodeFields env fs (setKey k x kvs) = decodeFields env fs kvs :=
      decodeFields_congr env fs _ _ (fun f hf => lookup_setKey_ne k (fieldName f) x kvs (hne f hf))
    have h2 := filter_setKey (fun p => !(fs.any (fun f => fieldName f == p.1)) && !hasKey p.1 cs) k x kvs
      (fun y => by simp [hk])
    rw [List.foldl_cons, decode_setKeys_consts env n ex fs cs hdisj l _ (fun p hp => hl p (by simp [hp]))]
    simp only [decode, asDict, h1, h2]

/-! ## what C13 needs of a valid schema instance -/

theorem ValidFs_mem (env : Env) : ∀ (fs : List Field) (fvs : List (Str × PyVal)), ValidFs env fs fvs →
    ∀ f ∈ fs, ∃ v, (fieldName f, v) ∈ fvs ∧ ValidF env f v
  | [], _, _, f, hf => by simp at hf
  | g :: fs, fvs, h, f, hf => by
    simp only [ValidFs] at h
    obtain ⟨v, rest, rfl, hv, hr⟩ := h
    simp only [List.mem_cons] at hf
    rcases hf with rfl | hf
    · exact ⟨v, by simp, hv⟩
    · obtain ⟨w, hw, hvw⟩ := ValidFs_mem env fs rest hr f hf
      exact ⟨w, by simp [hw], hvw⟩

theorem decodeFields_ok_of_all (env : Env) : ∀ (fs : List Field) (kvs : List (Str × Json)),
    (∀ f ∈ fs, ∃ r, decodeField env f kvs = .ok r) → ∃ fvs, decodeFields env fs kvs = .ok fvs
  | [], _, _ => ⟨[], by simp [decodeFields]⟩
  | f :: fs, kvs, h => by
    obtain ⟨r, hr⟩ := h f (by simp)
    obtain ⟨rs, hrs⟩ := decodeFields_ok_of_all env fs kvs (fun g hg => h g (by simp [hg]))
    exact ⟨r :: rs, by simp [decodeFields, hr, hrs]⟩

end MetadorModel.Codec
