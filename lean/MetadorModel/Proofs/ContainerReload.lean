import MetadorModel.Proofs.ContainerInit
/-!
# Reopening a container: the caches rebuilt from the raw tree (`reload`) satisfy the same
specification as the incrementally maintained ones, hence agree with them on everything the TOC
API reads (`CachesEq`).
-/
namespace MetadorModel.Container

theorem foldl_preserves {α β : Type} (f : β → α → β) (I : β → Prop) :
    ∀ (l : List α), (∀ x ∈ l, ∀ b, I b → I (f b x)) → ∀ b, I b → I (l.foldl f b)
  | [], _, b, hb => hb
  | x :: l, h, b, hb =>
    foldl_preserves f I l (fun y hy => h y (List.mem_cons_of_mem _ hy)) (f b x) (h x (by simp) b hb)

theorem foldl_hit {α β : Type} (f : β → α → β) (I : β → Prop) (hmono : ∀ b x, I b → I (f b x))
    {x0 : α} (hhit : ∀ b, I (f b x0)) : ∀ (l : List α), x0 ∈ l → ∀ b, I (l.foldl f b)
  | [], h, _ => by simp at h
  | x :: l, h, b => by
    rw [List.foldl_cons]
    rcases List.mem_cons.mp h with rfl | h
    · exact foldl_preserves f I l (fun y _ b hb => hmono b y hb) _ (hhit b)
    · exact foldl_hit f I hmono hhit l h _

/-- fold invariant indexed by the set of elements processed so far (list without duplicates) -/
theorem foldl_pred {α β : Type} (f : β → α → β) (G : α → Prop) (P : (α → Prop) → β → Prop)
    (step : ∀ D b x, P D b → ¬ D x → G x → P (fun y => D y ∨ y = x) (f b x)) :
    ∀ (l : List α) (D : α → Prop) (b : β), P D b → l.Nodup → (∀ x ∈ l, ¬ D x ∧ G x) →
      P (fun y => D y ∨ y ∈ l) (l.foldl f b)
  | [], D, b, h, _, _ => by simpa using h
  | x :: l, D, b, h, hnd, hl => by
    obtain ⟨hx, hnd'⟩ := List.nodup_cons.mp hnd
    have h1 := step D b x h (hl x (by simp)).1 (hl x (by simp)).2
    have := foldl_pred f G P step l _ _ h1 hnd' (fun y hy => ⟨by
      rintro (hd | rfl)
      · exact (hl y (List.mem_cons_of_mem _ hy)).1 hd
      · exact hx hy, (hl y (List.mem_cons_of_mem _ hy)).2⟩)
    have e : (fun y => (D y ∨ y = x) ∨ y ∈ l) = (fun y => D y ∨ y ∈ x :: l) := by
      funext y; apply propext; simp [or_assoc]
    rw [List.foldl_cons]; rw [e] at this; exact this

theorem alGet_alSet_isSome_mono {α β : Type} [DecidableEq α] (l : List (α × β)) (a : α) (b : β) (x : α)
    (h : (alGet l x).isSome) : (alGet (alSet l a b) x).isSome := by
  rw [alGet_alSet]; split_ifs <;> simp [h]

/-! ### `TOCLinks.__init__` -/

def linkInner (r : SRef) (acc : List (Nat × Path)) (ln : Key × Node) : List (Nat × Path) :=
  match ln.1 with
  | .link u => alSet acc u (linkPath r u)
  | _ => acc

def linkOuter (t : Tree) (acc : List (Nat × Path)) (kn : Key × Node) : List (Nat × Path) :=
  match kn.1 with
  | .ep r => (children t (linkDir r)).foldl (linkInner r) acc
  | _ => acc

theorem loadLinks_eq (t : Tree) : loadLinks t = (children t linksP).foldl (linkOuter t) [] := rfl

theorem linkInner_mono (r : SRef) (u : Nat) (acc : List (Nat × Path)) (ln : Key × Node)
    (h : (alGet acc u).isSome) : (alGet (linkInner r acc ln) u).isSome := by
  obtain ⟨k, n⟩ := ln
  cases k <;> simp only [linkInner, h]
  exact alGet_alSet_isSome_mono _ _ _ _ h

theorem linkOuter_mono (t : Tree) (u : Nat) (acc : List (Nat × Path)) (kn : Key × Node)
    (h : (alGet acc u).isSome) : (alGet (linkOuter t acc kn) u).isSome := by
  obtain ⟨k, n⟩ := kn
  cases k <;> simp only [linkOuter, h]
  exact foldl_preserves _ (fun a => (alGet a u).isSome) _ (fun x _ b hb => linkInner_mono _ u b x hb) _ h

theorem loadLinks_spec {e : Env} {L : Path → SRef → Nat → Prop} {U : SRef → Prop} {t : Tree}
    (hk : KeysOK t) (hr : TocRaw e L U t) (huniq : LUniq L) :
    ∀ u tp, alGet (loadLinks t) u = some tp ↔ ∃ p r, L p r u ∧ tp = linkPath r u := by
  obtain ⟨hb, hl, -⟩ := tocRaw_iff.mp hr
  -- soundness: every entry comes from a link of an attached object
  let Sound : List (Nat × Path) → Prop := fun acc => ∀ u tp, alGet acc u = some tp → ∃ p r, L p r u ∧ tp = linkPath r u
  have inner_sound : ∀ r, ∀ x ∈ children t (linkDir r), ∀ b, Sound b → Sound (linkInner r b x) := by
    rintro r ⟨k, n⟩ hx b hbS
    have hg := (mem_children hk).mp hx
    obtain ⟨u0, rfl⟩ := hb.linkDir_child (k := k) (r := r) (by rw [hg]; simp)
    obtain ⟨p0, hp0⟩ : ∃ p, L p r u0 := by
      by_contra hc
      have := hl.link_none r u0 hc
      simp only [linkPath, linkDir, List.cons_append, List.nil_append] at this hg
      rw [this] at hg; cases hg
    intro u tp
    simp only [linkInner, alGet_alSet]
    split_ifs with hu
    · rintro h; cases h; subst hu; exact ⟨p0, r, hp0, rfl⟩
    · exact hbS u tp
  have outer_sound : ∀ x ∈ children t linksP, ∀ b, Sound b → Sound (linkOuter t b x) := by
    rintro ⟨k, n⟩ hx b hbS
    cases k <;> simp only [linkOuter] <;> try exact hbS
    exact foldl_preserves _ Sound _ (inner_sound _) b hbS
  have hsound : Sound (loadLinks t) := by
    rw [loadLinks_eq]
    exact foldl_preserves _ Sound _ outer_sound [] (fun u tp h => by cases h)
  intro u tp
  constructor
  · exact hsound u tp
  · rintro ⟨p, r, hL, rfl⟩
    -- completeness: the link of `(r, u)` has been visited
    have hdir : (Key.ep r, Node.grp) ∈ children t linksP :=
      (mem_children hk).mpr (by have := (hl.ldir r).1 ⟨p, u, hL⟩; simpa [linkDir, linksP] using this)
    have hlink : (Key.link u, Node.ds (.target p)) ∈ children t (linkDir r) :=
      (mem_children hk).mpr (by have := hl.link_some p r u hL; simpa [linkDir, linkPath] using this)
    have hsome : (alGet (loadLinks t) u).isSome := by
      rw [loadLinks_eq]
      refine foldl_hit (linkOuter t) (fun a => (alGet a u).isSome) (fun b x hb => linkOuter_mono t u b x hb)
        (x0 := (Key.ep r, Node.grp)) ?_ _ hdir []
      intro b
      show (alGet ((children t (linkDir r)).foldl (linkInner r) b) u).isSome
      refine foldl_hit (linkInner r) (fun a => (alGet a u).isSome) (fun b x hb => linkInner_mono r u b x hb)
        (x0 := (Key.link u, Node.ds (.target p))) ?_ _ hlink b
      intro b'
      simp [linkInner, alGet_alSet]
    obtain ⟨tp', htp'⟩ := alGet_some_of_isSome hsome
    obtain ⟨p', r', hL', rfl⟩ := hsound u tp' htp'
    obtain ⟨-, rfl⟩ := huniq p p' r r' u hL hL'
    exact htp'

/-! ### `TOCPackages.__init__` -/

def pkgStep (acc : List (PkgId × List SRef) × List (SRef × List PkgId)) (kn : Key × Node) :
    List (PkgId × List SRef) × List (SRef × List PkgId) :=
  match kn with
  | (.pkg p, .ds (.pkginfo _ plugins)) => (alSet acc.1 p plugins, addProviders acc.2 p plugins)
  | _ => acc

theorem loadPackages_eq (t : Tree) : loadPackages t = (children t packagesP).foldl pkgStep ([], []) := rfl

theorem addProviders_mono (pk : PkgId) (r : SRef) : ∀ (l : List SRef) (prov : List (SRef × List PkgId)),
    (alGet prov r).isSome → (alGet (addProviders prov pk l) r).isSome
  | [], _, h => h
  | x :: l, prov, h => by
    simp only [addProviders]
    exact addProviders_mono pk r l _ (alGet_alSet_isSome_mono _ _ _ _ h)

theorem addProviders_hit (pk : PkgId) (r : SRef) : ∀ (l : List SRef) (prov : List (SRef × List PkgId)),
    r ∈ l → (alGet (addProviders prov pk l) r).isSome
  | [], _, h => by simp at h
  | x :: l, prov, h => by
    simp only [addProviders]
    rcases List.mem_cons.mp h with rfl | h
    · exact addProviders_mono pk r l _ (by rw [alGet_alSet]; simp)
    · exact addProviders_hit pk r l _ h

theorem addProviders_sound {e : Env} (he : WFEnv e) (R : PkgId → Prop) (pk : PkgId) (hR : R pk) :
    ∀ (l : List SRef) (prov : List (SRef × List PkgId)), (∀ r ∈ l, r ∈ e.pkgPlugins pk) →
      (∀ r ps, alGet prov r = some ps → ∃ pk', ps = [pk'] ∧ R pk' ∧ r ∈ e.pkgPlugins pk') →
      ∀ r ps, alGet (addProviders prov pk l) r = some ps → ∃ pk', ps = [pk'] ∧ R pk' ∧ r ∈ e.pkgPlugins pk'
  | [], _, _, h => h
  | x :: l, prov, hl, h => by
    simp only [addProviders]
    apply addProviders_sound he R pk hR l _ (fun r hr => hl r (List.mem_cons_of_mem _ hr))
    intro r ps
    rw [alGet_alSet]
    split_ifs with hrx
    · subst hrx
      have hx := hl r (by simp)
      have hval : setAdd ((alGet prov r).getD []) pk = [pk] := by
        cases hg : alGet prov r with
        | none => simp [setAdd]
        | some ps0 =>
          obtain ⟨pk', rfl, -, hmem⟩ := h r ps0 hg
          rw [he.disj _ _ _ hmem hx]
          simp [setAdd]
      rw [hval]
      rintro h'; cases h'
      exact ⟨pk, rfl, hR, hx⟩
    · exact h r ps

theorem loadPackages_spec {e : Env} (he : WFEnv e) {L : Path → SRef → Nat → Prop} {U : SRef → Prop} {t : Tree}
    (hk : KeysOK t) (hr : TocRaw e L U t) :
    (∀ pk pl, alGet (loadPackages t).1 pk = some pl ↔ (RegP e U pk ∧ pl = e.pkgPlugins pk)) ∧
    (∀ r ps, alGet (loadPackages t).2 r = some ps ↔ ∃ pk, ps = [pk] ∧ RegP e U pk ∧ r ∈ e.pkgPlugins pk) := by
  obtain ⟨hb, -, hs⟩ := tocRaw_iff.mp hr
  -- shape of the listed package records
  have helem : ∀ k n, (k, n) ∈ children t packagesP →
      ∃ pk, RegP e U pk ∧ k = .pkg pk ∧ n = .ds (.pkginfo pk (e.pkgPlugins pk)) := by
    intro k n hx
    have hg := (mem_children hk).mp hx
    obtain ⟨pk, rfl⟩ := hb.pkg_child (k := k) (by rw [hg]; simp)
    have hg' : get? t (pkgPath pk) = some n := by simpa [pkgPath, packagesP] using hg
    by_cases hreg : RegP e U pk
    · rw [(hs.pkg pk).1 hreg] at hg'; cases hg'; exact ⟨pk, hreg, rfl, rfl⟩
    · rw [(hs.pkg pk).2 hreg] at hg'; cases hg'
  have hmem : ∀ pk, RegP e U pk → (Key.pkg pk, Node.ds (.pkginfo pk (e.pkgPlugins pk))) ∈ children t packagesP := by
    intro pk hreg
    exact (mem_children hk).mpr (by have := (hs.pkg pk).1 hreg; simpa [pkgPath, packagesP] using this)
  let Sound : List (PkgId × List SRef) × List (SRef × List PkgId) → Prop := fun acc =>
    (∀ pk pl, alGet acc.1 pk = some pl → RegP e U pk ∧ pl = e.pkgPlugins pk) ∧
    (∀ r ps, alGet acc.2 r = some ps → ∃ pk, ps = [pk] ∧ RegP e U pk ∧ r ∈ e.pkgPlugins pk)
  have step_sound : ∀ x ∈ children t packagesP, ∀ b, Sound b → Sound (pkgStep b x) := by
    rintro ⟨k, n⟩ hx b ⟨hb1, hb2⟩
    obtain ⟨pk, hreg, rfl, rfl⟩ := helem k n hx
    refine ⟨fun pk' pl => ?_, addProviders_sound he (RegP e U) pk hreg _ _ (fun _ h => h) hb2⟩
    simp only [pkgStep, alGet_alSet]
    split_ifs with hpk
    · rintro h; cases h; subst hpk; exact ⟨hreg, rfl⟩
    · exact hb1 pk' pl
  have hsound : Sound (loadPackages t) := by
    rw [loadPackages_eq]
    exact foldl_preserves _ Sound _ step_sound _ ⟨fun _ _ h => (by cases h), fun _ _ h => (by cases h)⟩
  have mono1 : ∀ pk b x, (alGet b.1 pk).isSome → (alGet (pkgStep b x).1 pk).isSome := by
    intro pk b x h
    unfold pkgStep
    split
    · exact alGet_alSet_isSome_mono _ _ _ _ h
    · exact h
  have mono2 : ∀ r b x, (alGet b.2 r).isSome → (alGet (pkgStep b x).2 r).isSome := by
    intro r b x h
    unfold pkgStep
    split
    · exact addProviders_mono _ r _ _ h
    · exact h
  refine ⟨fun pk pl => ⟨hsound.1 pk pl, ?_⟩, fun r ps => ⟨hsound.2 r ps, ?_⟩⟩
  · rintro ⟨hreg, rfl⟩
    have hsome : (alGet (loadPackages t).1 pk).isSome := by
      rw [loadPackages_eq]
      refine foldl_hit pkgStep (fun a => (alGet a.1 pk).isSome) (mono1 pk) (x0 := _) ?_ _ (hmem pk hreg) _
      intro b
      simp [pkgStep, alGet_alSet]
    obtain ⟨pl, hpl⟩ := alGet_some_of_isSome hsome
    rw [hpl, (hsound.1 pk pl hpl).2]
  · rintro ⟨pk, rfl, hreg, hmemr⟩
    have hsome : (alGet (loadPackages t).2 r).isSome := by
      rw [loadPackages_eq]
      refine foldl_hit pkgStep (fun a => (alGet a.2 r).isSome) (mono2 r) (x0 := _) ?_ _ (hmem pk hreg) _
      intro b
      exact addProviders_hit pk r _ _ hmemr
    obtain ⟨ps, hps⟩ := alGet_some_of_isSome hsome
    obtain ⟨pk', rfl, -, hmem'⟩ := hsound.2 r ps hps
    rw [hps, he.disj _ _ _ hmem' hmemr]

/-! ### `TOCSchemas.__init__` -/

def schemaStep (t : Tree) (c : Caches) (kn : Key × Node) : Caches :=
  match kn.1 with
  | .ep r =>
    match get? t (schemaDir r ++ [.compat]) with
    | some (.ds (.compat parents)) =>
      let (par, chi) := upcAdd r c.parents c.children [] parents
      let used := ((alGet c.providers r).getD []).foldl (init := c.used) fun u pkg =>
        alSet u pkg (setAdd ((alGet u pkg).getD []) r)
      { c with schemas := setAdd c.schemas r, parents := par, children := chi, used := used }
    | _ => c
  | _ => c

theorem loadSchemas_eq (t : Tree) (infos : List (PkgId × List SRef)) (provs : List (SRef × List PkgId)) :
    loadSchemas t infos provs = (children t schemasP).foldl (schemaStep t)
      { pkginfos := infos, providers := provs, used := infos.map fun e => (e.1, []) } := rfl

/-- `SchemaCache` with the schema index and `_used` built for the schemas `DS` only -/
structure SC2 (e : Env) (U DS : SRef → Prop) (c : Caches) : Prop where
  schemas : ∀ r, r ∈ c.schemas ↔ DS r
  schemas_nodup : c.schemas.Nodup
  index : IndexOK e DS c.parents c.children
  pkginfos : ∀ pk pl, alGet c.pkginfos pk = some pl ↔ (RegP e U pk ∧ pl = e.pkgPlugins pk)
  providers : ∀ r ps, alGet c.providers r = some ps ↔ ∃ pk, ps = [pk] ∧ RegP e U pk ∧ r ∈ e.pkgPlugins pk
  used_dom : ∀ pk, RegP e U pk → (alGet c.used pk).isSome
  used_val : ∀ pk rs, alGet c.used pk = some rs → rs.Nodup ∧
    ∀ r, r ∈ rs ↔ (DS r ∧ ∃ i, e.info r = some i ∧ i.pkg = pk)

theorem SC2.toSchemaCache {e : Env} {U : SRef → Prop} {c : Caches} (h : SC2 e U U c) : SchemaCache e U c :=
  ⟨h.schemas, h.schemas_nodup, h.index, h.pkginfos, h.providers, h.used_dom, h.used_val⟩

theorem alGet_map_const {α β γ : Type} [DecidableEq α] (l : List (α × β)) (b : γ) (a : α) :
    alGet (l.map fun e => (e.1, b)) a = (alGet l a).map fun _ => b := by
  induction l with
  | nil => rfl
  | cons x l ih =>
    obtain ⟨k, v⟩ := x
    simp only [List.map_cons, alGet_cons, ih]
    split_ifs <;> rfl

theorem schemaStep_run {t : Tree} {c : Caches} {r : SRef} {n : Node} {i : SInfo}
    (hc : get? t (schemaDir r ++ [.compat]) = some (.ds (.compat i.parents)))
    (hp : alGet c.providers r = some [i.pkg]) :
    schemaStep t c (.ep r, n) =
      { c with schemas := setAdd c.schemas r,
               parents := (upcAdd r c.parents c.children [] i.parents).1,
               children := (upcAdd r c.parents c.children [] i.parents).2,
               used := alSet c.used i.pkg (setAdd ((alGet c.used i.pkg).getD []) r) } := by
  simp [schemaStep, hc, hp]

theorem schemaStep_sc2 {e : Env} (he : WFEnv e) {U DS : SRef → Prop} {t : Tree} {c : Caches} {r : SRef}
    {n : Node} {i : SInfo} (hi : e.info r = some i) (hU : U r)
    (hc : get? t (schemaDir r ++ [.compat]) = some (.ds (.compat i.parents)))
    (h : SC2 e U DS c) : SC2 e U (fun r' => DS r' ∨ r' = r) (schemaStep t c (.ep r, n)) := by
  have hreg : RegP e U i.pkg := ⟨r, i, hU, hi, rfl⟩
  have hp : alGet c.providers r = some [i.pkg] := (h.providers r _).mpr ⟨i.pkg, rfl, hreg, he.prov r i hi⟩
  rw [schemaStep_run hc hp]
  obtain ⟨cur, hcur⟩ := alGet_some_of_isSome (h.used_dom i.pkg hreg)
  refine ⟨fun r' => ?_, nodup_setAdd h.schemas_nodup _, upcAdd_index he hi h.index, h.pkginfos, h.providers,
    fun pk hpk => ?_, fun pk rs hrs => ?_⟩
  · simp [mem_setAdd, h.schemas r']
  · simp only [alGet_alSet]
    split_ifs
    · rfl
    · exact h.used_dom pk hpk
  · simp only [alGet_alSet] at hrs
    split_ifs at hrs with hpk
    · cases hrs
      subst hpk
      rw [hcur]
      obtain ⟨hnd, hmem⟩ := h.used_val _ _ hcur
      refine ⟨nodup_setAdd hnd _, fun r' => ?_⟩
      simp only [Option.getD_some, mem_setAdd, hmem r']
      constructor
      · rintro (⟨hD, hex⟩ | rfl)
        · exact ⟨Or.inl hD, hex⟩
        · exact ⟨Or.inr rfl, i, hi, rfl⟩
      · rintro ⟨hD | rfl, hex⟩
        · exact Or.inl ⟨hD, hex⟩
        · exact Or.inr rfl
    · obtain ⟨hnd, hmem⟩ := h.used_val _ _ hrs
      refine ⟨hnd, fun r' => ?_⟩
      rw [hmem r']
      constructor
      · rintro ⟨hD, hex⟩; exact ⟨Or.inl hD, hex⟩
      · rintro ⟨hD | rfl, j, hj, hjp⟩
        · exact ⟨hD, j, hj, hjp⟩
        · rw [hi] at hj; cases hj; exact absurd hjp.symm hpk

theorem loadSchemas_spec {e : Env} (he : WFEnv e) {L : Path → SRef → Nat → Prop} {U : SRef → Prop} {t : Tree}
    (hk : KeysOK t) (hr : TocRaw e L U t) (hUenv : ∀ r, U r → ∃ i, e.info r = some i) :
    SchemaCache e U (loadSchemas t (loadPackages t).1 (loadPackages t).2) := by
  obtain ⟨hb, -, hs⟩ := tocRaw_iff.mp hr
  obtain ⟨hp1, hp2⟩ := loadPackages_spec he hk hr
  have helem : ∀ x ∈ children t schemasP, ∃ r, x = (Key.ep r, Node.grp) ∧ U r := by
    rintro ⟨k, n⟩ hx
    have hg := (mem_children hk).mp hx
    obtain ⟨r, rfl⟩ := hb.schema_child (k := k) (by rw [hg]; simp)
    have hg' : get? t (schemaDir r) = some n := by simpa [schemaDir, schemasP] using hg
    by_cases hu : U r
    · rw [(hs.sdir r).1 hu] at hg'; cases hg'; exact ⟨r, rfl, hu⟩
    · rw [(hs.sdir r).2 hu] at hg'; cases hg'
  have hmem : ∀ r, (Key.ep r, Node.grp) ∈ children t schemasP ↔ U r := by
    intro r
    constructor
    · intro hx
      obtain ⟨r', h1, h2⟩ := helem _ hx
      cases h1; exact h2
    · intro hu
      exact (mem_children hk).mpr (by have := (hs.sdir r).1 hu; simpa [schemaDir, schemasP] using this)
  rw [loadSchemas_eq]
  have key := foldl_pred (schemaStep t) (fun x => ∃ r, x = (Key.ep r, Node.grp) ∧ U r)
    (fun D c => SC2 e U (fun r => D (Key.ep r, Node.grp)) c) (by
      rintro D c x hP hnD ⟨r, rfl, hu⟩
      obtain ⟨i, hi⟩ := hUenv r hu
      have hc : get? t (schemaDir r ++ [.compat]) = some (.ds (.compat i.parents)) := by
        rw [(hs.compat r).1 hu, ppath_eq hi]
      have := schemaStep_sc2 he (n := Node.grp) hi hu hc hP
      have e1 : (fun r' => D (Key.ep r', Node.grp) ∨ r' = r) =
          (fun r' => D (Key.ep r', Node.grp) ∨ (Key.ep r', Node.grp) = (Key.ep r, Node.grp)) := by
        funext r'; apply propext; simp
      rw [e1] at this; exact this)
    (children t schemasP) (fun _ => False)
    { pkginfos := (loadPackages t).1, providers := (loadPackages t).2,
      used := (loadPackages t).1.map fun e => (e.1, []) }
    (by
      refine ⟨fun r => by simp, List.nodup_nil, ⟨fun P => ?_, fun P => Iff.rfl, fun P l h => ?_, fun P cs h => ?_⟩,
        hp1, hp2, fun pk hpk => ?_, fun pk rs hrs => ?_⟩
      · simp
      · cases h
      · cases h
      · show (alGet ((loadPackages t).1.map fun e => (e.1, ([] : List SRef))) pk).isSome
        rw [alGet_map_const, (hp1 pk _).mpr ⟨hpk, rfl⟩]; rfl
      · have hrs' : alGet ((loadPackages t).1.map fun e => (e.1, ([] : List SRef))) pk = some rs := hrs
        rw [alGet_map_const] at hrs'
        cases hg : alGet (loadPackages t).1 pk with
        | none => rw [hg] at hrs'; cases hrs'
        | some pl => rw [hg] at hrs'; cases hrs'; simp)
    (children_nodup hk _) (fun x hx => ⟨fun h => h, helem x hx⟩)
  have e2 : (fun r => False ∨ (Key.ep r, Node.grp) ∈ children t schemasP) = U := by
    funext r; apply propext; simp [hmem r]
  simp only at key
  rw [e2] at key
  exact key.toSchemaCache

theorem reload_eq (t : Tree) :
    reload t = { loadSchemas t (loadPackages t).1 (loadPackages t).2 with tocPath := loadLinks t } := rfl

theorem reload_spec {e : Env} (he : WFEnv e) {L : Path → SRef → Nat → Prop} {U : SRef → Prop} {t : Tree}
    (hk : KeysOK t) (hr : TocRaw e L U t) (huniq : LUniq L) (hUenv : ∀ r, U r → ∃ i, e.info r = some i) :
    SchemaCache e U (reload t) ∧ LinkCache L (reload t) := by
  have h1 := loadSchemas_spec he hk hr hUenv
  rw [reload_eq]
  exact ⟨⟨h1.schemas, h1.schemas_nodup, h1.index, h1.pkginfos, h1.providers, h1.used_dom, h1.used_val⟩,
    loadLinks_spec hk hr huniq⟩

/-- closing and reopening keeps the invariant -/
theorem reload_inv {e : Env} (he : WFEnv e) {s : St} (hi : Inv e s) : Inv e { s with c := reload s.raw } := by
  obtain ⟨h1, h2⟩ := reload_spec he hi.keys hi.toc (fun p p' r r' u => hi.mok.uniq p p' r r' u)
    (fun r ⟨p, u, h⟩ => hi.mok.objenv p r u h)
  exact ⟨hi.keys, hi.pclosed, ⟨hi.mok.ushape, hi.mok.host, hi.mok.objenv, hi.mok.onename, hi.mok.uniq, hi.mok.bound⟩,
    hi.toc, h1, h2⟩

theorem opReopen_inv {e : Env} (he : WFEnv e) {s : St} (hi : Inv e s) : Inv e (opReopen s).2 :=
  reload_inv he hi

/-- Two cache states agree on everything the TOC API reads: links by uuid (`_toc_path`), the set of
embedded schemas (`schemas.keys()`), `parent_path`, the domain and members of `children`,
`packages` and `provider`. (List orders and the private `_used` table are not observable.) `CachesEqv` of
`ContainerDrvDefs` (C09) is this relation plus agreement of `_used` on the packages that provide a schema, which the
operations, though not the reading API, depend on. -/
structure CachesEq (c c' : Caches) : Prop where
  tocPath : ∀ u, alGet c.tocPath u = alGet c'.tocPath u
  schemas : ∀ r, r ∈ c.schemas ↔ r ∈ c'.schemas
  parents : ∀ r, alGet c.parents r = alGet c'.parents r
  children_dom : ∀ r, (alGet c.children r).isSome = (alGet c'.children r).isSome
  children : ∀ r x, x ∈ (alGet c.children r).getD [] ↔ x ∈ (alGet c'.children r).getD []
  pkginfos : ∀ pk, alGet c.pkginfos pk = alGet c'.pkginfos pk
  providers : ∀ r, alGet c.providers r = alGet c'.providers r

theorem option_eq_of_iff {α : Type} {o o' : Option α} (h : ∀ a, o = some a ↔ o' = some a) : o = o' := by
  cases o with
  | none =>
    cases o' with
    | none => rfl
    | some b => exact absurd ((h b).mpr rfl) (by simp)
  | some a => exact ((h a).mp rfl).symm

theorem option_both_of_isSome {α : Type} {o o' : Option α} (h : o.isSome = o'.isSome) :
    (o = none ∧ o' = none) ∨ ∃ a b, o = some a ∧ o' = some b := by
  cases o <;> cases o' <;> simp_all

/-- the cache specification determines the observable part of the caches -/
theorem cachesEq_of_spec {e : Env} {L : Path → SRef → Nat → Prop} {U : SRef → Prop} {c c' : Caches}
    (h1 : SchemaCache e U c) (l1 : LinkCache L c) (h2 : SchemaCache e U c') (l2 : LinkCache L c') :
    CachesEq c c' := by
  have hdom : ∀ r, (alGet c.children r).isSome = (alGet c'.children r).isSome := by
    intro r
    rw [Bool.eq_iff_iff, h1.index.dom, h2.index.dom]
  refine ⟨fun u => option_eq_of_iff fun tp => (l1 u tp).trans (l2 u tp).symm,
    fun r => (h1.schemas r).trans (h2.schemas r).symm, fun r => ?_, hdom, fun r x => ?_,
    fun pk => option_eq_of_iff fun pl => (h1.pkginfos pk pl).trans (h2.pkginfos pk pl).symm,
    fun r => option_eq_of_iff fun ps => (h1.providers r ps).trans (h2.providers r ps).symm⟩
  · have hd : (alGet c.parents r).isSome = (alGet c'.parents r).isSome := by
      rw [Bool.eq_iff_iff, h1.index.domp, h2.index.domp, hdom r]
    rcases option_both_of_isSome hd with ⟨hg, hg'⟩ | ⟨l, l', hg, hg'⟩
    · rw [hg, hg']
    · rw [hg, hg', h1.index.par_val r l hg, h2.index.par_val r l' hg']
  · rcases option_both_of_isSome (hdom r) with ⟨hg, hg'⟩ | ⟨l, l', hg, hg'⟩
    · rw [hg, hg']
    · rw [hg, hg', Option.getD_some, Option.getD_some, (h1.index.chi_val r l hg).2 x, (h2.index.chi_val r l' hg').2 x]

/-- **cache coherence**: the index rebuilt from disk agrees with the incrementally maintained one -/
theorem reload_cachesEq {e : Env} (he : WFEnv e) {s : St} (hi : Inv e s) : CachesEq (reload s.raw) s.c := by
  have h := reload_inv he hi
  exact cachesEq_of_spec h.scache h.lcache hi.scache hi.lcache

end MetadorModel.Container
