import MetadorModel.Proofs.OverlayWriteLook
/-!
# C01 write side: edits of the newest container, point-wise

Two lemmas give the meaning of an edit `c → c'` of the newest container of a record
`c :: older` with the invariant, and re-establish the invariant:

* `neutral_edit` — an edit that keeps the kind of every entry and adds pass-through groups only
  at visible paths changes no kind a user can read, and attributes only where the attribute
  lists differ (intermediate groups for missing ancestors, attribute writes);
* `graft` — replacing everything at and below a path `pre ++ [k]` (parent a visible group) by a
  parent-closed set of entries that is headed by a non-virtual entry, or lies inside a freshly
  written subtree, or is written into the base container: below the path the plain reading of
  the new entries is visible, everything else is unchanged.

The rest describes what the raw h5py calls of the model write, entry by entry:
`withCarriers c p q` is the entry at `q` after the missing intermediate groups of `p` were
created; `Leaf c p n c'` says that `c'` is `c` with everything at and below `p` replaced by the
single entry `n`; `chainAt g more fin` is a freshly written chain of groups ending in `fin`.
Every node-creating write path is one leaf or two nested ones, and `chain_sem` gives the view
after such a chain.
-/
namespace MetadorModel.Overlay
open MetadorModel.Tree
variable {V : Type}

theorem isPre_append_right (p a b : Path) (h : isPre p a = true) : isPre p (a ++ b) = true := by
  obtain ⟨s, rfl⟩ := (isPre_iff p a).1 h
  exact (isPre_iff _ _).2 ⟨s ++ b, by simp⟩

theorem isPre_false_of_append (p a b : Path) (h : isPre p (a ++ b) = false) : isPre p a = false := by
  cases ha : isPre p a with
  | false => rfl
  | true => rw [isPre_append_right p a b ha] at h; cases h

theorem isPre_snoc_self_false (pre : Path) (k : Key) : isPre (pre ++ [k]) pre = false := by
  cases h : isPre (pre ++ [k]) pre with
  | false => rfl
  | true =>
    obtain ⟨s, hs⟩ := (isPre_iff _ _).1 h
    have := congrArg List.length hs
    simp at this

theorem prefix_of_extension_below (pre : Path) (k : Key) (x y : Path)
    (h1 : isPre (pre ++ [k]) (x ++ y) = true) (h2 : isPre (pre ++ [k]) x = false) : ∃ s, pre = x ++ s := by
  obtain ⟨s', hs'⟩ := (isPre_iff _ _).1 h1
  rcases List.append_eq_append_iff.1 hs' with ⟨a, h5, h6⟩ | ⟨c', h5, h6⟩
  · -- pre ++ [k] = x ++ a
    rcases List.eq_nil_or_concat a with rfl | ⟨a', j, rfl⟩
    · simp only [List.append_nil] at h5
      rw [← h5, isPre_refl] at h2; cases h2
    · have : pre ++ [k] = (x ++ a') ++ [j] := by rw [h5]; simp
      obtain ⟨h7, _⟩ := List.append_inj' this rfl
      exact ⟨a', h7⟩
  · -- x = pre ++ [k] ++ c'
    rw [h5, isPre_append] at h2; cases h2

theorem mem_properPrefixes_snoc (pre : Path) (k : Key) (x : Path) :
    x ∈ properPrefixes (pre ++ [k]) ↔ ∃ s, pre = x ++ s := by
  rw [mem_properPrefixes]
  constructor
  · rintro ⟨s, hs, h⟩
    rcases List.eq_nil_or_concat s with rfl | ⟨s', j, rfl⟩
    · exact absurd rfl hs
    · have : pre ++ [k] = (x ++ s') ++ [j] := by rw [h]; simp
      obtain ⟨h7, _⟩ := List.append_inj' this rfl
      exact ⟨s', h7⟩
  · rintro ⟨s, rfl⟩
    exact ⟨s ++ [k], by simp, by simp⟩

theorem isPre_append_append (a b c : Path) : isPre (a ++ b) (a ++ c) = isPre b c := by
  induction a with
  | nil => rfl
  | cons x a ih => simp [isPre, ih]

theorem isPre_nil (a : Path) : isPre [] a = true := by cases a <;> rfl

theorem isPre_eq_false_of_not (p q : Path) (h : ¬ isPre p q = true) : isPre p q = false := by simpa using h

theorem mem_pp_append_append (a b c : Path) : a ++ c ∈ properPrefixes (a ++ b) ↔ c ∈ properPrefixes b := by
  rw [mem_properPrefixes, mem_properPrefixes]
  constructor
  · rintro ⟨s, hs, h⟩
    exact ⟨s, hs, by simpa [List.append_assoc] using h⟩
  · rintro ⟨s, hs, h⟩
    exact ⟨s, hs, by rw [h]; simp⟩

theorem isPre_antisymm (a b : Path) (h1 : isPre a b = true) (h2 : isPre b a = true) : a = b := by
  obtain ⟨s, rfl⟩ := (isPre_iff _ _).1 h1
  obtain ⟨s', hs'⟩ := (isPre_iff _ _).1 h2
  have := congrArg List.length hs'
  simp only [List.length_append] at this
  have : s.length = 0 := by omega
  rw [List.eq_nil_of_length_eq_zero this]; simp

theorem isPre_false_of_isPre_ne (a b : Path) (h : isPre b a = true) (hne : a ≠ b) : isPre a b = false := by
  cases hx : isPre a b with
  | false => rfl
  | true => exact absurd (isPre_antisymm a b hx h) hne

theorem not_mem_pp_of_isPre (p q : Path) (h : isPre p q = true) : q ∉ properPrefixes p := fun hm =>
  have ⟨h1, h2⟩ := (mem_properPrefixes' q p).1 hm
  h2 (isPre_antisymm q p h1 h)

theorem isPre_false_of_mem_pp (p q : Path) (h : q ∈ properPrefixes p) : isPre p q = false := by
  cases hb : isPre p q with
  | false => rfl
  | true => exact absurd h (not_mem_pp_of_isPre p q hb)

theorem mem_pp_of_mem_pp_append (p0 more q : Path) (h : q ∈ properPrefixes (p0 ++ more))
    (hb : isPre p0 q = false) : q ∈ properPrefixes p0 := by
  obtain ⟨s, hs, h'⟩ := (mem_properPrefixes _ _).1 h
  rcases List.append_eq_append_iff.1 h' with ⟨a, h5, h6⟩ | ⟨c', h5, h6⟩
  · rw [h5, isPre_append] at hb; cases hb
  · -- p0 = q ++ c'
    by_cases ha : c' = []
    · subst ha; simp only [List.append_nil] at h5; rw [h5, isPre_refl] at hb; cases hb
    · exact (mem_properPrefixes _ _).2 ⟨c', ha, h5⟩

theorem mem_pp_append_of_mem_pp (p0 more q : Path) (h : q ∈ properPrefixes p0) :
    q ∈ properPrefixes (p0 ++ more) := by
  obtain ⟨s, hs, rfl⟩ := (mem_properPrefixes _ _).1 h
  exact (mem_properPrefixes _ _).2 ⟨s ++ more, by simp [hs], by simp⟩

theorem isPre_snoc_of (s : Path) (j : Key) (more : Path) (h : isPre (s ++ [j]) more = true) :
    isPre s more = true ∧ s ≠ more := by
  obtain ⟨x, rfl⟩ := (isPre_iff _ _).1 h
  refine ⟨(isPre_iff _ _).2 ⟨j :: x, by simp⟩, ?_⟩
  intro he
  have := congrArg List.length he
  simp at this

/-- the entry of `c` at `x` is non-virtual (`sgroup`, `data`, `del`) -/
def nvAt (c : Cont V) (x : Path) : Bool :=
  match aget x c with
  | some n => !n.kind.isVirtual
  | none => false

theorem nvFrom_cons (c : Cont V) (pre : Path) (k : Key) (rest : Path) :
    nvFrom c pre (k :: rest) = (nvAt c (pre ++ [k]) || nvFrom c (pre ++ [k]) rest) := by
  unfold nvAt; rw [nvFrom]; rfl

theorem nvFrom_congr (c c' : Cont V) (rest : Path) : ∀ (pre : Path),
    (∀ a b, rest = a ++ b → a ≠ [] → nvAt c (pre ++ a) = nvAt c' (pre ++ a)) →
    nvFrom c pre rest = nvFrom c' pre rest := by
  induction rest with
  | nil => intro pre _; rfl
  | cons k rest ih =>
    intro pre h
    rw [nvFrom_cons, nvFrom_cons, h [k] rest rfl (by simp)]
    congr 1
    apply ih
    intro a b hab ha
    have := h (k :: a) b (by simp [hab]) (by simp)
    simpa using this

theorem nvPrefix_congr (c c' : Cont V) (q : Path)
    (h : ∀ a b, q = a ++ b → a ≠ [] → nvAt c a = nvAt c' a) : nvPrefix c q = nvPrefix c' q := by
  unfold nvPrefix
  apply nvFrom_congr
  intro a b hab ha
  simpa using h a b hab ha

theorem nvPrefix_append_of_true (c : Cont V) (p s : Path) (h : nvPrefix c p = true) :
    nvPrefix c (p ++ s) = true := by
  unfold nvPrefix at *
  rw [nvFrom_append, h]; rfl

theorem entry_isGroup_of_view_group (c : Cont V) (older : Rec V) (hinv : Inv (c :: older))
    (x : Path) (n : RNode V) (hv : viewKind (c :: older) x = some .group) (hx : aget x c = some n) :
    n.kind.isGroup = true := by
  rw [(view_cons c older hinv.1 hinv.2.1 x).1] at hv
  unfold applyKind at hv
  by_cases hnv : nvPrefix c x = true
  · simp only [hnv, ↓reduceIte, hx, plainK, Option.bind_some] at hv
    exact isGroup_of_plainKind hv
  · by_cases h0 : x = []
    · subst h0
      obtain ⟨a, ha⟩ := hinv.1.root
      rw [ha] at hx; cases hx; rfl
    · exact isGroup_of_isVirtual (virtual_of_not_nv c x n h0 (by simpa using hnv) hx)

/-- attributes of the entry at `p` (none when there is no entry) -/
def rawAttrs (c : Cont V) (p : Path) (k : Key) : Option (Option V) := (aget p c).bind (fun n => aget k n.attrs)

theorem neutral_edit (c c' : Cont V) (older : Rec V) (hinv : Inv (c :: older))
    (hkeep : ∀ x n, aget x c = some n → ∃ n', aget x c' = some n' ∧ n'.kind = n.kind)
    (hnew : ∀ x n', aget x c = none → aget x c' = some n' →
      n'.kind = .vgroup ∧ viewKind (c :: older) x ≠ none)
    (hpar : ∀ x k, aget (x ++ [k]) c' ≠ none → aget x c' ≠ none) :
    Inv (c' :: older) ∧ (∀ q, viewKind (c' :: older) q = viewKind (c :: older) q) ∧
    (∀ q k, rawAttrs c' q k = rawAttrs c q k → viewAttr (c' :: older) q k = viewAttr (c :: older) q k) ∧
    ∀ q, nvPrefix c' q = nvPrefix c q := by
  obtain ⟨hwf, hil, hold⟩ := hinv
  have hinv : Inv (c :: older) := ⟨hwf, hil, hold⟩
  have hvc := fun q => view_cons c older hwf hil q
  have hnvP : ∀ q, nvPrefix c' q = nvPrefix c q := by
    intro q
    apply nvPrefix_congr
    intro x _ _ _
    unfold nvAt
    cases hx : aget x c with
    | some n => obtain ⟨n', h1, h2⟩ := hkeep x n hx; simp only [h1, h2]
    | none =>
      cases hx' : aget x c' with
      | none => rfl
      | some n' => simp only [(hnew x n' hx hx').1]; rfl
  -- a new entry sits, outside every freshly written subtree, on a node of the older view
  have hK : ∀ x n', aget x c = none → aget x c' = some n' →
      nvPrefix c x = false ∧ viewKind older x ≠ none := by
    intro x n' hx hx'
    have hv := (hnew x n' hx hx').2
    rw [(hvc x).1] at hv
    unfold applyKind at hv
    by_cases hnv : nvPrefix c x = true
    · simp [hnv, hx, plainK] at hv
    · simp only [hnv, hx] at hv
      exact ⟨by simpa using hnv, by simpa using hv⟩
  -- nothing new below a dataset
  have hD : ∀ x v y, viewKind (c :: older) x = some (.data v) → y ≠ [] → aget (x ++ y) c = none →
      aget (x ++ y) c' = none := by
    intro x v y hx hy hc
    cases h : aget (x ++ y) c' with
    | none => rfl
    | some n' => exact absurd (view_below_data _ x y v hy hx) (hnew _ n' hc h).2
  have hwf' : WF c' := by
    refine ⟨?_, ?_⟩
    · obtain ⟨a, ha⟩ := hwf.root
      obtain ⟨n', h1, h2⟩ := hkeep [] _ ha
      obtain ⟨kd, as⟩ := n'
      cases h2
      exact ⟨as, h1⟩
    · intro x k hne
      cases hm : aget x c' with
      | none => exact absurd hm (hpar x k hne)
      | some m =>
        refine ⟨m, rfl, ?_⟩
        cases hx : aget x c with
        | none => rw [(hnew x m hx hm).1]; rfl
        | some n =>
          obtain ⟨n', h1, h2⟩ := hkeep x n hx
          rw [hm] at h1; cases h1
          rw [h2]
          -- `n` is the parent of an old entry, or of a new one and then a visible group
          cases hxk : aget (x ++ [k]) c with
          | some e =>
            obtain ⟨m0, hm0, hg⟩ := hwf.parent x k (by simp [hxk])
            rw [hx] at hm0; cases hm0; exact hg
          | none =>
            obtain ⟨e', he'⟩ := Option.ne_none_iff_exists'.1 hne
            exact entry_isGroup_of_view_group c older hinv x n
              (view_prefix_group _ x [k] (by simp) (hnew _ e' hxk he').2) hx
  have hil' : InvLast c' older := by
    intro x n' hx0 hn hnv
    rw [hnvP] at hnv
    cases hx : aget x c with
    | some n =>
      rcases hil x n hx0 hx hnv with h | ⟨⟨v, hv⟩, hch⟩ | h
      · exact Or.inl h
      · refine Or.inr (Or.inl ⟨⟨v, hv⟩, fun y hy => hD x v y ?_ hy (hch y hy)⟩)
        rw [(hvc x).1]; simp [applyKind, hnv, hx, hv]
      · exact Or.inr (Or.inr h)
    | none =>
      cases hkx : viewKind older x with
      | none => exact absurd hkx (hK x n' hx hn).2
      | some kd =>
        cases kd with
        | group => exact Or.inl rfl
        | data v =>
          refine Or.inr (Or.inl ⟨⟨v, rfl⟩, fun y hy => hD x v y ?_ hy (hwf.below_none x y hx)⟩)
          rw [(hvc x).1]; simp [applyKind, hnv, hx, hkx]
  have hvc' := fun q => view_cons c' older hwf' hil' q
  refine ⟨⟨hwf', hil', hold⟩, fun q => ?_, fun q k hr => ?_, hnvP⟩
  · rw [(hvc' q).1, (hvc q).1]
    unfold applyKind
    rw [hnvP]
    cases hq : aget q c with
    | some n =>
      obtain ⟨n', h1, h2⟩ := hkeep q n hq
      simp only [h1, plainK, Option.bind_some, h2]
    | none =>
      cases hq' : aget q c' with
      | none => rfl
      | some n' =>
        obtain ⟨hnv, hk⟩ := hK q n' hq hq'
        obtain ⟨kd, hkd⟩ := Option.ne_none_iff_exists'.1 hk
        simp [hnv, hkd]
  · rw [(hvc' q).2, (hvc q).2]
    unfold applyAttr
    rw [hnvP]
    unfold rawAttrs at hr
    cases hq : aget q c with
    | some n =>
      obtain ⟨n', h1, h2⟩ := hkeep q n hq
      rw [hq, h1] at hr
      simp only [Option.bind_some] at hr
      simp only [h1, plainA, Option.bind_some, h2, hr]
    | none =>
      cases hq' : aget q c' with
      | none => rfl
      | some n' =>
        rw [hq, hq'] at hr
        simp only [Option.bind_some, Option.bind_none] at hr
        simp [(hK q n' hq hq').1, hr]

theorem obsR_cons (c : Cont V) (older : Rec V) (hwf : WF c) (hil : InvLast c older) (q : Path) :
    obsR (c :: older) q = (applyKind c (viewKind older) q, applyAttr c (viewAttr older) q) :=
  NodeObs.eq_iff.2 (view_cons c older hwf hil q)

theorem graft (c c' : Cont V) (older : Rec V) (pre : Path) (k : Key)
    (hinv : Inv (c :: older)) (hpre : viewKind (c :: older) pre = some .group)
    (hpar : aget pre c ≠ none)
    (hout : ∀ q, isPre (pre ++ [k]) q = false → aget q c' = aget q c)
    (hclosed : ∀ s j, aget (pre ++ [k] ++ s ++ [j]) c' ≠ none →
      ∃ m, aget (pre ++ [k] ++ s) c' = some m ∧ m.kind.isGroup = true)
    (hmode : nvAt c' (pre ++ [k]) = true ∨ older = [] ∨ nvPrefix c pre = true) :
    Inv (c' :: older) ∧ ∀ q, obsR (c' :: older) q =
      if isPre (pre ++ [k]) q then (plainK (aget q c'), plainA (aget q c')) else obsR (c :: older) q := by
  obtain ⟨hwf, hil, hold⟩ := hinv
  have hinv : Inv (c :: older) := ⟨hwf, hil, hold⟩
  have hvc := fun q => view_cons c older hwf hil q
  have hnvAt : ∀ x, isPre (pre ++ [k]) x = false → nvAt c' x = nvAt c x := by
    intro x hx; unfold nvAt; rw [hout x hx]
  have hnvP : ∀ q, isPre (pre ++ [k]) q = false → nvPrefix c' q = nvPrefix c q := by
    intro q hq
    apply nvPrefix_congr
    intro a b hab _
    exact hnvAt a (isPre_false_of_append _ a b (hab ▸ hq))
  have hp0 : isPre (pre ++ [k]) [] = false := by cases pre <;> rfl
  have hwf' : WF c' := by
    refine ⟨?_, ?_⟩
    · obtain ⟨a, ha⟩ := hwf.root
      exact ⟨a, by rw [hout [] hp0, ha]⟩
    · intro x j hne
      by_cases hb : isPre (pre ++ [k]) (x ++ [j]) = true
      · obtain ⟨s, hs⟩ := (isPre_iff _ _).1 hb
        rcases List.eq_nil_or_concat s with rfl | ⟨s', j', rfl⟩
        · simp only [List.append_nil] at hs
          obtain ⟨h7, _⟩ := List.append_inj' hs rfl
          subst h7
          rw [hout x (isPre_snoc_self_false x k)]
          cases hx : aget x c with
          | none => exact absurd hx hpar
          | some m => exact ⟨m, rfl, entry_isGroup_of_view_group c older hinv x m hpre hx⟩
        · have : x ++ [j] = (pre ++ [k] ++ s') ++ [j'] := by rw [hs]; simp
          obtain ⟨h7, h8⟩ := List.append_inj' this rfl
          subst h7
          simp only [List.cons.injEq, and_true] at h8
          subst h8
          exact hclosed s' j hne
      · have hb' : isPre (pre ++ [k]) (x ++ [j]) = false := by simpa using hb
        have hbx := isPre_false_of_append _ x [j] hb'
        rw [hout _ hb'] at hne
        obtain ⟨m, hm, hg⟩ := hwf.parent x j hne
        exact ⟨m, by rw [hout x hbx, hm], hg⟩
  -- below the grafted path a non-virtual prefix exists (unless we write the base container)
  have hM : (nvAt c' (pre ++ [k]) = true ∨ nvPrefix c pre = true) → ∀ s, nvPrefix c' (pre ++ [k] ++ s) = true := by
    intro h s
    apply nvPrefix_append_of_true
    have e : nvPrefix c' (pre ++ [k]) = (nvPrefix c' pre || nvAt c' (pre ++ [k])) := nvPrefix_concat c' pre k
    rw [e, hnvP pre (isPre_snoc_self_false pre k)]
    rcases h with h | h <;> simp [h]
  have hil' : InvLast c' older := by
    intro x n hx0 hn hnv
    by_cases hb : isPre (pre ++ [k]) x = true
    · obtain ⟨s, rfl⟩ := (isPre_iff _ _).1 hb
      rcases hmode with h | h | h
      · rw [hM (Or.inl h) s] at hnv; cases hnv
      · subst h; exact Or.inr (Or.inr (fun c hc => by cases hc))
      · rw [hM (Or.inr h) s] at hnv; cases hnv
    · have hb' : isPre (pre ++ [k]) x = false := by simpa using hb
      rw [hout x hb'] at hn
      rw [hnvP x hb'] at hnv
      rcases hil x n hx0 hn hnv with h | ⟨⟨v, hv⟩, hch⟩ | h
      · exact Or.inl h
      · refine Or.inr (Or.inl ⟨⟨v, hv⟩, ?_⟩)
        intro y hy
        by_cases hby : isPre (pre ++ [k]) (x ++ y) = true
        · exfalso
          obtain ⟨s, hs⟩ := prefix_of_extension_below pre k x y hby hb'
          have hxg : viewKind (c :: older) x = some .group := by
            by_cases hs0 : s = []
            · subst hs0; simp only [List.append_nil] at hs; subst hs; exact hpre
            · exact view_prefix_group _ x s hs0 (by rw [← hs, hpre]; simp)
          rw [(hvc x).1] at hxg
          simp [applyKind, hnv, hn, hv] at hxg
        · rw [hout _ (by simpa using hby)]
          exact hch y hy
      · exact Or.inr (Or.inr h)
  refine ⟨⟨hwf', hil', hold⟩, fun q => ?_⟩
  rw [obsR_cons c' older hwf' hil' q]
  by_cases hb : isPre (pre ++ [k]) q = true
  · rw [if_pos hb]
    obtain ⟨s, rfl⟩ := (isPre_iff _ _).1 hb
    rcases hmode with h | h | h
    · exact NodeObs.eq_iff.2 (apply_nv c' _ _ _ (hM (Or.inl h) s))
    · subst h
      exact NodeObs.eq_iff.2 (apply_fresh c' (viewKind ([] : Rec V)) (viewAttr ([] : Rec V)) (pre ++ [k] ++ s)
        (by simp) (viewKind_nil _ (by simp)) (fun k' => viewAttr_nil _ k'))
    · exact NodeObs.eq_iff.2 (apply_nv c' _ _ _ (hM (Or.inr h) s))
  · have hb' : isPre (pre ++ [k]) q = false := by simpa using hb
    rw [if_neg hb, obsR_cons c older hwf hil q]
    unfold applyKind applyAttr
    rw [hnvP q hb', hout q hb']

theorem viewAttr_top (c : Cont V) (older : Rec V) (p : Path) (hinv : Inv (c :: older))
    (hvis : viewKind (c :: older) p ≠ none) (k' : Key) :
    viewAttr (c :: older) p k' =
      if nvPrefix c p then (rawAttrs c p k').join else (rawAttrs c p k').getD (viewAttr older p k') := by
  obtain ⟨hwf, hil, hold⟩ := hinv
  unfold rawAttrs
  have hvisK : applyKind c (viewKind older) p ≠ none := by
    rw [← (view_cons c older hwf hil p).1]; exact hvis
  rw [(view_cons c older hwf hil p).2]
  unfold applyAttr
  by_cases hnv : nvPrefix c p = true
  · simp only [hnv, ↓reduceIte]
    cases hp : aget p c with
    | some m =>
      have : plainKind m.kind ≠ none := by
        simpa [applyKind, hnv, hp, plainK] using hvisK
      cases hpk : plainKind m.kind with
      | none => exact absurd hpk this
      | some kd => simp [plainA, hpk]
    | none => simp [plainA]
  · simp only [hnv]
    cases hp : aget p c with
    | some m =>
      simp only [Option.bind_some]
      cases aget k' m.attrs <;> rfl
    | none => rfl

/-- the entry at `q` after `ensure vnode p` -/
def withCarriers (c : Cont V) (p q : Path) : Option (RNode V) :=
  match aget q c with
  | some m => some m
  | none => if q ∈ properPrefixes p then some vnode else none

theorem aget_ensure_vnode (c : Cont V) (p q : Path) : aget q (ensure vnode p c) = withCarriers c p q := by
  rw [aget_ensure]; unfold withCarriers
  cases aget q c with
  | some v => rfl
  | none => simp only []

theorem withCarriers_some (c : Cont V) (p q : Path) (m : RNode V) (h : aget q c = some m) :
    withCarriers c p q = some m := by simp [withCarriers, h]

theorem withCarriers_none_mem (c : Cont V) (p q : Path) (h : aget q c = none) (hm : q ∈ properPrefixes p) :
    withCarriers c p q = some vnode := by simp [withCarriers, h, hm]

theorem withCarriers_none_not (c : Cont V) (p q : Path) (h : aget q c = none) (hm : q ∉ properPrefixes p) :
    withCarriers c p q = none := by simp [withCarriers, h, hm]

theorem withCarriers_congr (c c' : Cont V) (p q : Path) (h : aget q c = aget q c') :
    withCarriers c p q = withCarriers c' p q := by simp [withCarriers, h]

theorem withCarriers_mem_ne_none (c : Cont V) (p q : Path) (hm : q ∈ properPrefixes p) :
    withCarriers c p q ≠ none := by
  unfold withCarriers
  cases aget q c <;> simp [hm]

theorem ancOk_of (c : Cont V) (p : Path)
    (h : ∀ x ∈ properPrefixes p, ∀ m, aget x c = some m → m.kind.isGroup = true) : ancOk c p = true := by
  unfold ancOk
  rw [List.all_eq_true]
  intro x hx
  cases hm : aget x c with
  | none => rfl
  | some m => exact h x hx m hm

theorem createNode_shape (c : Cont V) (p : Path) (n : RNode V) (h1 : aget p c = none)
    (h2 : ∀ x ∈ properPrefixes p, ∀ m, aget x c = some m → m.kind.isGroup = true) :
    ∃ c', Raw.createNode c p n = .ok c' ∧
      ∀ q, aget q c' = if q = p then some n else withCarriers c p q := by
  refine ⟨aput p n (ensure vnode p c), ?_, ?_⟩
  · simp [Raw.createNode, h1, ancOk_of c p h2]
  · intro q
    rw [aget_aput, aget_ensure_vnode]

theorem withCarriers_parent (c : Cont V) (hwf : WF c) (p x : Path) (k : Key)
    (h : withCarriers c p (x ++ [k]) ≠ none ∨ x ++ [k] = p) : withCarriers c p x ≠ none := by
  rcases h with h | h
  · cases hxk : aget (x ++ [k]) c with
    | some e =>
      obtain ⟨m, hm, _⟩ := hwf.parent x k (by simp [hxk])
      rw [withCarriers_some c p x m hm]; simp
    | none =>
      have hmem : x ++ [k] ∈ properPrefixes p := by
        by_contra hc; exact h (withCarriers_none_not c p _ hxk hc)
      obtain ⟨s, hs, rfl⟩ := (mem_properPrefixes _ _).1 hmem
      exact withCarriers_mem_ne_none c _ x ((mem_properPrefixes _ _).2 ⟨k :: s, by simp, by simp⟩)
  · subst h
    exact withCarriers_mem_ne_none c _ x ((mem_properPrefixes _ _).2 ⟨[k], by simp, rfl⟩)

theorem rawAttrs_withCarriers (c : Cont V) (p q : Path) (k : Key) :
    (withCarriers c p q).bind (fun n => aget k n.attrs) = rawAttrs c q k := by
  unfold withCarriers rawAttrs
  cases aget q c with
  | some m => rfl
  | none => by_cases hm : q ∈ properPrefixes p <;> simp [hm, vnode, aget]

theorem carriers (c : Cont V) (older : Rec V) (p : Path) (hinv : Inv (c :: older))
    (hvis : ∀ x ∈ properPrefixes p, viewKind (c :: older) x = some .group) :
    Inv (ensure vnode p c :: older) ∧ ∀ q, obsR (ensure vnode p c :: older) q = obsR (c :: older) q := by
  obtain ⟨h1, h2, h3, _⟩ := neutral_edit c (ensure vnode p c) older hinv
    (fun x n hx => ⟨n, by rw [aget_ensure_vnode, withCarriers_some c p x n hx], rfl⟩)
    (fun x n' hx hx' => by
      rw [aget_ensure_vnode] at hx'
      by_cases hm : x ∈ properPrefixes p
      · rw [withCarriers_none_mem c p x hx hm] at hx'; cases hx'
        exact ⟨rfl, by rw [hvis x hm]; simp⟩
      · rw [withCarriers_none_not c p x hx hm] at hx'; cases hx')
    (fun x k hne => by
      rw [aget_ensure_vnode] at hne ⊢
      exact withCarriers_parent c hinv.1 p x k (Or.inl hne))
  exact ⟨h1, fun q => NodeObs.eq_iff.2 ⟨h2 q, fun k => h3 q k (by
    unfold rawAttrs; rw [aget_ensure_vnode]; exact rawAttrs_withCarriers c p q k)⟩⟩

/-- kind of an explicitly created group: marked as overwriting in a patch, plain in the base -/
def gk (older : Rec V) : RKind V := if older.isEmpty then .vgroup else .sgroup

theorem gk_isGroup (older : Rec V) : (gk older : RKind V).isGroup = true := by
  unfold gk; split <;> rfl

theorem gk_nv (older : Rec V) (h : older ≠ []) : (gk older : RKind V).isVirtual = false := by
  cases older with
  | nil => exact absurd rfl h
  | cons a b => rfl

/-- entries of a fresh chain below `p0`, indexed by the path relative to `p0`: `g` at `p0`,
plain groups on the way, `fin` at the end `more` -/
def chainAt (g : RKind V) (more : Path) (fin : RNode V) (s : Path) : Option (RNode V) :=
  if s = more then some fin
  else if isPre s more then some (if s = [] then ⟨g, []⟩ else vnode)
  else none

theorem chainAt_closed (g : RKind V) (more : Path) (fin : RNode V) (hg : g.isGroup = true) (s : Path) (j : Key)
    (h : chainAt g more fin (s ++ [j]) ≠ none) :
    ∃ m, chainAt g more fin s = some m ∧ m.kind.isGroup = true := by
  have hpre : isPre (s ++ [j]) more = true := by
    unfold chainAt at h
    by_cases h1 : s ++ [j] = more
    · rw [h1]; exact isPre_refl _
    · simp only [h1, ↓reduceIte] at h
      by_contra h2
      simp [h2] at h
  obtain ⟨h1, h2⟩ := isPre_snoc_of s j more hpre
  unfold chainAt
  simp only [h2, ↓reduceIte, h1]
  by_cases hs : s = []
  · exact ⟨_, rfl, by simp [hs, hg]⟩
  · exact ⟨_, rfl, by simp [hs, vnode, RKind.isGroup]⟩

theorem plainK_chainAt (g : RKind V) (more : Path) (fin : RNode V) (hg : g.isGroup = true) (s : Path) :
    plainK (chainAt g more fin s) =
      if s = more then plainKind fin.kind else if isPre s more then some .group else none := by
  unfold chainAt
  by_cases h1 : s = more
  · simp [h1, plainK]
  · simp only [h1, ↓reduceIte]
    by_cases h2 : isPre s more = true
    · simp only [h2, ↓reduceIte, plainK, Option.bind_some]
      by_cases hs : s = []
      · simp [hs, plainKind_group_of_isGroup hg]
      · simp [hs, vnode, plainKind]
    · simp [h2, plainK]

theorem plainA_chainAt (g : RKind V) (more : Path) (fin : RNode V) (hfin : fin.attrs = []) (s : Path) :
    plainA (chainAt g more fin s) = fun _ => none := by
  funext k
  unfold chainAt
  by_cases h1 : s = more
  · simp [h1, plainA, hfin, aget]
  · simp only [h1, ↓reduceIte]
    by_cases h2 : isPre s more = true
    · simp only [h2, ↓reduceIte, plainA, Option.bind_some]
      by_cases hs : s = []
      · simp [hs, aget]
      · simp [hs, vnode, aget]
    · simp [h2, plainA]

/-- `c'` = `c` with the subtree at `p` replaced by the single entry `n` (plus intermediate groups) -/
def Leaf (c : Cont V) (p : Path) (n : RNode V) (c' : Cont V) : Prop :=
  ∀ q, aget q c' = if q = p then some n else if isPre p q then none else withCarriers c p q

theorem withCarriers_idem (c c3 : Cont V) (p q : Path) (h : aget q c3 = withCarriers c p q) :
    withCarriers c3 p q = withCarriers c p q := by
  unfold withCarriers at *
  rw [h]
  cases hq : aget q c with
  | some m => rfl
  | none =>
    by_cases hm : q ∈ properPrefixes p <;> simp [hm]

/-- `del file[p]` (if present) followed by creating a node at `p` -/
theorem rmCreate_shape (c : Cont V) (p : Path) (n : RNode V)
    (hanc : ∀ x ∈ properPrefixes p, ∀ m, aget x c = some m → m.kind.isGroup = true) :
    ∃ c', Raw.createNode (removeSub p c) p n = .ok c' ∧ Leaf c p n c' := by
  have hget : ∀ q, aget q (removeSub p c) = if isPre p q then none else aget q c :=
    fun q => aget_removeSub p q c
  obtain ⟨c', h1, h2⟩ := createNode_shape (removeSub p c) p n (by rw [hget, isPre_refl]; rfl) (by
    intro x hx m hm
    rw [hget, isPre_false_of_mem_pp p x hx] at hm
    exact hanc x hx m hm)
  refine ⟨c', h1, fun q => ?_⟩
  rw [h2]
  by_cases hq : q = p
  · simp [hq]
  · simp only [hq, ↓reduceIte]
    by_cases hb : isPre p q = true
    · simp only [hb, ↓reduceIte]
      exact withCarriers_none_not _ _ _ (by rw [hget, hb]; rfl) (not_mem_pp_of_isPre p q hb)
    · simp only [hb]
      exact withCarriers_congr _ _ _ _ (by rw [hget]; simp [hb])

theorem create_shape_free (c : Cont V) (p : Path) (n : RNode V)
    (hfree : ∀ s, aget (p ++ s) c = none)
    (hanc : ∀ x ∈ properPrefixes p, ∀ m, aget x c = some m → m.kind.isGroup = true) :
    ∃ c', Raw.createNode c p n = .ok c' ∧ Leaf c p n c' := by
  obtain ⟨c', h1, h2⟩ := createNode_shape c p n (by simpa using hfree []) hanc
  refine ⟨c', h1, fun q => ?_⟩
  rw [h2]
  by_cases hq : q = p
  · simp [hq]
  · simp only [hq, ↓reduceIte]
    by_cases hb : isPre p q = true
    · simp only [hb, ↓reduceIte]
      obtain ⟨s, rfl⟩ := (isPre_iff _ _).1 hb
      exact withCarriers_none_not _ _ _ (hfree s) (not_mem_pp_of_isPre p _ hb)
    · simp [hb]

theorem createGroupAt_shape (c : Cont V) (older : Rec V) (p : Path)
    (hfree : aget p c = none ∨ isDelAt c p = true)
    (hbelow : ∀ s, s ≠ [] → aget (p ++ s) c = none)
    (hanc : ∀ x ∈ properPrefixes p, ∀ m, aget x c = some m → m.kind.isGroup = true) :
    ∃ c', W.createGroupAt (c :: older) p = .ok (c' :: older) ∧ Leaf c p ⟨gk older, []⟩ c' := by
  -- a deletion marker is dropped with what is below it; either way a plain group is created at a free path
  obtain ⟨top2, htop2, hleaf⟩ : ∃ top2, Raw.createNode (if isDelAt c p then removeSub p c else c) p vnode = .ok top2 ∧
      Leaf c p vnode top2 := by
    by_cases hd : isDelAt c p = true
    · rw [if_pos hd]; exact rmCreate_shape c p vnode hanc
    · rw [if_neg hd]
      refine create_shape_free c p vnode (fun s => ?_) hanc
      by_cases hs : s = []
      · subst hs; simpa using hfree.resolve_right hd
      · exact hbelow s hs
  cases older with
  | nil =>
    refine ⟨top2, ?_, hleaf⟩
    simp only [W.createGroupAt, Raw.createGroup, htop2, List.isEmpty_nil, bind, Except.bind,
      pure, Except.pure, ↓reduceIte]
  | cons o os =>
    -- in a patch the new group is marked as overwriting
    refine ⟨aput p { (vnode : RNode V) with kind := .sgroup } top2, ?_, fun q => ?_⟩
    · have hp2 : aget p top2 = some vnode := by rw [hleaf]; simp
      simp only [W.createGroupAt, Raw.createGroup, htop2, bind, Except.bind, pure, Except.pure,
        Raw.markSubst, hp2]
      simp [vnode, RKind.isGroup]
    · rw [aget_aput, hleaf q]
      by_cases hq : q = p
      · simp [hq, gk, vnode]
      · simp only [hq, ↓reduceIte]

/-- a leaf relative to a container that already carries the intermediate groups -/
theorem Leaf.rebase {c c3 : Cont V} {p : Path} {n : RNode V} {c' : Cont V} (h : Leaf c3 p n c')
    (h3 : ∀ q, isPre p q = false → aget q c3 = withCarriers c p q) : Leaf c p n c' := by
  intro q
  rw [h q]
  by_cases hq : q = p
  · simp [hq]
  · simp only [hq, ↓reduceIte]
    by_cases hb : isPre p q = true
    · simp [hb]
    · simp only [hb]
      exact withCarriers_idem c c3 p q (h3 q (by simpa using hb))

/-- `c'` is `c` with a fresh chain written at `p0`: inside it `chainAt`, outside it the old entries and
the intermediate groups of `p0` -/
structure ChainShape (c : Cont V) (p0 : Path) (g : RKind V) (more : Path) (fin : RNode V) (c' : Cont V) : Prop where
  inside : ∀ s, aget (p0 ++ s) c' = chainAt g more fin s
  outside : ∀ q, isPre p0 q = false → aget q c' = withCarriers c p0 q

theorem Leaf.chain {c : Cont V} {p0 : Path} {fin : RNode V} {c' : Cont V} (g : RKind V) (h : Leaf c p0 fin c') :
    ChainShape c p0 g [] fin c' := by
  refine ⟨fun s => ?_, fun q hq => ?_⟩
  · rw [h]
    unfold chainAt
    by_cases hs : s = []
    · simp [hs]
    · have : isPre s [] = false := by cases s with
        | nil => exact absurd rfl hs
        | cons a s => rfl
      simp [hs, isPre_append, this]
  · rw [h]
    have : q ≠ p0 := by rintro rfl; rw [isPre_refl] at hq; cases hq
    simp [this, hq]

theorem Leaf.extend {c cg c' : Cont V} {p0 more : Path} {g : RKind V} {fin : RNode V}
    (h1 : Leaf c p0 ⟨g, []⟩ cg) (h2 : Leaf cg (p0 ++ more) fin c') :
    ChainShape c p0 g more fin c' := by
  have hcg_in : ∀ s, aget (p0 ++ s) cg = if s = [] then some ⟨g, []⟩ else none := by
    intro s
    rw [h1]
    by_cases hs : s = []
    · simp [hs]
    · simp [hs, isPre_append]
  refine ⟨fun s => ?_, fun q hq => ?_⟩
  · rw [h2]
    unfold chainAt
    by_cases hs : s = more
    · simp [hs]
    · have hne : p0 ++ s ≠ p0 ++ more := by simpa using hs
      simp only [hne, ↓reduceIte, hs, isPre_append_append]
      by_cases hb : isPre more s = true
      · have hnb := isPre_false_of_isPre_ne s more hb hs
        simp [hb, hnb]
      · simp only [hb]
        by_cases hs0 : s = []
        · subst hs0
          simp only [Bool.false_eq_true, ↓reduceIte, isPre_nil]
          exact withCarriers_some _ _ _ _ (by simpa using hcg_in [])
        · have hnone : aget (p0 ++ s) cg = none := by rw [hcg_in]; simp [hs0]
          by_cases hp : isPre s more = true
          · simp only [Bool.false_eq_true, ↓reduceIte, hp, hs0]
            exact withCarriers_none_mem _ _ _ hnone
              ((mem_pp_append_append _ _ _).2 ((mem_properPrefixes' _ _).2 ⟨hp, hs⟩))
          · simp only [Bool.false_eq_true, ↓reduceIte, hp]
            exact withCarriers_none_not _ _ _ hnone (fun hm =>
              hp ((mem_properPrefixes' _ _).1 ((mem_pp_append_append _ _ _).1 hm)).1)
  · rw [h2]
    have hq1 : q ≠ p0 ++ more := by
      rintro rfl; rw [isPre_append] at hq; cases hq
    have hq2 : isPre (p0 ++ more) q = false := by
      cases hx : isPre (p0 ++ more) q with
      | false => rfl
      | true =>
        obtain ⟨s, rfl⟩ := (isPre_iff _ _).1 hx
        rw [List.append_assoc, isPre_append] at hq; cases hq
    simp only [hq1, ↓reduceIte, hq2, Bool.false_eq_true]
    have hqc : aget q cg = withCarriers c p0 q := by
      rw [h1]
      have : q ≠ p0 := by rintro rfl; rw [isPre_refl] at hq; cases hq
      simp [this, hq]
    cases hw : withCarriers c p0 q with
    | some m => exact withCarriers_some _ _ _ m (by rw [hqc, hw])
    | none =>
      apply withCarriers_none_not _ _ _ (by rw [hqc, hw])
      intro hm
      exact withCarriers_mem_ne_none c p0 q (mem_pp_of_mem_pp_append p0 more q hm hq) hw

theorem pp_visible_of_part (r : Rec V) (pre : Path) (k : Key) (hpre : viewKind r pre = some .group) :
    ∀ x ∈ properPrefixes (pre ++ [k]), viewKind r x = some .group := by
  intro x hx
  obtain ⟨s, hs⟩ := (mem_properPrefixes_snoc pre k x).1 hx
  by_cases hs0 : s = []
  · subst hs0; simp only [List.append_nil] at hs; subst hs; exact hpre
  · exact view_prefix_group _ x s hs0 (by rw [← hs, hpre]; simp)

theorem chain_sem (c c' : Cont V) (older : Rec V) (pre : Path) (k : Key) (more : Path) (fin : RNode V)
    (hinv : Inv (c :: older)) (hpre : viewKind (c :: older) pre = some .group)
    (hsh : ChainShape c (pre ++ [k]) (gk older) more fin c')
    (hfin : older ≠ [] → more = [] → fin.kind.isVirtual = false) :
    Inv (c' :: older) ∧ ∀ q, obsR (c' :: older) q =
      if isPre (pre ++ [k]) q then (plainK (aget q c'), plainA (aget q c')) else obsR (c :: older) q := by
  obtain ⟨hinv1, hview1⟩ := carriers c older (pre ++ [k]) hinv (pp_visible_of_part _ pre k hpre)
  have hmem : pre ∈ properPrefixes (pre ++ [k]) := (mem_properPrefixes_snoc pre k pre).2 ⟨[], by simp⟩
  obtain ⟨hinv2, hview2⟩ := graft (ensure vnode (pre ++ [k]) c) c' older pre k hinv1
    ((congrArg Prod.fst (hview1 pre)).trans hpre)
    (by rw [aget_ensure_vnode]; exact withCarriers_mem_ne_none c _ pre hmem)
    (by intro q hq; rw [aget_ensure_vnode]; exact hsh.outside q hq)
    (by
      intro s j hne
      rw [List.append_assoc, hsh.inside] at hne
      rw [hsh.inside]
      exact chainAt_closed (gk older) more fin (gk_isGroup older) s j hne)
    (by
      by_cases ho : older = []
      · exact Or.inr (Or.inl ho)
      · left
        unfold nvAt
        have := hsh.inside []
        simp only [List.append_nil] at this
        rw [this]
        unfold chainAt
        by_cases hm : more = []
        · subst hm; simp [hfin ho rfl]
        · have : ¬ ([] : Path) = more := fun h => hm h.symm
          simp [this, isPre_nil, gk_nv older ho])
  exact ⟨hinv2, fun q => by rw [hview2 q, hview1 q]⟩

end MetadorModel.Overlay
