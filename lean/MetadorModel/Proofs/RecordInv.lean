import MetadorModel.Proofs.RecordSpec
/-! What C02 asks of a single call (`Lawful`): nothing outside the reported write set changes, and
from a state satisfying the handle invariant `Inv` the write set consists of touchable files and
`Inv` holds again. Proved for every call from its case characterisation. -/
namespace MetadorModel.Record
open MetadorModel.FindFiles

/-- the call `r` issued in state `s` leaves every file outside its write set alone -/
def Frame (s : State) (r : Res) : Prop :=
  ∀ g, g ∉ r.W → getF r.st.disk g = getF s.disk g

/-- an existing container without checksum -/
def UncommittedCont (d : Disk) (f : Name) : Prop :=
  ∃ ub p, getF d f = some (.cont ub p) ∧ ub.hash = none

/-- a name that is free and looks like a container name -/
def FreshCont (d : Disk) (f : Name) : Prop := getF d f = none ∧ f.getLast? = some '5'

/-- what an API call may create, remove or rewrite: a fresh container name, an uncommitted
container, or the manifest sidecar of one of these -/
def Touchable (d : Disk) (f : Name) : Prop :=
  FreshCont d f ∨ UncommittedCont d f ∨ ∃ g, f = manifestFile g ∧ (FreshCont d g ∨ UncommittedCont d g)

/-- the invariant of C02: containers have container names; if the handle has a writable
container, it is its last file and that file is an uncommitted container on disk -/
structure Inv (s : State) : Prop where
  diskOk : ∀ f ub p, getF s.disk f = some (.cont ub p) → f.getLast? = some '5'
  writable : hasWritable s.h = true → ∃ f ub, lastFile s.h.files = some (f, ub) ∧ UncommittedCont s.disk f

def Lawful (s : State) (r : Res) : Prop :=
  Frame s r ∧ (Inv s → (∀ f ∈ r.W, Touchable s.disk f) ∧ Inv r.st)

theorem Failed.lawful {s : State} {r : Res} (h : Failed s r) : Lawful s r :=
  ⟨fun g _ => by rw [h.2.1], fun hi => ⟨by rw [h.W]; exact fun _ hf => (nomatch hf),
    ⟨by rw [h.2.1]; exact hi.diskOk, by rw [h.2.1, h.2.2.1]; exact hi.writable⟩⟩⟩

theorem lawful_noop (s : State) : Lawful s { st := s, out := .ok } :=
  ⟨fun _ _ => rfl, fun hi => ⟨fun _ h => (nomatch h), hi⟩⟩

theorem frame_setF {s : State} {r : Res} {f : Name} {v : File} (hd : r.st.disk = setF s.disk f v)
    (hf : f ∈ r.W) : Frame s r :=
  fun g hg => by rw [hd, getF_setF_ne _ _ _ _ (by rintro rfl; exact hg hf)]

theorem Inv.last_uncommitted {s : State} (hi : Inv s) (hw : hasWritable s.h = true) {f : Name} {ub : UB}
    (hl : lastFile s.h.files = some (f, ub)) : UncommittedCont s.disk f := by
  obtain ⟨f', ub', hl', hu⟩ := hi.writable hw
  cases hl.symm.trans hl'
  exact hu

theorem Inv.not_manifest {s : State} (hi : Inv s) {x : Name} {ub : UB} {q : List Nat} :
    getF s.disk (manifestFile x) ≠ some (.cont ub q) := fun h => by
  have := hi.diskOk _ _ _ h
  rw [manifestFile_last] at this; cases this

theorem hasWritable_lastRW_false (h : Handle) (fs : List (Name × UB)) :
    hasWritable { h with files := fs, lastRW := false } = false := by
  simp [hasWritable]

/-- a call that creates the container `f` under a free name and makes it the writable one -/
theorem lawful_new {s : State} {r : Res} {f : Name} {ub : UB} (hd : r.st.disk = setF s.disk f (.cont ub []))
    (hW : r.W = [f]) (hfree : FreshCont s.disk f) (hn : ub.hash = none)
    (hl : lastFile r.st.h.files = some (f, ub)) : Lawful s r := by
  refine ⟨frame_setF hd (by simp [hW]), fun hi => ⟨fun g hg => ?_, fun g u p hg => ?_, fun _ => ?_⟩⟩
  · rw [hW, List.mem_singleton] at hg
    exact hg ▸ .inl hfree
  · by_cases h : g = f
    · exact h ▸ hfree.2
    · exact hi.diskOk g u p (by rwa [hd, getF_setF_ne _ _ _ _ h] at hg)
  · exact ⟨f, ub, hl, ub, [], by rw [hd, getF_setF_eq], hn⟩

/-- a call that rewrites or removes nothing but the writable container `f` -/
theorem lawful_last {s : State} {r : Res} {f : Name} {ub : UB} (hfr : Frame s r) (hw : hasWritable s.h = true)
    (hl : lastFile s.h.files = some (f, ub)) (hW : ∀ g ∈ r.W, g = f)
    (hf : ∀ u p, getF r.st.disk f = some (.cont u p) → ∃ u' p', getF s.disk f = some (.cont u' p'))
    (hnw : Inv s → hasWritable r.st.h = true →
      UncommittedCont r.st.disk f ∧ ∃ u, lastFile r.st.h.files = some (f, u)) :
    Lawful s r := by
  refine ⟨hfr, fun hi => ⟨fun g hg => ?_, fun g u p hg => ?_, fun h => ?_⟩⟩
  · rw [hW g hg]; exact .inr (.inl (hi.last_uncommitted hw hl))
  · by_cases h : g = f
    · obtain ⟨u', p', h'⟩ := hf u p (h ▸ hg)
      exact h ▸ hi.diskOk f u' p' h'
    · exact hi.diskOk g u p (hfr g (fun hg' => h (hW g hg')) ▸ hg)
  · obtain ⟨h1, u, h2⟩ := hnw hi h
    exact ⟨f, u, h2, h1⟩

theorem createPatch_lawful (s : State) : Lawful s (createPatch s) := by
  rcases createPatch_spec s with hf | ⟨f0, u0, rest, fl, ul, _, _, _, _, _, hfresh, heq⟩
  · exact hf.1.lawful
  · rw [heq]
    exact lawful_new rfl rfl ⟨hfresh, patchFile_last _ _⟩ rfl (lastFile_append_single _ _)

theorem createRec_notrunc_lawful (s : State) (c : Bool) (n : Name) (o : List Name) :
    Lawful s (createRec s c n false o) := by
  rcases createRec_notrunc s c n o with hf | ⟨_, _, hfresh, heq⟩
  · exact hf.1.lawful
  · rw [heq]
    exact lawful_new rfl rfl ⟨hfresh, baseFile_last _⟩ rfl rfl

theorem commitPlain_lawful (s : State) : Lawful s (commitPlain s) := by
  rcases commitPlain_spec s with hf | ⟨f, ub, p, hl, _, _, hw, hp, heq⟩
  · exact hf.1.lawful
  · rw [heq]
    obtain ⟨u', hu'⟩ := getF_of_payloadOf hp
    exact lawful_last (frame_setF rfl (by simp [Res.W])) hw hl (by simp [Res.W]) (fun _ _ _ => ⟨_, _, hu'⟩)
      (fun _ h => by simp [hasWritable] at h)

theorem commitMF_lawful (s : State) : Lawful s (commitMF s) := by
  rcases commitMF_spec s with hf | ⟨f, ub, p, hl, _, _, hw, hp, _, hd, hh, _, _, hW⟩
  · exact hf.1.lawful
  · have hfr : Frame s (commitMF s) := fun g hg => by
      rw [hW, not_or] at hg
      rw [hd, getF_setF_ne _ _ _ _ hg.2, getF_setF_ne _ _ _ _ hg.1]
    refine ⟨hfr, fun hi => ⟨fun g hg => ?_, fun g u q hg => ?_, fun h => ?_⟩⟩
    · have hu := hi.last_uncommitted hw hl
      rcases (hW g).mp hg with rfl | rfl
      · exact .inr (.inl hu)
      · exact .inr (.inr ⟨_, rfl, .inr hu⟩)
    · rw [hd] at hg
      by_cases h2 : g = manifestFile f
      · rw [h2, getF_setF_eq] at hg; cases hg
      · rw [getF_setF_ne _ _ _ _ h2] at hg
        by_cases h : g = f
        · obtain ⟨u', hu'⟩ := getF_of_payloadOf hp
          exact h ▸ hi.diskOk f u' p hu'
        · exact hi.diskOk g u q (by rwa [getF_setF_ne _ _ _ _ h] at hg)
    · rw [hh] at h; simp [hasWritable] at h

theorem commitPatch_lawful (s : State) : Lawful s (commitPatch s) := by
  unfold commitPatch; split
  · exact commitMF_lawful s
  · exact commitPlain_lawful s

theorem discardPatch_lawful (s : State) : Lawful s (discardPatch s) := by
  rcases discardPatch_spec s with hf | ⟨f, ub, hl, _, _, hw, _, heq⟩
  · exact hf.1.lawful
  · rw [heq]
    refine lawful_last (fun g hg => getF_eraseF_ne _ _ _ (by simpa [Res.W] using hg)) hw hl (by simp [Res.W])
      (fun u p h => ?_) (fun _ h => by simp [hasWritable] at h)
    rw [show ({ st := _, out := _, removed := _ } : Res).st.disk = eraseF s.disk f from rfl, getF_eraseF_eq] at h
    cases h

theorem write_lawful (s : State) (k : Nat) : Lawful s (write s k) := by
  rcases write_spec s k with hf | ⟨f, u, hl, hw, _, ⟨ub, p, hg0, heq⟩ | ⟨_, heq⟩⟩
  · exact hf.1.lawful
  · rw [heq]
    refine lawful_last (frame_setF rfl (by simp [Res.W])) hw hl (by simp [Res.W]) (fun _ _ _ => ⟨_, _, hg0⟩)
      (fun hi _ => ⟨⟨ub, _, getF_setF_eq _ _ _, ?_⟩, u, hl⟩)
    obtain ⟨ub', p', hg', hn⟩ := hi.last_uncommitted hw hl
    cases hg0.symm.trans hg'
    exact hn
  · rw [heq]
    exact lawful_noop s

theorem Lawful.closed {s : State} {r : Res} (h : Lawful s r) :
    Lawful s { r with st := { r.st with h := closedHandle r.st.h } } :=
  ⟨h.1, fun hi => ⟨(h.2 hi).1, (h.2 hi).2.diskOk, fun hw => nomatch hw⟩⟩

theorem close_lawful (s : State) (c : Bool) : Lawful s (close s c) := by
  rcases close_spec s c with ⟨_, heq⟩ | ⟨_, _, _, _, heq⟩ | ⟨_, _, _, _, heq⟩ | ⟨_, _, heq⟩ <;> rw [heq]
  · exact lawful_noop s
  · exact commitPatch_lawful s
  · exact (commitPatch_lawful s).closed
  · refine ⟨fun _ _ => rfl, fun hi => ⟨fun g hg => ?_, hi.diskOk, fun hw => nomatch hw⟩⟩
    dsimp only [Res.W] at hg
    split at hg
    · next hw =>
      obtain ⟨f, ub, hl, hu⟩ := hi.writable hw
      rw [hl] at hg
      exact List.mem_singleton.mp hg ▸ .inr (.inl hu)
    · cases hg

theorem openExistingK_lawful (s : State) (c : Bool) (paths : List Name) (m : Mode) (kw : OpenKw) :
    Lawful s (openExistingK s c paths m kw) := by
  rcases openExistingK_spec s c paths m kw with hf | ⟨files, b, man, hopen, _, ⟨_, heq⟩ | ⟨hw, _, heq⟩⟩
  · exact hf.1.lawful
  · rw [heq]
    obtain ⟨_, _, ⟨fl, ul, hl, hb⟩, _⟩ := openFilesK_ok hopen
    -- if the newest container is reopened writable (`b`), it has no checksum
    have hu : b = true → UncommittedCont s.disk fl := fun hbt => by
      obtain ⟨p, hp⟩ := (openFilesK_mem hopen fl ul (lastFile_mem _ _ hl)).2
      exact ⟨ul, p, hp, (by simpa [hbt] using hb.symm : _ ∧ _).2⟩
    refine ⟨fun _ _ => rfl, fun hi => ⟨fun g hg => ?_, hi.diskOk, fun hw => ⟨fl, ul, hl, hu ?_⟩⟩⟩
    · dsimp only [Res.W] at hg
      split at hg
      · next hbt =>
        rw [hl] at hg
        exact List.mem_singleton.mp hg ▸ .inr (.inl (hu hbt))
      · cases hg
    · simp only [hasWritable, openedHandle, Bool.and_eq_true] at hw
      exact hw.2
  · rw [heq]
    have hl := createPatch_lawful { s with h := openedHandle files b c m man }
    rw [Bool.and_eq_true, Bool.not_eq_eq_eq_not, Bool.not_true] at hw
    exact ⟨hl.1, fun hi => hl.2 ⟨hi.diskOk, fun h => by rw [hw.2] at h; cases h⟩⟩

theorem createRec_frame (s : State) (c : Bool) (n : Name) (t : Bool) (o : List Name) :
    Frame s (createRec s c n t o) := by
  rcases createRec_spec s c n t o with ⟨_, heq⟩ | ⟨_, e, _, _, heq⟩ | ⟨_, _, _, heq⟩ <;> rw [heq] <;> intro g hg
  · rfl
  · exact getF_eraseAll_not_mem _ _ _ (by simpa [Res.W] using hg)
  · simp only [Res.W, List.append_nil, List.cons_append, List.nil_append, List.mem_cons, not_or] at hg
    exact (getF_setF_ne _ _ _ _ hg.1).trans (getF_eraseAll_not_mem _ _ _ hg.2)

theorem openRecK_frame (s : State) (c : Bool) (t : Target) (m : Mode) (kw : OpenKw) :
    Frame s (openRecK s c t m kw) := by
  rcases openRecK_cases s c t m kw with hf | ⟨n, _, h⟩ | ⟨paths, h⟩
  · exact hf.1.lawful.1
  · rw [h]; exact createRec_frame _ _ _ _ _
  · rw [h]; exact (openExistingK_lawful _ _ _ _ _).1

theorem openRecK_lawful (s : State) (c : Bool) (t : Target) (m : Mode) (kw : OpenKw) (hm : m ≠ .w) :
    Lawful s (openRecK s c t m kw) := by
  rcases openRecK_cases s c t m kw with hf | ⟨n, _, h⟩ | ⟨paths, h⟩
  · exact hf.1.lawful
  · rw [h, show (m == .w) = false by simpa using hm]; exact createRec_notrunc_lawful _ _ _ _
  · rw [h]; exact openExistingK_lawful _ _ _ _ _

/-- a call that adds a record under the free name `b` -/
theorem Adds.lawful {s : State} {r : Res} {b : Name} (h : Adds s.disk r.st.disk b r.W)
    (hfree : FreshCont s.disk b)
    (hw : Inv s → hasWritable r.st.h = true → ∃ f ub, lastFile r.st.h.files = some (f, ub) ∧ UncommittedCont r.st.disk f) :
    Lawful s r := by
  refine ⟨fun g hg => ?_, fun hi => ⟨fun g hg => ?_, fun g u p hg => ?_, hw hi⟩⟩
  · by_cases h1 : g = b
    · exact absurd (h1 ▸ h.base) hg
    · by_cases h2 : g = manifestFile b
      · exact h2 ▸ h.side.resolve_right (fun h' => hg (h2 ▸ h'.1))
      · exact h.frame g h1 h2
  · rcases h.sub g hg with rfl | rfl
    · exact .inl hfree
    · exact .inr (.inr ⟨_, rfl, .inl hfree⟩)
  · by_cases h1 : g = b
    · exact h1 ▸ hfree.2
    · by_cases h2 : g = manifestFile b
      · rcases h.side with h' | ⟨_, _, _, h'⟩
        · exact hi.diskOk g u p (h2 ▸ h' ▸ h2 ▸ hg)
        · rw [h2, h'] at hg; cases hg
      · exact hi.diskOk g u p (h.frame g h1 h2 ▸ hg)

theorem mergeFiles_lawful (s : State) (t : Name) : Lawful s (mergeFiles s t) := by
  rcases mergeFiles_spec s t with hf | ⟨_, hnw, hfresh, hh, hadd, _, _⟩
  · exact hf.1.lawful
  · exact hadd.lawful ⟨hfresh, baseFile_last _⟩ (fun _ h => by rw [hh, hnw] at h; cases h)

theorem deleteFiles_frame (s : State) (n : Name) : Frame s (deleteFiles s n) := by
  unfold deleteFiles
  split
  · exact fun _ _ => rfl
  · exact fun g hg => getF_eraseAll_not_mem _ _ _ (by simpa [Res.W] using hg)

theorem read_eq (s : State) : read s = fail s .keyError ∨ read s = { st := s, out := .ok } := by
  unfold read; split <;> simp

theorem step_frame (s : State) (op : Op) : Frame s (step s op) := by
  cases op with
  | openRec c t m => rw [step, ← openRecK_default]; exact openRecK_frame s c t m {}
  | write k => exact (write_lawful s k).1
  | read => rcases read_eq s with h | h <;> (rw [step, h]; exact fun _ _ => rfl)
  | createPatch => exact (createPatch_lawful s).1
  | commitPatch => exact (commitPatch_lawful s).1
  | discardPatch => exact (discardPatch_lawful s).1
  | close c => exact (close_lawful s c).1
  | merge t => exact (mergeFiles_lawful s t).1
  | deleteFiles n => exact deleteFiles_frame s n

theorem step_lawful (s : State) (op : Op) (hsafe : op.safe = true) : Lawful s (step s op) := by
  cases op with
  | openRec c t m =>
    rw [step, ← openRecK_default]
    exact openRecK_lawful s c t m {} (fun h => by subst h; cases hsafe)
  | write k => exact write_lawful s k
  | read =>
    rcases read_eq s with h | h <;> rw [step, h]
    · exact (failed_fail rfl rfl (by decide)).lawful
    · exact lawful_noop s
  | createPatch => exact createPatch_lawful s
  | commitPatch => exact commitPatch_lawful s
  | discardPatch => exact discardPatch_lawful s
  | close c => exact close_lawful s c
  | merge t => exact mergeFiles_lawful s t
  | deleteFiles n => cases hsafe

theorem commitPatchExts_lawful (s : State) : Lawful s (commitPatchExts s) := by
  unfold commitPatchExts; split
  · exact commitMF_lawful s
  · exact (failed_fail rfl rfl (by decide)).lawful

theorem stepK_frame (s : State) (op : OpK) : Frame s (stepK s op) := by
  cases op with
  | base o => exact step_frame s o
  | openKw c t m kw => exact openRecK_frame s c t m kw
  | commitExts => exact (commitPatchExts_lawful s).1

theorem stepK_lawful (s : State) (op : OpK) (hsafe : op.safe = true) : Lawful s (stepK s op) := by
  cases op with
  | base o => exact step_lawful s o hsafe
  | openKw c t m kw => exact openRecK_lawful s c t m kw (fun h => by subst h; cases hsafe)
  | commitExts => exact commitPatchExts_lawful s

end MetadorModel.Record
