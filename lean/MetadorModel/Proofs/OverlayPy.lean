import MetadorModel.Model.OverlayPy
import MetadorModel.Proofs.OverlayView
import MetadorModel.Proofs.Listing
/-!
# The value dictionary of the C01 translation (`Model/OverlayPy.lean`), read per key

Nothing here depends on the generated file. The two dictionaries `children`, `is_virtual` of
`IH5InnerNode._children` are read one key at a time (`slot`); per key, the fold over the container
indices `len-1 … cidx` is the recursion `runSlot`, which computes the model's `Overlay.scan`
(`runSlot_none`). `pyFor_keys`, `pyFor_range` lift a per-iteration specification of a loop body to
the whole loop.
-/
namespace MetadorModel.OverlayPy
open MetadorModel.Tree MetadorModel.Overlay MetadorModel.Listing

variable {V : Type}

theorem pyListGet_nat {α : Type} (l : List α) (i : Nat) :
    pyListGet l (i : Int) = match l[i]? with | some x => .ok x | none => .error .indexError := by
  have h1 : ¬ ((i : Int) < 0) := by omega
  cases h : l[i]? <;> simp [pyListGet, h1, h]

theorem pyListGet_neg_one {α : Type} (l : List α) :
    pyListGet l (-1) = match l.getLast? with | some x => .ok x | none => .error .indexError := by
  unfold pyListGet
  rcases List.eq_nil_or_concat l with h | ⟨xs, x, h⟩
  · subst h; simp
  · rw [List.concat_eq_append] at h
    subst h
    have h2 : ((-1 : Int) + ((xs.length : Int) + 1)).toNat = xs.length := by omega
    have h3 : ¬ ((-1 : Int) + ((xs.length : Int) + 1) < 0) := by omega
    simp [h2, h3]

/-- between natural numbers `range(a, n)` is `List.range'` -/
theorem pyRange_nat (a n : Nat) : pyRange (a : Int) (n : Int) = (List.range' a (n - a)).map Int.ofNat := by
  unfold pyRange
  rw [Int.toNat_sub, List.range'_eq_map_range, List.map_map]
  rfl

theorem pyRange_empty (a b : Int) (h : b ≤ a) : pyRange a b = [] := by
  unfold pyRange
  rw [Int.toNat_eq_zero.2 (Int.sub_nonpos_of_le h)]
  rfl

theorem pyReversed_pyRange_succ (a m : Nat) (h : a ≤ m) :
    pyReversed (pyRange (a : Int) ((m + 1 : Nat) : Int)) = (m : Int) :: pyReversed (pyRange (a : Int) (m : Int)) := by
  unfold pyReversed
  rw [pyRange_nat, pyRange_nat, Nat.succ_sub h, List.range'_concat, Nat.one_mul, Nat.add_sub_cancel' h]
  simp

theorem pyRange_zero_succ (n a : Nat) (h : a < n) :
    (pyRange (a : Int) (n : Int)) = (a : Int) :: pyRange ((a + 1 : Nat) : Int) (n : Int) := by
  rw [pyRange_nat, pyRange_nat, ← Nat.succ_sub_succ n a, Nat.succ_sub h, List.range'_succ]
  rfl

theorem mem_keys_iff {κ β : Type} [DecidableEq κ] (k : κ) (l : List (κ × β)) :
    k ∈ l.map (·.1) ↔ (aget k l).isSome = true := by
  constructor
  · intro h
    obtain ⟨e, he, rfl⟩ := List.mem_map.1 h
    exact Option.isSome_iff_ne_none.2 (Single.mem_aget l e he)
  · intro h
    obtain ⟨v, hv⟩ := Option.isSome_iff_exists.1 h
    exact List.mem_map_of_mem (f := (·.1)) (Single.aget_mem l k v hv)

theorem aget_eq_some_iff_mem {κ β : Type} [DecidableEq κ] (l : List (κ × β))
    (hnd : (l.map (·.1)).Nodup) (k : κ) (v : β) : aget k l = some v ↔ (k, v) ∈ l := by
  induction l with
  | nil => simp [aget]
  | cons e l ih =>
    obtain ⟨a, b⟩ := e
    rw [List.map_cons, List.nodup_cons] at hnd
    by_cases h : a = k
    · subst h
      have hn : aget a l = none := by simpa [mem_keys_iff] using hnd.1
      simp [aget, hn, ← ih hnd.2, eq_comm]
    · simp [aget, h, Ne.symm h, ← ih hnd.2]

theorem pySortedItems_perm {β : Type} (d : List (Key × β)) : (pySortedItems d).Perm d :=
  sortBy_perm _ d

/-- looking a key up in `{k: v for k, v in sorted(d.items()) if keep}` -/
theorem aget_sorted_filter {β : Type} (d : List (Key × β)) (hnd : (d.map (·.1)).Nodup)
    (keep : Key × β → Bool) (k : Key) :
    aget k ((pySortedItems d).filter keep) = (aget k d).filter fun v => keep (k, v) := by
  have hp := pySortedItems_perm d
  have hnd' : (((pySortedItems d).filter keep).map (·.1)).Nodup :=
    ((hp.map _).nodup_iff.mpr hnd).sublist (List.filter_sublist.map _)
  ext v
  rw [aget_eq_some_iff_mem _ hnd', List.mem_filter, hp.mem_iff,
    ← aget_eq_some_iff_mem d hnd, Option.filter_eq_some_iff]

theorem nodup_keys_aput {κ β : Type} [DecidableEq κ] (k : κ) (v : β) (l : List (κ × β))
    (hnd : (l.map (·.1)).Nodup) : ((aput k v l).map (·.1)).Nodup := by
  induction l with
  | nil => simp [aput]
  | cons e l ih =>
    obtain ⟨a, b⟩ := e
    rw [List.map_cons, List.nodup_cons] at hnd
    rw [aput]
    split_ifs with h
    · subst h; exact List.nodup_cons.2 hnd
    · rw [List.map_cons, List.nodup_cons, mem_keys_iff, aget_aput, if_neg h, ← mem_keys_iff]
      exact ⟨hnd.1, ih hnd.2⟩

theorem pyFilterM_pure {α : Type} (f : α → Except PyErr Bool) (p : α → Bool) (l : List α)
    (h : ∀ x ∈ l, f x = .ok (p x)) : pyFilterM f l = .ok (l.filter p) := by
  induction l with
  | nil => rfl
  | cons x xs ih =>
    have hx := h x List.mem_cons_self
    have hxs := ih (fun y hy => h y (List.mem_cons_of_mem _ hy))
    simp only [pyFilterM, hx, hxs, List.filter]
    cases p x <;> rfl

theorem childKeyOf_eq_some (p q : Path) (k : Key) : childKeyOf p q = some k ↔ q = p ++ [k] := by
  unfold childKeyOf
  cases hq : q.getLast? with
  | none =>
    have : q = [] := List.getLast?_eq_none_iff.mp hq
    subst this
    simp
  | some a =>
    have h1 : q.dropLast ++ [a] = q := by
      obtain ⟨ys, hys⟩ := List.getLast?_eq_some_iff.mp hq
      subst hys; simp
    simp only
    constructor
    · intro h
      split at h
      · rename_i hp
        simp only [Option.some.injEq] at h
        subst h; subst hp; exact h1.symm
      · cases h
    · intro h
      subst h
      simp only [List.getLast?_append, List.getLast?_singleton, Option.some_or,
        Option.some.injEq] at hq
      subst hq
      simp

theorem mem_childKeys (f : Cont V) (p : Path) (k : Key) :
    k ∈ childKeys f p ↔ (aget (p ++ [k]) f).isSome = true := by
  unfold childKeys
  rw [mem_dedup, ← mem_keys_iff]
  simp only [List.mem_filterMap, List.mem_map]
  constructor
  · rintro ⟨e, he, hk⟩
    exact ⟨e, he, ((childKeyOf_eq_some p e.1 k).mp hk)⟩
  · rintro ⟨e, he, hk⟩
    exact ⟨e, he, ((childKeyOf_eq_some p e.1 k).mpr hk)⟩

theorem nodup_childKeys (f : Cont V) (p : Path) : (childKeys f p).Nodup := nodup_dedup _

/-! ## the two dictionaries of `_children`, read per key -/

/-- loop state of `_children`: (`children`, `is_virtual`) -/
abbrev St := List (Key × Int) × List (Key × Bool)

def slot (k : Key) (st : St) : Option (Int × Bool) :=
  match aget k st.1, aget k st.2 with
  | some j, some b => some (j, b)
  | _, _ => none

/-- both dictionaries have the same keys, no key twice -/
structure Dom (st : St) : Prop where
  nodup : (st.1.map (·.1)).Nodup
  same : ∀ k, (aget k st.1).isSome = (aget k st.2).isSome

theorem Dom.init : Dom (([], []) : St) := ⟨by simp, by simp [aget]⟩

theorem slot_eq_none (k : Key) (st : St) (hd : Dom st) : slot k st = none ↔ aget k st.1 = none := by
  have := hd.same k
  unfold slot
  cases h1 : aget k st.1 <;> cases h2 : aget k st.2 <;> simp_all

theorem slot_fst (k : Key) (st : St) (hd : Dom st) : (slot k st).map (·.1) = aget k st.1 := by
  have := hd.same k
  unfold slot
  cases h1 : aget k st.1 <;> cases h2 : aget k st.2 <;> simp_all

/-- what one sighting (container index `i`, virtual flag `v` of the node seen) does to the entry of
its key: l. 274–280 of `_children` -/
def stepSlot (s : Option (Int × Bool)) (i : Int) (v : Bool) : Option (Int × Bool) :=
  match s with
  | none => some (i, v)
  | some (j, true) => some (min j i, v)
  | some (j, false) => some (j, false)

/-- what container `f` (index `i`) does to the entry of the child at `q`: one sighting if it has it -/
def sight (f : Cont V) (q : Path) (i : Int) (s : Option (Int × Bool)) : Option (Int × Bool) :=
  match aget q f with
  | none => s
  | some n => stepSlot s i n.kind.isVirtual

/-- the whole loop `for i in reversed(range(c, len(files)))` on the entry of the child at `q`,
as a recursion over the record (newest first) -/
def runSlot (q : Path) (c : Int) : Rec V → Option (Int × Bool) → Option (Int × Bool)
  | [], s => s
  | p :: rest, s => if (rest.length : Int) < c then s else runSlot q c rest (sight p q rest.length s)

def enc (x : Nat × RNode V) : Int × Bool := ((x.1 : Int), x.2.kind.isVirtual)

theorem runSlot_false (q : Path) (c : Int) (r : Rec V) (j : Int) :
    runSlot q c r (some (j, false)) = some (j, false) := by
  induction r with
  | nil => rfl
  | cons p rest ih =>
    simp only [runSlot]
    split
    · rfl
    · unfold sight; cases aget q p <;> simp [stepSlot, ih]

/-- an entry that is absent or still virtual is waiting for the model's `scan` of the rest -/
theorem runSlot_pending (q : Path) (c : Nat) (r : Rec V) (s : Option (Int × Bool))
    (hs : ∀ j b, s = some (j, b) → b = true ∧ (r.length : Int) ≤ j) :
    runSlot q (c : Int) r s = ((scan q c r).map enc).or s := by
  induction r generalizing s with
  | nil => cases s <;> rfl
  | cons p rest ih =>
    rw [runSlot, scan]
    by_cases hc : rest.length < c
    · rw [if_pos (Int.ofNat_lt.2 hc), if_pos hc]; cases s <;> rfl
    · rw [if_neg (mt Int.ofNat_lt.1 hc), if_neg hc, sight]
      cases aget q p with
      | none => exact ih s fun j b h => ⟨(hs j b h).1, by have := (hs j b h).2; rw [List.length_cons] at this; omega⟩
      | some n =>
        have hstep : stepSlot s rest.length n.kind.isVirtual = some ((rest.length : Int), n.kind.isVirtual) := by
          rcases s with _ | ⟨j, b⟩
          · rfl
          · obtain ⟨rfl, hj⟩ := hs j b rfl
            rw [List.length_cons] at hj
            rw [stepSlot, Int.min_eq_right (by omega)]
        dsimp only
        rw [hstep]
        cases hv : n.kind.isVirtual with
        | true =>
          rw [ih _ fun j b h => by cases h; exact ⟨rfl, Int.le_refl _⟩, if_pos rfl]
          cases scan q c rest <;> simp [enc, hv]
        | false =>
          rw [runSlot_false, if_neg Bool.false_ne_true]
          simp [enc, hv]

/-- **the fold of `_children` on one key is the model's `scan`** -/
theorem runSlot_none (q : Path) (c : Nat) (r : Rec V) :
    runSlot q (c : Int) r none = (scan q c r).map enc := by
  rw [runSlot_pending q c r none nofun, Option.or_none]

theorem Dom.set_both (k : Key) (j : Int) (b : Bool) (ch : List (Key × Int)) (iv : List (Key × Bool))
    (hd : Dom ((ch, iv) : St)) :
    Dom ((aput k j ch, aput k b iv) : St) ∧ slot k ((aput k j ch, aput k b iv) : St) = some (j, b) ∧
      ∀ k', k' ≠ k → slot k' ((aput k j ch, aput k b iv) : St) = slot k' ((ch, iv) : St) := by
  refine ⟨⟨nodup_keys_aput _ _ _ hd.nodup, fun k' => ?_⟩, ?_, fun k' hk' => ?_⟩
  · have := hd.same k'
    simp only [aget_aput]
    split_ifs <;> simp_all
  · simp [slot, aget_aput]
  · simp [slot, aget_aput, hk']

/-! ## lifting a per-iteration specification of a loop body to the loop -/

/-- inner loop `for k in obj.keys()`: each key is visited once and only its own entry changes -/
theorem pyFor_keys (body : St → Key → Except PyErr St) (upd : Key → Option (Int × Bool) → Option (Int × Bool))
    (ks : List Key) (hnd : ks.Nodup)
    (hbody : ∀ st k, k ∈ ks → Dom st → ∃ st', body st k = .ok st' ∧ Dom st' ∧
      slot k st' = upd k (slot k st) ∧ ∀ k', k' ≠ k → slot k' st' = slot k' st)
    (st : St) (hd : Dom st) :
    ∃ st', pyFor ks st body = .ok st' ∧ Dom st' ∧
      ∀ k, slot k st' = if k ∈ ks then upd k (slot k st) else slot k st := by
  induction ks generalizing st with
  | nil => exact ⟨st, rfl, hd, by simp⟩
  | cons x xs ih =>
    obtain ⟨st1, h1, hd1, hx, hother⟩ := hbody st x List.mem_cons_self hd
    simp only [List.nodup_cons] at hnd
    obtain ⟨st2, h2, hd2, hk⟩ := ih hnd.2 (fun st k hk => hbody st k (List.mem_cons_of_mem _ hk)) st1 hd1
    refine ⟨st2, by simp [pyFor, h1, h2], hd2, ?_⟩
    intro k
    rw [hk k]
    by_cases hkx : k = x
    · subst hkx
      simp [hnd.1, hx]
    · have : ¬ x = k := fun h => hkx h.symm
      simp only [List.mem_cons, hkx, false_or]
      rw [hother k hkx]

/-- outer loop `for i in reversed(range(c, len(files)))`, `files = r.reverse`: per key it is `runSlot` -/
theorem pyFor_range (body : St → Int → Except PyErr St) (g : Path) (c : Nat) (r : Rec V)
    (hbody : ∀ st (i : Nat) f, r.reverse[i]? = some f → c ≤ i → Dom st → ∃ st', body st (i : Int) = .ok st' ∧ Dom st' ∧
      ∀ k, slot k st' = sight f (g ++ [k]) i (slot k st))
    (st : St) (hd : Dom st) :
    ∃ st', pyFor (pyReversed (pyRange (c : Int) (r.length : Int))) st body = .ok st' ∧ Dom st' ∧
      ∀ k, slot k st' = runSlot (g ++ [k]) (c : Int) r (slot k st) := by
  induction r generalizing st with
  | nil => rw [List.length_nil, pyRange_empty _ _ (Int.ofNat_le.2 (Nat.zero_le c))]; exact ⟨st, rfl, hd, fun _ => rfl⟩
  | cons p rest ih =>
    by_cases hc : c ≤ rest.length
    · rw [List.length_cons, pyReversed_pyRange_succ _ _ hc]
      obtain ⟨st1, h1, hd1, hs1⟩ := hbody st rest.length p (by rw [reverse_getElem?_cons, if_pos rfl]) hc hd
      obtain ⟨st2, h2, hd2, hs2⟩ := ih (fun st i f hf => hbody st i f (by
        have hi := (List.getElem?_eq_some_iff.1 hf).1
        rw [List.length_reverse] at hi
        rw [reverse_getElem?_cons, if_neg (Nat.ne_of_lt hi)]; exact hf)) st1 hd1
      refine ⟨st2, by rw [pyFor, h1]; exact h2, hd2, fun k => ?_⟩
      rw [hs2 k, hs1 k, runSlot, if_neg (by omega)]
    · rw [pyRange_empty _ _ (by rw [List.length_cons]; omega)]
      exact ⟨st, rfl, hd, fun k => by rw [runSlot, if_pos (by omega)]⟩

end MetadorModel.OverlayPy
