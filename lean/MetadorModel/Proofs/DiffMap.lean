import MetadorModel.Model.Diff
import Mathlib.Data.String.Basic
/-! Key-sorted association lists (`MetadorModel.AL`): lookup after insert / erase,
preservation of sortedness, extensionality. Used by the C18 and C14 proofs. -/
namespace MetadorModel.AL
variable {V : Type}

@[simp] theorem get_nil (n : String) : get ([] : List (String × V)) n = none := rfl

theorem get_cons (k : String) (v : V) (r : List (String × V)) (n : String) :
    get ((k, v) :: r) n = if k = n then some v else get r n := rfl

@[simp] theorem sorted_nil : sorted ([] : List (String × V)) = true := rfl

theorem sorted_cons (k : String) (v : V) (r : List (String × V)) :
    sorted ((k, v) :: r) = true ↔ above k r = true ∧ sorted r = true := by
  simp [sorted]

theorem above_cons (n k : String) (v : V) (r : List (String × V)) :
    above n ((k, v) :: r) = true ↔ n < k ∧ above n r = true := by
  simp [above]

theorem above_iff {n : String} {l : List (String × V)} : above n l = true ↔ ∀ e ∈ l, n < e.1 := by
  induction l with
  | nil => simp [above]
  | cons a r ih => rw [above_cons, ih, List.forall_mem_cons]

theorem mem_of_get {l : List (String × V)} {k : String} {v : V} (h : get l k = some v) : (k, v) ∈ l := by
  induction l with
  | nil => cases h
  | cons a r ih =>
    rw [get_cons] at h
    split_ifs at h with hk
    · cases h; subst hk; exact List.mem_cons_self
    · exact List.mem_cons_of_mem _ (ih h)

theorem get_none_of_above {n m : String} {l : List (String × V)} (h : above m l = true)
    (hnm : n ≤ m) : get l n = none :=
  Option.eq_none_iff_forall_ne_some.mpr fun _ hv => absurd (above_iff.mp h _ (mem_of_get hv)) (not_lt.mpr hnm)

theorem sorted_iff {l : List (String × V)} : sorted l = true ↔ l.Pairwise (fun a b => a.1 < b.1) := by
  induction l with
  | nil => simp
  | cons a r ih => rw [sorted_cons, above_iff, ih, List.pairwise_cons]

theorem mem_iff_get {l : List (String × V)} (h : sorted l = true) (k : String) (v : V) :
    (k, v) ∈ l ↔ get l k = some v := by
  refine ⟨fun hm => ?_, mem_of_get⟩
  induction l with
  | nil => cases hm
  | cons a r ih =>
    have hs := (sorted_cons a.1 a.2 r).mp h
    rw [get_cons]
    rcases List.mem_cons.mp hm with e | e
    · rw [← e, if_pos rfl]
    · have hk := above_iff.mp hs.1 _ e
      rw [if_neg (ne_of_lt hk), ih hs.2 e]

/-- the two have the same members, in ascending order -/
theorem ext {l1 l2 : List (String × V)} (h1 : sorted l1 = true) (h2 : sorted l2 = true)
    (h : ∀ n, get l1 n = get l2 n) : l1 = l2 := by
  have p1 := sorted_iff.mp h1
  have p2 := sorted_iff.mp h2
  refine List.Perm.eq_of_pairwise (fun a b _ _ hab hba => absurd hab (lt_asymm hba)) p1 p2 ?_
  refine (List.perm_ext_iff_of_nodup (p1.imp fun h e => ?_) (p2.imp fun h e => ?_)).mpr fun a => ?_
  · rw [e] at h; exact lt_irrefl _ h
  · rw [e] at h; exact lt_irrefl _ h
  · rw [mem_iff_get h1, mem_iff_get h2, h]

theorem ins_lt {n k : String} (h : n < k) (x v : V) (r : List (String × V)) :
    ins n x ((k, v) :: r) = (n, x) :: (k, v) :: r := by
  rw [ins, if_pos h]

theorem ins_eq (k : String) (x v : V) (r : List (String × V)) : ins k x ((k, v) :: r) = (k, x) :: r := by
  rw [ins, if_neg (lt_irrefl k), if_pos rfl]

theorem ins_gt {n k : String} (h : k < n) (x v : V) (r : List (String × V)) :
    ins n x ((k, v) :: r) = (k, v) :: ins n x r := by
  rw [ins, if_neg (lt_asymm h), if_neg (ne_of_gt h)]

theorem get_ins_self (n : String) (x : V) (l : List (String × V)) : get (ins n x l) n = some x := by
  induction l with
  | nil => rw [ins, get_cons, if_pos rfl]
  | cons a r ih =>
    obtain ⟨k, v⟩ := a
    rcases lt_trichotomy n k with h | rfl | h
    · rw [ins_lt h, get_cons, if_pos rfl]
    · rw [ins_eq, get_cons, if_pos rfl]
    · rw [ins_gt h, get_cons, if_neg (ne_of_lt h), ih]

theorem get_ins_ne {n m : String} (h : m ≠ n) (x : V) (l : List (String × V)) :
    get (ins n x l) m = get l m := by
  induction l with
  | nil => rw [ins, get_cons, if_neg (Ne.symm h)]
  | cons a r ih =>
    obtain ⟨k, v⟩ := a
    rcases lt_trichotomy n k with h1 | rfl | h1
    · rw [ins_lt h1, get_cons, if_neg (Ne.symm h)]
    · rw [ins_eq, get_cons, get_cons, if_neg (Ne.symm h), if_neg (Ne.symm h)]
    · rw [ins_gt h1, get_cons, get_cons, ih]

theorem get_ins (n m : String) (x : V) (l : List (String × V)) :
    get (ins n x l) m = if m = n then some x else get l m := by
  split_ifs with h
  · subst h; exact get_ins_self _ _ _
  · exact get_ins_ne h _ _

theorem mem_ins {n : String} {x : V} {l : List (String × V)} {e : String × V} (h : e ∈ ins n x l) :
    e = (n, x) ∨ e ∈ l := by
  induction l with
  | nil => exact Or.inl (List.mem_singleton.mp h)
  | cons a r ih =>
    obtain ⟨k, v⟩ := a
    rcases lt_trichotomy n k with h1 | rfl | h1
    · rw [ins_lt h1] at h; exact List.mem_cons.mp h
    · rw [ins_eq] at h; exact (List.mem_cons.mp h).imp_right (List.mem_cons_of_mem _)
    · rw [ins_gt h1] at h
      rcases List.mem_cons.mp h with h | h
      · exact Or.inr (h ▸ List.mem_cons_self)
      · exact (ih h).imp_right (List.mem_cons_of_mem _)

theorem above_ins {n m : String} {l : List (String × V)} (x : V) (h : above m l = true) (hmn : m < n) :
    above m (ins n x l) = true :=
  above_iff.mpr fun e he => (mem_ins he).elim (fun h' => h' ▸ hmn) (above_iff.mp h e)

theorem sorted_ins (n : String) (x : V) {l : List (String × V)} (h : sorted l = true) :
    sorted (ins n x l) = true := by
  induction l with
  | nil => rfl
  | cons a r ih =>
    obtain ⟨k, v⟩ := a
    have h' := (sorted_cons k v r).mp h
    rcases lt_trichotomy n k with h1 | rfl | h1
    · rw [ins_lt h1, sorted_cons, above_cons]
      exact ⟨⟨h1, above_iff.mpr fun e he => lt_trans h1 (above_iff.mp h'.1 e he)⟩, h⟩
    · rw [ins_eq, sorted_cons]; exact h'
    · rw [ins_gt h1, sorted_cons]
      exact ⟨above_ins x h'.1 h1, ih h'.2⟩

theorem get_erase_ne {n m : String} (h : m ≠ n) (l : List (String × V)) :
    get (erase n l) m = get l m := by
  induction l with
  | nil => rfl
  | cons a r ih =>
    obtain ⟨k, v⟩ := a
    simp only [erase]
    split_ifs with h1
    · subst h1; rw [get_cons, if_neg (Ne.symm h)]
    · rw [get_cons, get_cons, ih]

theorem erase_sublist (n : String) (l : List (String × V)) : (erase n l).Sublist l := by
  induction l with
  | nil => exact List.Sublist.refl _
  | cons a r ih =>
    rw [erase]
    split_ifs
    · exact List.sublist_cons_self a r
    · exact ih.cons_cons a

theorem sorted_erase (n : String) {l : List (String × V)} (h : sorted l = true) :
    sorted (erase n l) = true :=
  sorted_iff.mpr ((sorted_iff.mp h).sublist (erase_sublist n l))

theorem get_erase_self (n : String) {l : List (String × V)} (h : sorted l = true) :
    get (erase n l) n = none := by
  induction l with
  | nil => rfl
  | cons a r ih =>
    obtain ⟨k, v⟩ := a
    rw [sorted_cons] at h
    simp only [erase]
    split_ifs with h1
    · subst h1; exact get_none_of_above h.1 le_rfl
    · rw [get_cons, if_neg h1]; exact ih h.2

theorem get_erase (n m : String) {l : List (String × V)} (h : sorted l = true) :
    get (erase n l) m = if m = n then none else get l m := by
  split_ifs with h1
  · subst h1; exact get_erase_self _ h
  · exact get_erase_ne h1 _

/-- set (`some`) or delete (`none`) the entry at a key -/
def put (k : String) : Option V → List (String × V) → List (String × V)
  | none, l => erase k l
  | some v, l => ins k v l

theorem sorted_put (k : String) (o : Option V) {l : List (String × V)} (h : sorted l = true) :
    sorted (put k o l) = true := by
  cases o
  · exact sorted_erase k h
  · exact sorted_ins k _ h

theorem get_put (k n : String) (o : Option V) {l : List (String × V)} (h : sorted l = true) :
    get (put k o l) n = if n = k then o else get l n := by
  cases o
  · exact get_erase k n h
  · exact get_ins k n _ l

theorem put_put (k : String) (a b : Option V) {l : List (String × V)} (h : sorted l = true) :
    put k a (put k b l) = put k a l := by
  refine ext (sorted_put k a (sorted_put k b h)) (sorted_put k a h) fun n => ?_
  rw [get_put _ _ _ (sorted_put k b h), get_put _ _ _ h, get_put _ _ _ h]
  split_ifs <;> rfl

theorem put_of_get {k : String} {o : Option V} {l : List (String × V)} (h : sorted l = true)
    (hg : get l k = o) : put k o l = l := by
  refine ext (sorted_put k o h) h fun n => ?_
  rw [get_put _ _ _ h]
  split_ifs with h1
  · rw [h1, hg]
  · rfl

theorem ins_ins (n : String) (x y : V) {l : List (String × V)} (h : sorted l = true) :
    ins n y (ins n x l) = ins n y l :=
  put_put n (some y) (some x) h

theorem ins_erase (n : String) (x : V) {l : List (String × V)} (h : sorted l = true) :
    ins n x (erase n l) = ins n x l :=
  put_put n (some x) none h

theorem erase_ins (n : String) (x : V) {l : List (String × V)} (h : sorted l = true) :
    erase n (ins n x l) = erase n l :=
  put_put n none (some x) h

theorem ins_of_get {n : String} {x : V} {l : List (String × V)} (h : sorted l = true)
    (hg : get l n = some x) : ins n x l = l :=
  put_of_get h hg

theorem erase_of_get_none {n : String} {l : List (String × V)} (h : sorted l = true)
    (hg : get l n = none) : erase n l = l :=
  put_of_get h hg

theorem get_tail_head {k : String} {v : V} {r : List (String × V)} (h : sorted ((k, v) :: r) = true) :
    get r k = none :=
  get_none_of_above ((sorted_cons _ _ _).mp h).1 le_rfl

theorem sorted_tail {k : String} {v : V} {r : List (String × V)} (h : sorted ((k, v) :: r) = true) :
    sorted r = true :=
  ((sorted_cons _ _ _).mp h).2

theorem keys_pairwise {l : List (String × V)} (h : sorted l = true) : (l.map Prod.fst).Pairwise (· < ·) :=
  List.pairwise_map.mpr (sorted_iff.mp h)

theorem keys_nodup {l : List (String × V)} (h : sorted l = true) : (l.map Prod.fst).Nodup :=
  (keys_pairwise h).imp ne_of_lt

theorem mem_keys (l : List (String × V)) (k : String) :
    k ∈ l.map Prod.fst ↔ (get l k).isSome = true := by
  induction l with
  | nil => simp
  | cons a r ih =>
    rw [List.map_cons, List.mem_cons, ih, get_cons]
    by_cases h : a.1 = k
    · simp [h]
    · simp [h, Ne.symm h]

theorem filterMap_sel {α : Type} {l : List (String × V)} (hs : sorted l = true) (P : String → Bool)
    (f : String → Option V → Option α) :
    l.filterMap (fun e => if P e.1 then f e.1 (some e.2) else none) =
      ((l.map Prod.fst).filter P).filterMap (fun k => f k (get l k)) := by
  rw [List.filterMap_filter, List.filterMap_map]
  apply List.filterMap_congr
  intro e he
  simp only [Function.comp, (mem_iff_get hs e.1 e.2).mp he]

end MetadorModel.AL
