import MetadorModel.Proofs.RecordKw
/-! Case characterisations of the API calls of the record model: every call either is refused
without touching anything (`Failed`), or succeeds with an explicitly given result. Each proof
names the result `r`, unfolds the call once in the equation `call = r` and follows the branches
of the code. -/
namespace MetadorModel.Record
open MetadorModel.FindFiles

/-- a refused call: an exception, nothing on disk or in the handle changed -/
def Failed (s : State) (r : Res) : Prop :=
  r.out ≠ .ok ∧ r.st.disk = s.disk ∧ r.st.h = s.h ∧ r.created = [] ∧ r.removed = [] ∧ r.written = []

theorem failed_fail {s s' : State} {e : Out} (hd : s'.disk = s.disk) (hh : s'.h = s.h) (he : e ≠ .ok) :
    Failed s (fail s' e) := ⟨he, hd, hh, rfl, rfl, rfl⟩

theorem Failed.W {s : State} {r : Res} (h : Failed s r) : r.W = [] := by
  simp [Res.W, h.2.2.2.1, h.2.2.2.2.1, h.2.2.2.2.2]

/-- how the calls fail: refused, and the uuid counter did not go back (a refused call may have
drawn uuids) -/
def Refused (s : State) (r : Res) : Prop := Failed s r ∧ s.next ≤ r.st.next

theorem refused {s s' : State} {e : Out} (hd : s'.disk = s.disk) (hh : s'.h = s.h) (hn : s.next ≤ s'.next)
    (he : e ≠ .ok) : Refused s (fail s' e) := ⟨failed_fail hd hh he, hn⟩

theorem ite_cases {α : Type} {b : Bool} {x y r : α} (h : (if b = true then x else y) = r) :
    b = true ∧ x = r ∨ b = false ∧ y = r := by
  cases b
  · exact .inr ⟨rfl, h⟩
  · exact .inl ⟨rfl, h⟩

/-- a guard that refuses the call without touching anything: the code goes on in the other branch -/
theorem guard {s : State} {b : Bool} {e : Out} {y r : Res} {P : Prop} (he : e ≠ .ok)
    (h : (if b = true then fail s e else y) = r) (k : b = false → y = r → Refused s r ∨ P) : Refused s r ∨ P := by
  rcases ite_cases h with ⟨_, rfl⟩ | ⟨hb, h⟩
  · exact .inl (refused rfl rfl (Nat.le_refl _) he)
  · exact k hb h

/-- a call that passes on the outcome of an inner call `r` unless that succeeded -/
theorem refused_of_out {s s' : State} {r : Res} (ho : r.out ≠ .ok) (hd : s'.disk = s.disk) (hh : s'.h = s.h)
    (hn : s.next ≤ s'.next) (k : Res) : Refused s (match r.out with | .ok => k | e => fail s' e) := by
  split
  · contradiction
  · exact refused hd hh hn ho

theorem newContainer_cases (d : Disk) (o : List Name) (path : Name) (ub : UB) :
    (∃ e, e ≠ .ok ∧ newContainer d o path ub = .error e) ∨
    (o.contains path = false ∧ getF d path = none ∧
      newContainer d o path ub = .ok (setF d path (.cont ub []))) := by
  unfold newContainer
  split
  · exact .inl ⟨_, by decide, rfl⟩
  split
  · exact .inl ⟨_, by decide, rfl⟩
  · next h1 h2 => exact .inr ⟨by simpa using h1, by simpa using h2, rfl⟩

theorem newContainer_of_fresh {d : Disk} {o : List Name} {path : Name} (ub : UB)
    (h1 : o.contains path = false) (h2 : getF d path = none) :
    newContainer d o path ub = .ok (setF d path (.cont ub [])) := by
  have h1' : path ∉ o := by simpa using h1
  simp [newContainer, h1', h2]

/-- the handle `_create` returns -/
def freshHandle (c : Bool) (n : Name) (k : Nat) : Handle :=
  { files := [(baseFile n, newBaseUB k)], lastRW := true, allow := true, closed := false,
    mfcls := c, manifest := none }

theorem hasWritable_freshHandle (c : Bool) (n : Name) (k : Nat) : hasWritable (freshHandle c n k) = true := rfl

theorem createRec_spec (s : State) (c : Bool) (n : Name) (t : Bool) (o : List Name) :
    (isValidName n = false ∧ createRec s c n t o = fail s .valueError) ∨
    (isValidName n = true ∧ ∃ e, e ≠ .ok ∧
        newContainer (eraseAll s.disk (goneFiles s.disk n t)) o (baseFile n) (newBaseUB s.next) = .error e ∧
        createRec s c n t o =
          { st := { s with disk := eraseAll s.disk (goneFiles s.disk n t) }, out := e,
            removed := goneFiles s.disk n t }) ∨
    (isValidName n = true ∧ o.contains (baseFile n) = false ∧
        getF (eraseAll s.disk (goneFiles s.disk n t)) (baseFile n) = none ∧
        createRec s c n t o =
          { st := { disk := setF (eraseAll s.disk (goneFiles s.disk n t)) (baseFile n) (.cont (newBaseUB s.next) []),
                    next := s.next + 2, h := freshHandle c n s.next },
            out := .ok, created := [baseFile n], removed := goneFiles s.disk n t }) := by
  unfold createRec
  by_cases hv : isValidName n
  · simp only [hv, Bool.not_true, Bool.false_eq_true, if_false]
    rcases newContainer_cases (eraseAll s.disk (goneFiles s.disk n t)) o (baseFile n) (newBaseUB s.next)
      with ⟨e, he, h⟩ | ⟨h1, h2, h⟩ <;> rw [h]
    · exact .inr (.inl ⟨trivial, e, he, rfl, rfl⟩)
    · exact .inr (.inr ⟨trivial, h1, h2, rfl⟩)
  · exact .inl (by simp [hv])

theorem createRec_notrunc (s : State) (c : Bool) (n : Name) (o : List Name) :
    Refused s (createRec s c n false o) ∨
    (isValidName n = true ∧ o.contains (baseFile n) = false ∧ getF s.disk (baseFile n) = none ∧
        createRec s c n false o =
          { st := { disk := setF s.disk (baseFile n) (.cont (newBaseUB s.next) []),
                    next := s.next + 2, h := freshHandle c n s.next },
            out := .ok, created := [baseFile n] }) := by
  have hg : goneFiles s.disk n false = [] := rfl
  rcases createRec_spec s c n false o with ⟨_, h⟩ | ⟨_, e, he, _, h⟩ | ⟨hv, h1, h2, h⟩ <;> rw [h]
  · exact .inl (refused rfl rfl (Nat.le_refl _) (by decide))
  · exact .inl ⟨⟨he, rfl, rfl, rfl, rfl, rfl⟩, Nat.le_refl _⟩
  · exact .inr ⟨hv, h1, h2, rfl⟩

theorem createPatch_spec (s : State) :
    Refused s (createPatch s) ∨
    ∃ f0 u0 rest fl ul,
      s.h.files = (f0, u0) :: rest ∧ lastFile s.h.files = some (fl, ul) ∧
      s.h.closed = false ∧ s.h.allow = true ∧ hasWritable s.h = false ∧
      getF s.disk (patchFile (inferName f0) (ul.idx + 1)) = none ∧
      createPatch s =
        { st := { disk := setF s.disk (patchFile (inferName f0) (ul.idx + 1)) (.cont (newPatchUB ul s.next) []),
                  next := s.next + 1,
                  h := { s.h with files := s.h.files ++ [(patchFile (inferName f0) (ul.idx + 1), newPatchUB ul s.next)],
                                  lastRW := true } },
          out := .ok, created := [patchFile (inferName f0) (ul.idx + 1)] } := by
  generalize hr : createPatch s = r
  unfold createPatch at hr
  dsimp only at hr
  refine guard (by decide) hr fun hc hr => ?_
  refine guard (by decide) hr fun ha hr => ?_
  refine guard (by decide) hr fun hw hr => ?_
  split at hr
  · next _ _ f0 u0 rest fl ul hf hl =>
    rcases newContainer_cases s.disk (fileNames s.h) (patchFile (inferName f0) (ul.idx + 1))
      (newPatchUB ul s.next) with ⟨e, he, h⟩ | ⟨_, hfree, h⟩ <;> rw [h] at hr
    · exact .inl (hr ▸ refused rfl rfl (Nat.le_succ _) he)
    · exact .inr ⟨f0, u0, rest, fl, ul, hf, hl, hc, by simpa using ha, hw, hfree, hr.symm⟩
  · exact .inl (hr ▸ refused rfl rfl (Nat.le_refl _) (by decide))

theorem createPatch_next (s : State) : s.next ≤ (createPatch s).st.next := by
  rcases createPatch_spec s with hf | ⟨_, _, _, _, _, _, _, _, _, _, _, h⟩
  · exact hf.2
  · rw [h]; exact Nat.le_succ _

theorem commitPlain_spec (s : State) :
    Refused s (commitPlain s) ∨
    ∃ f ub p, lastFile s.h.files = some (f, ub) ∧ s.h.closed = false ∧ s.h.allow = true ∧
      hasWritable s.h = true ∧ payloadOf s.disk f = some p ∧
      commitPlain s =
        { st := { s with disk := setF s.disk f (.cont { ub with hash := some p } p),
                         h := { s.h with files := setLastUB s.h.files { ub with hash := some p },
                                         lastRW := false } },
          out := .ok, written := [f] } := by
  generalize hr : commitPlain s = r
  unfold commitPlain at hr
  dsimp only at hr
  refine guard (by decide) hr fun hc hr => ?_
  refine guard (by decide) hr fun ha hr => ?_
  refine guard (by decide) hr fun hw hr => ?_
  split at hr
  · exact .inl (hr ▸ refused rfl rfl (Nat.le_refl _) (by decide))
  split at hr
  · exact .inl (hr ▸ refused rfl rfl (Nat.le_refl _) (by decide))
  · next _ f ub hl _ p hp =>
    exact .inr ⟨f, ub, p, hl, hc, by simpa using ha, by simpa using hw, hp, hr.symm⟩

/-- the user block `IH5MFRecord.commit_patch` writes -/
def mfCommitUB (ub : UB) (k : Nat) (p : List Nat) : UB :=
  { ub with ext := some (k, k + 1), hash := some p }

theorem commitMF_spec (s : State) :
    Refused s (commitMF s) ∨
    ∃ f ub p, lastFile s.h.files = some (f, ub) ∧ s.h.closed = false ∧ s.h.allow = true ∧
      hasWritable s.h = true ∧ payloadOf s.disk f = some p ∧
      (commitMF s).out = .ok ∧
      (commitMF s).st.disk =
        setF (setF s.disk f (.cont (mfCommitUB ub s.next p) p)) (manifestFile f) (.mf s.next (s.next + 1)) ∧
      (commitMF s).st.h =
        { s.h with files := setLastUB s.h.files (mfCommitUB ub s.next p), lastRW := false,
                   manifest := some (s.next, s.next + 1) } ∧
      (commitMF s).st.next = s.next + 2 ∧ (commitMF s).removed = [] ∧
      (∀ g, g ∈ (commitMF s).W ↔ g = f ∨ g = manifestFile f) := by
  generalize hr : commitMF s = r
  unfold commitMF at hr
  dsimp only at hr
  split at hr
  · exact .inl (hr ▸ refused rfl rfl (Nat.le_refl _) (by decide))
  next f ub hl =>
  rcases commitPlain_spec (mfPrep s { ub with ext := some (s.next, s.next + 1) })
    with hf | ⟨f', ub', p, h1, h2, h3, h4, h5, h6⟩
  · exact .inl (hr ▸ refused_of_out (s := s) (s' := { s with next := s.next + 2 }) hf.1.1 rfl rfl
      (Nat.le_add_right _ _) _)
  · rw [show (mfPrep s _).h.files = setLastUB s.h.files _ from rfl, lastFile_setLastUB _ _ _ _ hl] at h1
    cases h1
    rw [h6] at hr
    subst hr
    refine .inr ⟨f, ub, p, hl, h2, h3, hasWritable_setLastUB s.h _ ▸ h4, h5, rfl, rfl, ?_, rfl, rfl, ?_⟩
    · simp only [mfPrep, setLastUB_setLastUB]; rfl
    · intro g
      dsimp only [Res.W]
      split <;> simp [or_comm]

theorem discardPatch_spec (s : State) :
    Refused s (discardPatch s) ∨
    ∃ f ub, lastFile s.h.files = some (f, ub) ∧ s.h.closed = false ∧ s.h.allow = true ∧
      hasWritable s.h = true ∧ s.h.files.length ≠ 1 ∧
      discardPatch s =
        { st := { s with disk := eraseF s.disk f,
                         h := { s.h with files := dropLastF s.h.files, lastRW := false } },
          out := .ok, removed := [f] } := by
  generalize hr : discardPatch s = r
  unfold discardPatch at hr
  dsimp only at hr
  refine guard (by decide) hr fun hc hr => ?_
  refine guard (by decide) hr fun ha hr => ?_
  refine guard (by decide) hr fun hw hr => ?_
  refine guard (by decide) hr fun hn hr => ?_
  split at hr
  · exact .inl (hr ▸ refused rfl rfl (Nat.le_refl _) (by decide))
  · next _ f ub hl =>
    exact .inr ⟨f, ub, hl, hc, by simpa using ha, by simpa using hw, by simpa using hn, hr.symm⟩

theorem write_spec (s : State) (k : Nat) :
    Refused s (write s k) ∨
    ∃ f u, lastFile s.h.files = some (f, u) ∧ hasWritable s.h = true ∧ s.h.closed = false ∧
      ((∃ ub p, getF s.disk f = some (.cont ub p) ∧
          write s k = { st := { s with disk := setF s.disk f (.cont ub (p ++ [k])) }, out := .ok, written := [f] }) ∨
       ((∀ ub p, getF s.disk f ≠ some (.cont ub p)) ∧ write s k = { st := s, out := .ok })) := by
  generalize hr : write s k = r
  unfold write at hr
  dsimp only at hr
  refine guard (by decide) hr fun hc hr => ?_
  refine guard (by decide) hr fun hw hr => ?_
  split at hr
  · exact .inl (hr ▸ refused rfl rfl (Nat.le_refl _) (by decide))
  next _ f u hl =>
  refine .inr ⟨f, u, hl, by simpa using hw, (Bool.or_eq_false_iff.mp hc).1, ?_⟩
  split at hr
  · next ub p hg => exact .inl ⟨ub, p, hg, hr.symm⟩
  · next hg => exact .inr ⟨fun ub p h => hg ub p h, hr.symm⟩

/-- the handle after `close()` -/
def closedHandle (h : Handle) : Handle := { h with files := [], lastRW := false, closed := true }

theorem close_spec (s : State) (c : Bool) :
    (s.h.closed = true ∧ close s c = { st := s, out := .ok }) ∨
    (s.h.closed = false ∧ hasWritable s.h = true ∧ c = true ∧ (commitPatch s).out ≠ .ok ∧
        close s c = commitPatch s) ∨
    (s.h.closed = false ∧ hasWritable s.h = true ∧ c = true ∧ (commitPatch s).out = .ok ∧
        close s c = { commitPatch s with
                      st := { (commitPatch s).st with h := closedHandle (commitPatch s).st.h } }) ∨
    (s.h.closed = false ∧ (hasWritable s.h && c) = false ∧
        close s c =
          { st := { s with h := closedHandle s.h }, out := .ok,
            written := if hasWritable s.h then
                         (match lastFile s.h.files with | some (f, _) => [f] | none => []) else [] }) := by
  unfold close
  dsimp only
  split
  · next hc => exact .inl ⟨hc, rfl⟩
  next hc =>
  have hc : s.h.closed = false := by simpa using hc
  split
  · next hw =>
    rw [Bool.and_eq_true] at hw
    split
    · next ho => exact .inr (.inr (.inl ⟨hc, hw.1, hw.2, ho, rfl⟩))
    · next ho => exact .inr (.inl ⟨hc, hw.1, hw.2, fun h => ho h, rfl⟩)
  · next hw => exact .inr (.inr (.inr ⟨hc, by simpa using hw, rfl⟩))

theorem loadAll_ok : ∀ (d : Disk) (paths : List Name) (l : List (Name × UB)),
    loadAll d paths = .ok l →
    l.map Prod.fst = paths ∧ ∀ f ub, (f, ub) ∈ l → ∃ p, getF d f = some (.cont ub p)
  | d, [], l, h => by
    cases h; exact ⟨rfl, fun _ _ hm => nomatch hm⟩
  | d, f :: r, l, h => by
    unfold loadAll at h
    split at h
    · cases h
    · cases h
    next ub p hg =>
    split at h
    · cases h
    next l' hr =>
    cases h
    obtain ⟨h1, h2⟩ := loadAll_ok d r l' hr
    refine ⟨by rw [List.map_cons, h1], fun g ug hm => ?_⟩
    rcases List.mem_cons.mp hm with hm | hm
    · cases hm; exact ⟨p, hg⟩
    · exact h2 g ug hm

theorem loadAll_error : ∀ (d : Disk) (paths : List Name) (e : Out), loadAll d paths = .error e → e ≠ .ok
  | d, [], e, h => nomatch h
  | d, f :: r, e, h => by
    unfold loadAll at h
    split at h
    · cases h; decide
    · cases h; decide
    split at h
    · next e' hr => cases h; exact loadAll_error d r e hr
    · cases h

theorem insertByIdx_perm (x : Name × UB) : ∀ l, (insertByIdx x l).Perm (x :: l)
  | [] => .refl _
  | y :: r => by
    unfold insertByIdx
    split
    · exact .refl _
    · exact ((insertByIdx_perm x r).cons y).trans (.swap x y r)

theorem sortByIdx_perm : ∀ l, (sortByIdx l).Perm l
  | [] => .refl _
  | x :: r => (insertByIdx_perm x _).trans ((sortByIdx_perm r).cons x)

theorem openFilesK_cases (d : Disk) (paths : List Name) (rw bl : Bool) :
    (∃ e, e ≠ .ok ∧ openFilesK d paths rw bl = .error e) ∨
    ∃ ubs f0 u0 rest fl ul, paths ≠ [] ∧ loadAll d paths = .ok ubs ∧ sortByIdx ubs = (f0, u0) :: rest ∧
      (bl = false → u0.prev = none) ∧ checkUB d u0.rid f0 u0 none (!rest.isEmpty) = true ∧
      checkChain d u0.rid u0 rest = true ∧ distinctPids ((f0, u0) :: rest) = true ∧
      lastFile ((f0, u0) :: rest) = some (fl, ul) ∧
      openFilesK d paths rw bl = .ok ((f0, u0) :: rest, rw && ul.hash.isNone) := by
  generalize hr : openFilesK d paths rw bl = r
  unfold openFilesK at hr
  rcases ite_cases hr with ⟨_, rfl⟩ | ⟨hp, hr⟩
  · exact .inl ⟨_, by decide, rfl⟩
  cases hl : loadAll d paths with
  | error e => rw [hl] at hr; exact .inl ⟨e, loadAll_error _ _ _ hl, hr.symm⟩
  | ok ubs =>
    rw [hl] at hr
    dsimp only at hr
    cases hs : sortByIdx ubs with
    | nil => rw [hs] at hr; exact .inl ⟨_, by decide, hr.symm⟩
    | cons x rest =>
      obtain ⟨f0, u0⟩ := x
      rw [hs] at hr
      dsimp only at hr
      rcases ite_cases hr with ⟨_, rfl⟩ | ⟨h1, hr⟩
      · exact .inl ⟨_, by decide, rfl⟩
      rcases ite_cases hr with ⟨_, rfl⟩ | ⟨h2, hr⟩
      · exact .inl ⟨_, by decide, rfl⟩
      rcases ite_cases hr with ⟨_, rfl⟩ | ⟨h3, hr⟩
      · exact .inl ⟨_, by decide, rfl⟩
      rcases ite_cases hr with ⟨_, rfl⟩ | ⟨h4, hr⟩
      · exact .inl ⟨_, by decide, rfl⟩
      cases hlast : lastFile ((f0, u0) :: rest) with
      | none => rw [hlast] at hr; exact .inl ⟨_, by decide, hr.symm⟩
      | some y =>
        rw [hlast] at hr
        refine .inr ⟨ubs, f0, u0, rest, y.1, y.2, by simpa using hp, rfl, hs, ?_, by simpa using h2,
          by simpa using h3, by simpa using h4, hlast, hr.symm⟩
        intro hb; subst hb; simpa using h1

theorem openFilesK_error {d : Disk} {paths : List Name} {rw bl : Bool} {e : Out}
    (h : openFilesK d paths rw bl = .error e) : e ≠ .ok := by
  rcases openFilesK_cases d paths rw bl with ⟨e', he, h'⟩ | ⟨_, _, _, _, _, _, _, _, _, _, _, _, _, _, h'⟩ <;>
    rw [h] at h' <;> cases h'
  exact he

theorem openFilesK_ok {d : Disk} {paths : List Name} {rw bl : Bool} {files : List (Name × UB)} {b : Bool}
    (h : openFilesK d paths rw bl = .ok (files, b)) :
    paths ≠ [] ∧
    (∃ ubs, loadAll d paths = .ok ubs ∧ files = sortByIdx ubs) ∧
    (∃ f ul, lastFile files = some (f, ul) ∧ b = (rw && ul.hash.isNone)) ∧
    ∃ f0 u0 rest, files = (f0, u0) :: rest ∧ (bl = false → u0.prev = none) ∧
      checkUB d u0.rid f0 u0 none (!rest.isEmpty) = true ∧ checkChain d u0.rid u0 rest = true ∧
      distinctPids files = true := by
  rcases openFilesK_cases d paths rw bl with ⟨e', _, h'⟩ | ⟨ubs, f0, u0, rest, fl, ul, h1, h2, h3, h4, h5, h6, h7, h8, h'⟩ <;>
    rw [h] at h' <;> cases h'
  exact ⟨h1, ⟨ubs, h2, h3.symm⟩, ⟨fl, ul, h8, rfl⟩, f0, u0, rest, rfl, h4, h5, h6, h7⟩

theorem openFilesK_mem {d : Disk} {paths : List Name} {rw bl : Bool} {files : List (Name × UB)} {b : Bool}
    (h : openFilesK d paths rw bl = .ok (files, b)) :
    ∀ f ub, (f, ub) ∈ files → f ∈ paths ∧ ∃ p, getF d f = some (.cont ub p) := by
  obtain ⟨_, ⟨ubs, h1, rfl⟩, _⟩ := openFilesK_ok h
  intro f ub hm
  have hm' := (sortByIdx_perm ubs).mem_iff.mp hm
  obtain ⟨hn, hd⟩ := loadAll_ok d paths ubs h1
  exact ⟨hn ▸ List.mem_map_of_mem (f := Prod.fst) hm', hd f ub hm'⟩

theorem loadManifestK_error {d : Disk} {files : List (Name × UB)} {mf : Option Name} {e : Out}
    (h : loadManifestK d files mf = .error e) : e ≠ .ok := by
  unfold loadManifestK at h
  repeat' (split at h <;> try (cases h; decide))
  all_goals (try cases h)

/-- the handle `_open` builds -/
def openedHandle (files : List (Name × UB)) (b : Bool) (c : Bool) (m : Mode) (man : Option (Nat × Nat)) : Handle :=
  { files := files, lastRW := b, allow := m != .r, closed := false, mfcls := c, manifest := man }

theorem openExistingK_spec (s : State) (c : Bool) (paths : List Name) (m : Mode) (kw : OpenKw) :
    Refused s (openExistingK s c paths m kw) ∨
    ∃ files b man,
      openFilesK s.disk paths (m != .r) kw.baseless = .ok (files, b) ∧
      (if c then loadManifestK s.disk files kw.mfile else .ok none) = .ok man ∧
      (((m != .r && !hasWritable (openedHandle files b c m man)) = false ∧
          openExistingK s c paths m kw =
            { st := { s with h := openedHandle files b c m man }, out := .ok,
              written := if b then (match lastFile files with | some (f, _) => [f] | none => []) else [] }) ∨
       ((m != .r && !hasWritable (openedHandle files b c m man)) = true ∧
          (createPatch { s with h := openedHandle files b c m man }).out = .ok ∧
          openExistingK s c paths m kw = createPatch { s with h := openedHandle files b c m man })) := by
  generalize hr : openExistingK s c paths m kw = r
  unfold openExistingK at hr
  dsimp only at hr
  cases ho : openFilesK s.disk paths (m != .r) kw.baseless with
  | error e => rw [ho] at hr; exact .inl (hr ▸ refused rfl rfl (Nat.le_refl _) (openFilesK_error ho))
  | ok v =>
    obtain ⟨files, b⟩ := v
    rw [ho] at hr
    dsimp only at hr
    cases hm : (if c then loadManifestK s.disk files kw.mfile else .ok none) with
    | error e =>
      rw [hm] at hr
      refine .inl (hr ▸ refused rfl rfl (Nat.le_refl _) ?_)
      cases c
      · cases hm
      · exact loadManifestK_error hm
    | ok man =>
      rw [hm] at hr
      dsimp only at hr
      unfold openedHandle
      rcases ite_cases hr with ⟨hw, hr⟩ | ⟨hw, hr⟩
      · split at hr
        · next hcp => exact .inr ⟨files, b, man, rfl, hm, .inr ⟨hw, hcp, hr.symm⟩⟩
        · next hcp => exact .inl (hr ▸ refused rfl rfl (createPatch_next ⟨s.disk, ⟨files, b, m != .r, false, c, man⟩, s.next⟩) (fun h => hcp h))
      · exact .inr ⟨files, b, man, rfl, hm, .inl ⟨hw, hr.symm⟩⟩

theorem openFiles_ok {d : Disk} {paths : List Name} {rw : Bool} {files : List (Name × UB)} {b : Bool}
    (h : openFiles d paths rw = .ok (files, b)) :
    paths ≠ [] ∧
    (∃ ubs, loadAll d paths = .ok ubs ∧ files = sortByIdx ubs) ∧
    (∃ f ul, lastFile files = some (f, ul) ∧ b = (rw && ul.hash.isNone)) ∧
    ∃ f0 u0 rest, files = (f0, u0) :: rest ∧ u0.prev = none ∧
      checkUB d u0.rid f0 u0 none (!rest.isEmpty) = true ∧ checkChain d u0.rid u0 rest = true ∧
      distinctPids files = true := by
  obtain ⟨h1, h2, h3, f0, u0, rest, h4, h5, h6⟩ := openFilesK_ok (bl := false) (openFilesK_false d paths rw ▸ h)
  exact ⟨h1, h2, h3, f0, u0, rest, h4, h5 rfl, h6⟩

theorem openExisting_spec (s : State) (c : Bool) (paths : List Name) (m : Mode) :
    Refused s (openExisting s c paths m) ∨
    ∃ files b man,
      openFiles s.disk paths (m != .r) = .ok (files, b) ∧
      (if c then loadManifest s.disk files else .ok none) = .ok man ∧
      (((m != .r && !hasWritable (openedHandle files b c m man)) = false ∧
          openExisting s c paths m =
            { st := { s with h := openedHandle files b c m man }, out := .ok,
              written := if b then (match lastFile files with | some (f, _) => [f] | none => []) else [] }) ∨
       ((m != .r && !hasWritable (openedHandle files b c m man)) = true ∧
          (createPatch { s with h := openedHandle files b c m man }).out = .ok ∧
          openExisting s c paths m = createPatch { s with h := openedHandle files b c m man })) := by
  simpa only [openExistingK_default, openFilesK_false, loadManifestK_none] using openExistingK_spec s c paths m {}

/-- the mode dispatch of `__init__`: refused at once, `_create` (never for `r`), or `_open` -/
theorem openRecK_cases (s : State) (c : Bool) (t : Target) (m : Mode) (kw : OpenKw) :
    Refused s (openRecK s c t m kw) ∨
    (∃ n, m ≠ .r ∧ openRecK s c t m kw = createRec s c n (m == .w) []) ∨
    ∃ paths, openRecK s c t m kw = openExistingK s c paths m kw := by
  unfold openRecK
  split
  · exact .inl (refused rfl rfl (Nat.le_refl _) (by decide))
  cases t with
  | list fs =>
    dsimp only
    split
    · exact .inl (refused rfl rfl (Nat.le_refl _) (by decide))
    split
    · exact .inl (refused rfl rfl (Nat.le_refl _) (by decide))
    · exact .inr (.inr ⟨fs, rfl⟩)
  | name n =>
    dsimp only
    split
    · exact .inr (.inl ⟨n, nofun, rfl⟩)
    · exact .inr (.inl ⟨n, nofun, rfl⟩)
    · exact .inr (.inl ⟨n, nofun, rfl⟩)
    next hw _ _ =>
    have hw : (m == .w) = false := by simpa using hw
    rw [hw]
    split
    · exact .inl (refused rfl rfl (Nat.le_refl _) (by decide))
    · split
      · next ha => exact .inr (.inl ⟨n, eq_of_beq ha ▸ nofun, rfl⟩)
      · exact .inl (refused rfl rfl (Nat.le_refl _) (by decide))
    · exact .inr (.inr ⟨_, rfl⟩)

theorem openRec_cases (s : State) (c : Bool) (t : Target) (m : Mode) :
    Refused s (openRec s c t m) ∨
    (∃ n, m ≠ .r ∧ openRec s c t m = createRec s c n (m == .w) []) ∨
    ∃ paths, openRec s c t m = openExisting s c paths m := by
  simpa only [openRecK_default, openExistingK_default] using openRecK_cases s c t m {}

/-! ### adding a record under a free name (`_create` inside `merge_files` here, `create_stub` in `Proofs/RecordStub.lean`) -/

/-- `d'` arises from `d` by writing the base container `b` of a new record and possibly its manifest
sidecar; `W` is the reported write set -/
structure Adds (d d' : Disk) (b : Name) (W : List Name) : Prop where
  frame : ∀ g, g ≠ b → g ≠ manifestFile b → getF d' g = getF d g
  side : getF d' (manifestFile b) = getF d (manifestFile b) ∨
    (manifestFile b ∈ W ∧ ∃ u c, getF d' (manifestFile b) = some (.mf u c))
  sub : ∀ g ∈ W, g = b ∨ g = manifestFile b
  base : b ∈ W

theorem Adds.mono {d d' : Disk} {b : Name} {W W' : List Name} (h : Adds d d' b W)
    (hW : ∀ g ∈ W, g ∈ W') (hs : ∀ g ∈ W', g = b ∨ g = manifestFile b) : Adds d d' b W' :=
  ⟨h.frame, h.side.imp_right (fun h' => ⟨hW _ h'.1, h'.2⟩), hs, hW _ h.base⟩

theorem Adds.setF_base {d d' : Disk} {b : Name} {W : List Name} (h : Adds d d' b W) (v : File) :
    Adds d (setF d' b v) b W :=
  ⟨fun g h1 h2 => by rw [getF_setF_ne _ _ _ _ h1, h.frame g h1 h2],
    by rw [getF_setF_ne _ _ _ _ (manifestFile_ne b)]; exact h.side, h.sub, h.base⟩

theorem Adds.setF_side {d d' : Disk} {b : Name} {W : List Name} (h : Adds d d' b W) (u c : Nat)
    (hm : manifestFile b ∈ W) : Adds d (setF d' (manifestFile b) (.mf u c)) b W :=
  ⟨fun g h1 h2 => by rw [getF_setF_ne _ _ _ _ h2, h.frame g h1 h2],
    .inr ⟨hm, u, c, getF_setF_eq _ _ _⟩, h.sub, h.base⟩

/-- the same seen from an earlier disk that differs at most in the base container -/
theorem Adds.of_base {d0 d d' : Disk} {b : Name} {W : List Name} (h : Adds d d' b W)
    (h0 : ∀ g, g ≠ b → getF d g = getF d0 g) : Adds d0 d' b W :=
  ⟨fun g h1 h2 => by rw [h.frame g h1 h2, h0 g h1], h0 _ (manifestFile_ne b) ▸ h.side, h.sub, h.base⟩

theorem commitPlain_eq (s : State) {f : Name} {ub : UB} {p : List Nat}
    (hc : s.h.closed = false) (ha : s.h.allow = true) (hw : hasWritable s.h = true)
    (hl : lastFile s.h.files = some (f, ub)) (hp : payloadOf s.disk f = some p) :
    commitPlain s =
      { st := { s with disk := setF s.disk f (.cont { ub with hash := some p } p),
                       h := { s.h with files := setLastUB s.h.files { ub with hash := some p },
                                       lastRW := false } },
        out := .ok, written := [f] } := by
  simp [commitPlain, hc, ha, hw, hl, hp]

theorem commitMF_out_ok (s : State) {f : Name} {ub : UB} {p : List Nat}
    (hc : s.h.closed = false) (ha : s.h.allow = true) (hw : hasWritable s.h = true)
    (hl : lastFile s.h.files = some (f, ub)) (hp : payloadOf s.disk f = some p) :
    (commitMF s).out = .ok := by
  unfold commitMF
  simp only [hl]
  rw [commitPlain_eq (mfPrep s { ub with ext := some (s.next, s.next + 1) }) (f := f) (p := p)
    hc ha (hasWritable_setLastUB s.h _ ▸ hw) (lastFile_setLastUB _ _ _ _ hl) hp]

theorem commitPatch_fresh (d : Disk) (k nx : Nat) (c : Bool) (n : Name) (p : List Nat)
    (hp : payloadOf d (baseFile n) = some p) {r : Res}
    (hr : commitPatch { disk := d, next := nx, h := freshHandle c n k } = r) :
    r.out = .ok ∧ r.removed = [] ∧ nx ≤ r.st.next ∧ Adds d r.st.disk (baseFile n) r.W ∧
    ∃ ub, ub.pid = k ∧ getF r.st.disk (baseFile n) = some (.cont ub p) := by
  subst hr
  cases c
  · rw [show commitPatch { disk := d, next := nx, h := freshHandle false n k } =
        commitPlain { disk := d, next := nx, h := freshHandle false n k } from rfl,
      commitPlain_eq _ rfl rfl rfl rfl hp]
    exact ⟨rfl, rfl, Nat.le_refl _, ⟨fun g h1 _ => getF_setF_ne _ _ _ _ h1,
      .inl (getF_setF_ne _ _ _ _ (manifestFile_ne _)), by simp [Res.W], by simp [Res.W]⟩, _, rfl, getF_setF_eq _ _ _⟩
  · rw [show commitPatch { disk := d, next := nx, h := freshHandle true n k } =
      commitMF { disk := d, next := nx, h := freshHandle true n k } from rfl]
    rcases commitMF_spec { disk := d, next := nx, h := freshHandle true n k }
      with hf | ⟨f, ub, p', h1, _, _, _, h5, h6, h7, _, h9, h10, h11⟩
    · exact absurd (commitMF_out_ok _ rfl rfl rfl rfl hp) hf.1.1
    · cases h1
      cases hp.symm.trans h5
      refine ⟨h6, h10, h9 ▸ Nat.le_add_right _ _, ⟨fun g h1 h2 => ?_, .inr ⟨(h11 _).mpr (.inr rfl), nx, nx + 1, ?_⟩,
        fun g hg => (h11 g).mp hg, (h11 _).mpr (.inl rfl)⟩, mfCommitUB (newBaseUB k) nx p, rfl, ?_⟩
      · rw [h7, getF_setF_ne _ _ _ _ h2, getF_setF_ne _ _ _ _ h1]
      · rw [h7, getF_setF_eq]
      · rw [h7, getF_setF_ne _ _ _ _ (manifestFile_ne _).symm, getF_setF_eq]

theorem close_of_commit_ok (s : State) (hc : s.h.closed = false) (hw : hasWritable s.h = true)
    (ho : (commitPatch s).out = .ok) :
    close s true =
      { commitPatch s with st := { (commitPatch s).st with h := closedHandle (commitPatch s).st.h } } := by
  rcases close_spec s true with ⟨h, _⟩ | ⟨_, _, _, h, _⟩ | ⟨_, _, _, _, h⟩ | ⟨_, h, _⟩
  · rw [hc] at h; cases h
  · exact absurd ho h
  · exact h
  · rw [hw] at h; cases h

theorem mergeFiles_spec (s : State) (t : Name) :
    Refused s (mergeFiles s t) ∨
    (s.h.closed = false ∧ hasWritable s.h = false ∧ getF s.disk (baseFile t) = none ∧
      (mergeFiles s t).st.h = s.h ∧
      Adds s.disk (mergeFiles s t).st.disk (baseFile t) (mergeFiles s t).W ∧
      (∃ ub p, getF (mergeFiles s t).st.disk (baseFile t) = some (.cont ub p) ∧
        (ub.pid = s.next ∨ ∃ fl ul, lastFile s.h.files = some (fl, ul) ∧ ub.pid = ul.pid)) ∧
      s.next < (mergeFiles s t).st.next) := by
  generalize hr : mergeFiles s t = r
  unfold mergeFiles at hr
  dsimp only at hr
  refine guard (by decide) hr fun hc hr => ?_
  refine guard (by decide) hr fun hw hr => ?_
  split at hr
  case h_2 => exact .inl (hr ▸ refused rfl rfl (Nat.le_refl _) (by decide))
  next f0 u0 rest fl ul hf hl =>
  rcases createRec_notrunc { s with h := {} } s.h.mfcls t (fileNames s.h) with hf1 | ⟨_, _, hfree, heq⟩
  · exact .inl (hr ▸ refused_of_out hf1.1.1 rfl rfl (Nat.le_refl _) _)
  rw [heq] at hr
  dsimp only at hr
  have hp := payloadOf_setPayload _ _ _ _ (viewFiles s.disk s.h.files)
    (getF_setF_eq s.disk (baseFile t) (.cont (newBaseUB s.next) []))
  have h02 : ∀ g, g ≠ baseFile t →
      getF (setPayload (setF s.disk (baseFile t) (.cont (newBaseUB s.next) [])) (baseFile t)
        (viewFiles s.disk s.h.files)) g = getF s.disk g :=
    fun g hg => by rw [getF_setPayload_ne _ _ _ _ hg, getF_setF_ne _ _ _ _ hg]
  obtain ⟨ho, hrm, hnx, hadd, ub3, hpid, hb3⟩ := commitPatch_fresh _ s.next (s.next + 2) s.h.mfcls t _ hp rfl
  rw [close_of_commit_ok _ rfl rfl ho] at hr
  dsimp only at hr
  replace hadd := hadd.of_base h02
  revert hr ho hrm hnx hadd hb3
  generalize commitPatch _ = r3
  intro hr ho hrm hnx hb3 hadd
  -- the write set of the merge: the base container, what the commit of the target wrote, and `wr`
  have hmono : ∀ wr : List Name, (∀ g ∈ r3.written, g ∈ wr) →
      (∀ g ∈ wr, g ∈ r3.written ∨ g = manifestFile (baseFile t)) →
      Adds s.disk r3.st.disk (baseFile t) ((baseFile t :: r3.created) ++ [] ++ wr) := by
    refine fun wr h1 h2 => hadd.mono (fun g hg => ?_) (fun g hg => ?_)
    · simp only [Res.W, hrm, List.append_nil, List.mem_append] at hg
      simp only [List.append_nil, List.mem_append, List.mem_cons]
      exact hg.elim (fun h => .inl (.inr h)) (fun h => .inr (h1 g h))
    · simp only [List.append_nil, List.mem_append, List.mem_cons] at hg
      rcases hg with (rfl | hg) | hg
      · exact .inl rfl
      · exact hadd.sub g (by simp [Res.W, hg])
      · exact (h2 g hg).elim (fun h => hadd.sub g (by simp [Res.W, h])) .inr
  refine .inr ⟨hc, hw, hfree, ?_⟩
  have hmain : ∀ (D : Disk) (o : Out) (wr : List Name),
      Adds s.disk D (baseFile t) ((baseFile t :: r3.created) ++ [] ++ wr) →
      (∃ ub p, getF D (baseFile t) = some (.cont ub p) ∧ (ub.pid = s.next ∨ ub.pid = ul.pid)) →
      ({ st := { disk := D, h := s.h, next := r3.st.next }, out := o, created := baseFile t :: r3.created,
         written := wr } : Res) = r →
      r.st.h = s.h ∧ Adds s.disk r.st.disk (baseFile t) r.W ∧
      (∃ ub p, getF r.st.disk (baseFile t) = some (.cont ub p) ∧
        (ub.pid = s.next ∨ ∃ fl ul, lastFile s.h.files = some (fl, ul) ∧ ub.pid = ul.pid)) ∧
      s.next < r.st.next := by
    rintro D o wr ha ⟨ub, p, hg, hpd⟩ rfl
    exact ⟨rfl, ha, ⟨ub, p, hg, hpd.imp_right fun h => ⟨fl, ul, hf ▸ hl, h⟩⟩, Nat.lt_of_lt_of_le (by omega) hnx⟩
  have hplain := hmain (setF r3.st.disk (baseFile t) (.cont { ul with prev := u0.prev, hash := some (viewFiles s.disk s.h.files) } (viewFiles s.disk s.h.files)))
    .ok r3.written ((hmono _ (fun _ h => h) fun _ h => .inl h).setF_base _) ⟨_, _, getF_setF_eq _ _ _, .inr rfl⟩
  split at hr
  · split at hr
    · split at hr
      · refine hmain _ _ _ (((hmono _ (fun _ h => List.mem_append_left _ h) fun g h =>
          (List.mem_append.mp h).imp_right List.mem_singleton.mp).setF_side _ _ ?_).setF_base _) ?_ hr
        · simp
        · exact ⟨_, _, getF_setF_eq _ _ _, .inr rfl⟩
      · exact hmain _ _ _ (hmono _ (fun _ h => h) fun _ h => .inl h) ⟨ub3, _, hb3, .inl hpid⟩ hr
    · exact hplain hr
  · exact hplain hr

end MetadorModel.Record
