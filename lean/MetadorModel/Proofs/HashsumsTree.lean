import MetadorModel.Proofs.HashsumsFold
import MetadorModel.Proofs.Bytes
import Mathlib.Data.List.Nodup
/-!
Helper lemmas for `Model/Hashsums.lean`, part 3: path strings (`split`/`join`), the items of
directory entries, well-formed trees (`FsTree.WF` = what `rglob("*")` guarantees), the loop
`build` in terms of `putAll`, and what the result holds at every path.
-/
namespace MetadorModel.Hashsums
open MetadorModel.Bytes

/-- a path segment as the file system / `Path.resolve` produce them -/
def NameOk (s : Name) : Prop := s ≠ ['.'] ∧ '/' ∉ s

theorem splitSlash_ne_nil : ∀ s : Str, splitSlash s ≠ []
  | [] => by simp [splitSlash]
  | c :: r => by
    simp only [splitSlash]
    split_ifs
    · simp
    · cases splitSlash r <;> simp

/-- a slash-free prefix stays with the first piece -/
theorem splitSlash_prefix : ∀ (s t : Str), '/' ∉ s →
    splitSlash (s ++ t) = (s ++ (splitSlash t).head (splitSlash_ne_nil t)) :: (splitSlash t).tail
  | [], t, _ => (List.cons_head_tail _).symm
  | c :: r, t, h => by
    have hc : c ≠ '/' := fun e => h (by simp [e])
    have hr : '/' ∉ r := fun e => h (by simp [e])
    simp [splitSlash, hc, splitSlash_prefix r t hr]

theorem splitSlash_joinSlash : ∀ p : Path, p ≠ [] → (∀ s ∈ p, '/' ∉ s) →
    splitSlash (joinSlash p) = p
  | [], h, _ => absurd rfl h
  | [s], _, h => by simpa [joinSlash, splitSlash] using splitSlash_prefix s [] (h s (by simp))
  | s :: s' :: r, _, h => by
    have ih := splitSlash_joinSlash (s' :: r) (by simp) fun x hx => h x (by simp [hx])
    simpa [joinSlash, splitSlash, ih] using splitSlash_prefix s ('/' :: joinSlash (s' :: r)) (h s (by simp))

theorem dictSegs_eq (p : Path) (h : ∀ s ∈ p, NameOk s) : dictSegs p = p := by
  unfold dictSegs pathStr
  cases p with
  | nil => simp [splitSlash]
  | cons a r =>
    simp only [List.isEmpty_cons, Bool.false_eq_true, if_false]
    rw [splitSlash_joinSlash (a :: r) (by simp) (fun s hs => (h s hs).2)]
    rw [List.filter_eq_self]
    intro s hs
    simpa using (h s hs).1

theorem pathStr_injective (a b : Path) (ha : ∀ s ∈ a, NameOk s) (hb : ∀ s ∈ b, NameOk s)
    (h : pathStr a = pathStr b) : a = b := by
  have ea := dictSegs_eq a ha
  have eb := dictSegs_eq b hb
  unfold dictSegs at ea eb
  rw [← ea, ← eb, h]

def Entry.isLeaf (e : Entry) : Bool := e.node.isFile || e.node.isSymlink

theorem entryItem_snd (e : Entry) (val : Str) :
    (entryItem e val).2 = if e.isLeaf then some (pathName e.path, val) else none := by
  unfold entryItem Entry.isLeaf
  split <;> rfl

theorem entryItem_full (e : Entry) (val : Str) (hne : e.path ≠ []) (hok : ∀ s ∈ e.path, NameOk s) :
    Item.full (entryItem e val) = e.path := by
  unfold entryItem
  split_ifs
  · show dictSegs e.path.dropLast ++ [pathName e.path] = e.path
    rw [dictSegs_eq _ fun s hs => hok s (List.mem_of_mem_dropLast hs), pathName,
      List.getLast?_eq_some_getLast hne]
    exact List.dropLast_append_getLast hne
  · exact dictSegs_eq _ hok

/-- What `rglob("*")` guarantees about the entries of a directory (in any order). -/
structure FsTree.WF (t : FsTree) : Prop where
  /-- every entry is listed once -/
  nodup : (t.entries.map Entry.path).Nodup
  /-- the directory itself is not listed -/
  nonempty : ∀ e ∈ t.entries, e.path ≠ []
  /-- names contain no `/` and are not `.` -/
  names : ∀ e ∈ t.entries, ∀ s ∈ e.path, NameOk s
  /-- an entry lies below real directories that are listed themselves (no descent into
  files or symlinks) -/
  closed : ∀ e ∈ t.entries, ∀ q, q ≠ [] → q <+: e.path → q ≠ e.path → ⟨q, .dir⟩ ∈ t.entries
  /-- resolved symlink targets are paths too -/
  targets : ∀ e ∈ t.entries, ∀ r c, e.node = .sym r c → ∀ s ∈ r, NameOk s

theorem FsTree.WF.perm {b : Path} {l₁ l₂ : List Entry} (h : FsTree.WF ⟨b, l₁⟩) (hp : l₁.Perm l₂) :
    FsTree.WF ⟨b, l₂⟩ where
  nodup := (List.Perm.nodup_iff (hp.map _)).mp h.nodup
  nonempty e he := h.nonempty e (hp.mem_iff.mpr he)
  names e he := h.names e (hp.mem_iff.mpr he)
  closed e he q h1 h2 h3 := hp.mem_iff.mp (h.closed e (hp.mem_iff.mpr he) q h1 h2 h3)
  targets e he := h.targets e (hp.mem_iff.mpr he)

theorem FsTree.WF.unique {t : FsTree} (h : t.WF) {e e' : Entry} (he : e ∈ t.entries)
    (he' : e' ∈ t.entries) (hp : e.path = e'.path) : e = e' :=
  List.inj_on_of_nodup_map h.nodup he he' hp

theorem FsTree.WF.compat {t : FsTree} (h : t.WF) (val : Entry → Str) :
    (t.entries.map (fun e => entryItem e (val e))).Pairwise Compat := by
  rw [List.pairwise_map]
  refine (List.pairwise_map.mp h.nodup).imp_of_mem ?_
  intro a b ha hb hab
  have key : ∀ x y : Entry, x ∈ t.entries → y ∈ t.entries → x.path ≠ y.path →
      NoClash (entryItem x (val x)) (entryItem y (val y)) := by
    intro x y hx hy hxy kv hkv hpre
    -- a leaf item that ends on the way to `y` would make `x` a listed directory
    rw [← full_of_some hkv, entryItem_full x _ (h.nonempty x hx) (h.names x hx),
      entryItem_full y _ (h.nonempty y hy) (h.names y hy)] at hpre
    rw [entryItem_snd, h.unique hx (h.closed y hy x.path (h.nonempty x hx) hpre hxy) rfl] at hkv
    cases hkv
  exact ⟨key a b ha hb hab, key b a hb ha (Ne.symm hab)⟩

def valOf {σ : Type} (cfg : Cfg σ) (e : Entry) : Str :=
  match entryVal cfg e.node with
  | .ok v => v
  | .error _ => []

def itemOf {σ : Type} (cfg : Cfg σ) (e : Entry) : Item := entryItem e (valOf cfg e)

def entryOk {σ : Type} (cfg : Cfg σ) (e : Entry) : Bool :=
  match entryVal cfg e.node with
  | .ok _ => true
  | .error _ => false

theorem entryVal_err {σ : Type} (cfg : Cfg σ) (n : Node) (x : Err)
    (h : entryVal cfg n = .error x) : x = .valueError := by
  unfold entryVal at h
  split_ifs at h
  · split at h <;> cases h
    rfl
  · unfold qualifiedHashsum hashsum at h
    split_ifs at h
    cases h
    rfl

theorem step_eq {σ : Type} (cfg : Cfg σ) (t : HT) (e : Entry) :
    step cfg t e =
      if entryOk cfg e then put t (itemOf cfg e).1 (itemOf cfg e).2 else .error .valueError := by
  unfold step itemOf valOf entryOk
  cases hv : entryVal cfg e.node with
  | error x => rw [entryVal_err cfg _ x hv]; rfl
  | ok v => rfl

/-- as long as the `put`s succeed the loop follows them, up to the first entry without a value -/
theorem build_eq {σ : Type} (cfg : Cfg σ) : ∀ (l : List Entry) (t t' : HT),
    putAll t (l.map (itemOf cfg)) = .ok t' →
    build cfg t l = if l.all (entryOk cfg) then .ok t' else .error .valueError
  | [], t, t', h => h
  | e :: r, t, t', h => by
    rw [build, step_eq, List.all_cons]
    cases entryOk cfg e with
    | false => rfl
    | true =>
      rw [List.map_cons, putAll] at h
      cases hp : put t (itemOf cfg e).1 (itemOf cfg e).2 with
      | error x => rw [hp] at h; cases h
      | ok t1 => rw [hp] at h; exact build_eq cfg r t1 t' h

/-- the loop, started with the empty dict, on compatible entries: either every value could be
computed and the result is the sequence of `put`s, or the first failing entry raises
`ValueError` (no `TypeError` can get in the way). -/
theorem build_root {σ : Type} (cfg : Cfg σ) (l : List Entry) (hw : (l.map (itemOf cfg)).Pairwise Compat) :
    build cfg (.node []) l =
      if l.all (entryOk cfg) then putAll (.node []) (l.map (itemOf cfg)) else .error .valueError := by
  obtain ⟨t', ht', _⟩ := putAll_spec _ hw
  rw [ht']
  exact build_eq cfg l _ _ ht'

/-! ### the tree as the property sees it -/

/-- content of one entry: file bytes, in-directory target of a symlink (`none` = leads
outside), directory -/
inductive Content where
  | file (bs : Bytes)
  | link (target : Option Path)
  | dir
deriving DecidableEq, Repr

def content (base : Path) : Node → Content
  | .file c => .file c
  | .sym r _ => .link (relativeTo r base)
  | .dir => .dir

def FsTree.lookup (t : FsTree) (p : Path) : Option Node :=
  match t.entries.find? (fun e => e.path = p) with
  | some e => some e.node
  | none => none

def FsTree.view (t : FsTree) (p : Path) : Option Content := (t.lookup p).map (content t.base)

/-- same names, same file contents, same in-directory symlink targets, same (possibly empty)
sub-directories -/
def Equiv (a b : FsTree) : Prop := ∀ p, a.view p = b.view p

def FsTree.files (t : FsTree) : List Bytes :=
  t.entries.filterMap (fun e => match e.node with | .file c => some c | _ => none)

/-- no two *different* contents among `S` have the same digest -/
def NoCollision (D : Bytes → Str) (S : List Bytes) : Prop :=
  ∀ x ∈ S, ∀ y ∈ S, D x = D y → x = y

theorem mem_files {t : FsTree} {p : Path} {c : Bytes} (h : ⟨p, .file c⟩ ∈ t.entries) :
    c ∈ t.files := by
  unfold FsTree.files
  rw [List.mem_filterMap]
  exact ⟨_, h, rfl⟩

theorem mem_of_lookup {t : FsTree} {p : Path} {n : Node} (h : t.lookup p = some n) :
    ⟨p, n⟩ ∈ t.entries := by
  unfold FsTree.lookup at h
  split at h
  · next e hf =>
    cases h
    have := List.find?_some hf
    simp only [decide_eq_true_eq] at this
    subst this
    exact List.mem_of_find?_eq_some hf
  · cases h

theorem lookup_none {t : FsTree} {p : Path} (h : t.lookup p = none) :
    ∀ e ∈ t.entries, e.path ≠ p := by
  unfold FsTree.lookup at h
  split at h
  · cases h
  · next hf => simpa using hf

theorem lookup_of_mem {t : FsTree} (h : t.WF) {e : Entry} (he : e ∈ t.entries) :
    t.lookup e.path = some e.node := by
  cases hl : t.lookup e.path with
  | none => exact absurd rfl (lookup_none hl e he)
  | some n => rw [← h.unique (mem_of_lookup hl) he rfl]

/-- observation the loop leaves at the path of an entry -/
def entryObs {σ : Type} (cfg : Cfg σ) (e : Entry) : Obs :=
  if e.isLeaf then .str (valOf cfg e) else .dict

theorem dirHashsums_ok {σ : Type} {hl : HashLib σ} {alg : Str} {t : FsTree} (hwf : t.WF) {h : HT}
    (hok : dirHashsums hl alg t = .ok h) :
    (∀ e ∈ t.entries, entryOk ⟨hl, alg, t.base⟩ e = true) ∧
    putAll (.node []) (t.entries.map (itemOf ⟨hl, alg, t.base⟩)) = .ok h := by
  rw [dirHashsums, build_root _ _ (hwf.compat _)] at hok
  split_ifs at hok with hall
  exact ⟨List.all_eq_true.mp hall, hok⟩

theorem build_obs {σ : Type} (hl : HashLib σ) (alg : Str) (t : FsTree) (hwf : t.WF) (h : HT)
    (hok : dirHashsums hl alg t = .ok h) :
    (∀ e ∈ t.entries, entryOk ⟨hl, alg, t.base⟩ e = true) ∧
    (∀ e ∈ t.entries, h.obsAt e.path = some (entryObs ⟨hl, alg, t.base⟩ e)) ∧
    (∀ p, p ≠ [] → (∀ e ∈ t.entries, e.path ≠ p) → h.obsAt p = none) ∧
    h.obsAt [] = some .dict := by
  let cfg : Cfg σ := ⟨hl, alg, t.base⟩
  obtain ⟨hall, hput⟩ := dirHashsums_ok hwf hok
  obtain ⟨t', ht', sp⟩ := putAll_spec _ (hwf.compat (valOf cfg))
  cases ht'.symm.trans hput
  refine ⟨hall, fun e he => ?_, fun p hp hnone => sp.none p (fun i hi hpre => ?_) hp, sp.root⟩
  · have hf := entryItem_full e (valOf cfg e) (hwf.nonempty e he) (hwf.names e he)
    have hs := entryItem_snd e (valOf cfg e)
    have hmem : itemOf cfg e ∈ t.entries.map (itemOf cfg) := List.mem_map.mpr ⟨e, he, rfl⟩
    unfold entryObs
    split_ifs with hl' <;> simp only [hl', if_true, Bool.false_eq_true, if_false] at hs
    · exact hf ▸ full_of_some hs ▸ sp.leaf _ hmem _ hs
    · refine sp.dir _ hmem e.path ?_
      rw [← hf, Item.full, hs]
      exact List.prefix_refl _
  · obtain ⟨e, he, rfl⟩ := List.mem_map.mp hi
    rw [entryItem_full e _ (hwf.nonempty e he) (hwf.names e he)] at hpre
    by_cases heq : p = e.path
    · exact hnone e he heq.symm
    · exact hnone _ (hwf.closed e he p hp hpre heq) rfl

theorem entryObs_file {σ : Type} (cfg : Cfg σ) (hs : Streaming cfg.hl) (ha : cfg.alg ∈ hashAlgs)
    (p : Path) (c : Bytes) :
    entryObs cfg ⟨p, .file c⟩ = .str (cfg.alg ++ ':' :: oneShot cfg.hl cfg.alg c) := by
  simp only [entryObs, Entry.isLeaf, valOf, entryVal, Node.isSymlink, Node.isFile, Node.readBytes,
    Bool.or_false, Bool.false_eq_true, if_false, if_true, qualifiedHashsum_eq cfg.hl hs cfg.alg ha]

theorem entryObs_sym {σ : Type} (cfg : Cfg σ) (p r : Path) (c : Option Bytes)
    (hok : entryOk cfg ⟨p, .sym r c⟩ = true) :
    ∃ t, relativeTo r cfg.base = some t ∧ entryObs cfg ⟨p, .sym r c⟩ = .str (symlinkPrefix ++ pathStr t) := by
  simp only [entryOk, entryObs, Entry.isLeaf, valOf, entryVal, Node.isSymlink, Bool.or_true, if_true,
    relSymlink] at hok ⊢
  cases h : relativeTo r cfg.base with
  | none => rw [h] at hok; cases hok
  | some t => exact ⟨t, rfl, rfl⟩

theorem alg_prefix_ne_symlink (alg x y : Str) (ha : alg ∈ hashAlgs) :
    alg ++ ':' :: x ≠ symlinkPrefix ++ y := by
  simp only [hashAlgs, List.mem_cons, List.mem_nil_iff, or_false] at ha
  rcases ha with h | h <;> subst h <;> simp [sha256, sha512, symlinkPrefix]

theorem relativeTo_names {r b t : Path} (h : relativeTo r b = some t) (hr : ∀ s ∈ r, NameOk s) :
    ∀ s ∈ t, NameOk s := by
  unfold relativeTo at h
  split_ifs at h
  cases h
  exact fun s hs => hr s (List.mem_of_mem_drop hs)

/-- equal observations mean equal content (needs: digests separate the file contents
concerned) -/
theorem content_of_obs {σ : Type} (hl : HashLib σ) (hs : Streaming hl) (alg : Str)
    (halg : alg ∈ hashAlgs) (ba bb p : Path) (na nb : Node)
    (hoka : entryOk ⟨hl, alg, ba⟩ ⟨p, na⟩ = true) (hokb : entryOk ⟨hl, alg, bb⟩ ⟨p, nb⟩ = true)
    (hta : ∀ r c, na = .sym r c → ∀ s ∈ r, NameOk s) (htb : ∀ r c, nb = .sym r c → ∀ s ∈ r, NameOk s)
    (hnc : ∀ ca cb, na = .file ca → nb = .file cb → oneShot hl alg ca = oneShot hl alg cb → ca = cb)
    (h : entryObs ⟨hl, alg, ba⟩ ⟨p, na⟩ = entryObs ⟨hl, alg, bb⟩ ⟨p, nb⟩) :
    content ba na = content bb nb := by
  have hf := fun b c => entryObs_file ⟨hl, alg, b⟩ hs halg p c
  cases na with
  | file ca =>
    rw [hf] at h
    cases nb with
    | file cb =>
      rw [hf] at h
      simp only [Obs.str.injEq, List.append_cancel_left_eq, List.cons.injEq, true_and] at h
      rw [content, content, hnc ca cb rfl rfl h]
    | sym r c =>
      obtain ⟨t, _, hv⟩ := entryObs_sym ⟨hl, alg, bb⟩ p r c hokb
      exact absurd (Obs.str.inj (h.trans hv)) (alg_prefix_ne_symlink alg _ _ halg)
    | dir => cases h
  | sym r c =>
    obtain ⟨t, ht, hv⟩ := entryObs_sym ⟨hl, alg, ba⟩ p r c hoka
    rw [hv] at h
    cases nb with
    | file cb =>
      exact absurd (Obs.str.inj (h.trans (hf _ _))).symm (alg_prefix_ne_symlink alg _ _ halg)
    | sym r' c' =>
      obtain ⟨t', ht', hv'⟩ := entryObs_sym ⟨hl, alg, bb⟩ p r' c' hokb
      rw [hv'] at h
      simp only [Obs.str.injEq, List.append_cancel_left_eq] at h
      rw [content, content, show relativeTo r ba = some t from ht, show relativeTo r' bb = some t' from ht',
        pathStr_injective t t' (relativeTo_names ht (hta r c rfl)) (relativeTo_names ht' (htb r' c' rfl)) h]
    | dir => cases h
  | dir =>
    cases nb with
    | file cb => rw [hf] at h; cases h
    | sym r c =>
      obtain ⟨t, _, hv⟩ := entryObs_sym ⟨hl, alg, bb⟩ p r c hokb
      rw [hv] at h; cases h
    | dir => rfl

theorem itemOf_congr {σ : Type} (hl : HashLib σ) (alg : Str) (ba bb p : Path) (na nb : Node)
    (h : content ba na = content bb nb) :
    itemOf ⟨hl, alg, ba⟩ ⟨p, na⟩ = itemOf ⟨hl, alg, bb⟩ ⟨p, nb⟩ := by
  cases na with
  | file ca =>
    cases nb <;> cases h
    rfl
  | dir =>
    cases nb <;> cases h
    rfl
  | sym r c =>
    cases nb with
    | sym r' c' =>
      have hv : valOf ⟨hl, alg, ba⟩ ⟨p, .sym r c⟩ = valOf ⟨hl, alg, bb⟩ ⟨p, .sym r' c'⟩ := by
        simp only [valOf, entryVal, Node.isSymlink, if_true, relSymlink, Content.link.inj h]
      unfold itemOf
      rw [hv]
      cases c <;> cases c' <;> rfl
    | file cb => cases h
    | dir => cases h

/-! ### executable well-formedness check (for concrete examples) -/

instance : DecidablePred NameOk := fun s => by unfold NameOk; infer_instance

def FsTree.wfCheck (t : FsTree) : Bool :=
  decide (t.entries.map Entry.path).Nodup &&
  t.entries.all (fun e =>
    e.path != [] &&
    e.path.all (fun s => decide (NameOk s)) &&
    e.path.inits.all (fun q => q == [] || q == e.path || t.entries.contains ⟨q, .dir⟩) &&
    (match e.node with
     | .sym r _ => r.all (fun s => decide (NameOk s))
     | _ => true))

theorem wf_of_check (t : FsTree) (h : t.wfCheck = true) : t.WF := by
  unfold FsTree.wfCheck at h
  simp only [Bool.and_eq_true, decide_eq_true_eq, List.all_eq_true, bne_iff_ne, ne_eq,
    Bool.or_eq_true, beq_iff_eq, List.contains_iff_mem] at h
  obtain ⟨hnd, hall⟩ := h
  refine ⟨hnd, fun e he => (hall e he).1.1.1, fun e he => (hall e he).1.1.2, ?_, ?_⟩
  · exact fun e he q hq hpre hne =>
      ((hall e he).1.2 q ((List.mem_inits _ _).mpr hpre)).resolve_left fun h => h.elim hq hne
  · intro e he r c hr s hs
    have := (hall e he).2
    rw [hr] at this
    simp only [List.all_eq_true, decide_eq_true_eq] at this
    exact this s hs


instance (D : Bytes → Str) (S : List Bytes) : Decidable (NoCollision D S) := by
  unfold NoCollision; infer_instance

end MetadorModel.Hashsums
