import MetadorModel.Model.Merge
import MetadorModel.Proofs.OverlayWriteLook
/-!
# Single-container records (helper lemmas for C05 / C10)

A freshly created record has one container and the write paths never put deletion markers,
SUBST markers or attribute deletion markers into it. Such a container is well-formed (`WF`) and
is read as it is (`view_single`, an instance of `view_cons`); a write below an existing parent is
one `aput` (`createGroup_single`, `createDataset_single`, `setAttrRaw_single`).
-/
namespace MetadorModel.Single
open MetadorModel.Tree MetadorModel.Overlay MetadorModel.Merge

variable {V : Type}

theorem aput_aput_same {κ β : Type} [DecidableEq κ] (k : κ) (v1 v2 : β) (m : List (κ × β)) :
    aput k v2 (aput k v1 m) = aput k v2 m := by
  induction m with
  | nil => simp [aput]
  | cons e es ih =>
    obtain ⟨k', v'⟩ := e
    by_cases h : k' = k
    · simp [aput, h]
    · simp [aput, h, ih]

theorem aput_self {κ β : Type} [DecidableEq κ] (k : κ) (v : β) (m : List (κ × β))
    (h : aget k m = some v) : aput k v m = m := by
  induction m with
  | nil => simp [aget] at h
  | cons e es ih =>
    obtain ⟨k', v'⟩ := e
    by_cases hk : k' = k
    · simp only [aget, hk, if_true, Option.some.injEq] at h
      subst h; simp [aput, hk]
    · simp only [aget, hk, if_false] at h
      simp [aput, hk, ih h]

theorem aget_mem {κ β : Type} [DecidableEq κ] (m : List (κ × β)) (k : κ) (v : β)
    (h : aget k m = some v) : (k, v) ∈ m := by
  induction m with
  | nil => simp [aget] at h
  | cons x xs ih =>
    obtain ⟨kx, vx⟩ := x
    by_cases hx : kx = k
    · simp only [aget, hx, if_true, Option.some.injEq] at h
      subst h; subst hx; simp
    · simp only [aget, hx, if_false] at h
      exact List.mem_cons_of_mem _ (ih h)

theorem mem_aget {κ β : Type} [DecidableEq κ] (m : List (κ × β)) (e : κ × β) (h : e ∈ m) :
    aget e.1 m ≠ none := by
  induction m with
  | nil => cases h
  | cons x xs ih =>
    obtain ⟨k, v⟩ := x
    by_cases hk : k = e.1
    · simp [aget, hk]
    · rcases List.mem_cons.mp h with rfl | h'
      · exact absurd rfl hk
      · simpa [aget, hk] using ih h'

theorem aget_map_val {κ β γ : Type} [DecidableEq κ] (f : β → γ) (m : List (κ × β)) (k : κ) :
    aget k (m.map (fun e => (e.1, f e.2))) = (aget k m).map f := by
  induction m with
  | nil => rfl
  | cons e es ih =>
    obtain ⟨k', v'⟩ := e
    by_cases h : k' = k <;> simp [aget, h, ih]

theorem aput_absent {κ β : Type} [DecidableEq κ] (k : κ) (v : β) (m : List (κ × β))
    (h : aget k m = none) : aput k v m = m ++ [(k, v)] := by
  induction m with
  | nil => rfl
  | cons e es ih =>
    obtain ⟨k', v'⟩ := e
    by_cases hk : k' = k
    · simp [aget, hk] at h
    · simp only [aget, hk, if_false] at h
      simp [aput, hk, ih h]

theorem inv_single {c : Cont V} (h : WF c) : Inv [c] :=
  ⟨h, fun _ _ _ _ _ => Or.inr (Or.inr (fun _ hc => nomatch hc)), trivial⟩

theorem view_single {c : Cont V} (h : WF c) (q : Path) :
    viewKind [c] q = plainK (aget q c) ∧ ∀ k, viewAttr [c] q k = plainA (aget q c) k := by
  obtain ⟨hk, ha⟩ := view_cons c [] h (inv_single h).2.1 q
  cases q with
  | nil =>
    obtain ⟨a, hr⟩ := h.root
    refine ⟨by rw [hr]; rfl, fun k => ?_⟩
    rw [ha k, hr]
    simp only [applyAttr, nvPrefix, nvFrom, Bool.false_eq_true, if_false, hr, plainA, plainKind,
      Option.bind_some]
    cases aget k a <;> rfl
  | cons j t =>
    have := apply_fresh c (viewKind []) (viewAttr []) (j :: t) (List.cons_ne_nil _ _) rfl (fun _ => rfl)
    exact ⟨hk.trans this.1, fun k => (ha k).trans (this.2 k)⟩

def NoDel (c : Cont V) : Prop := ∀ q n, aget q c = some n → n.kind.isDel = false

/-- what the replay keeps true of the one container it writes: a well-formed HDF5 file without
deletion markers -/
structure Good (c : Cont V) : Prop where
  wf : WF c
  nodel : NoDel c

theorem good_init : Good (Cont.init : Cont V) :=
  ⟨wf_init, fun q n h => by
    rw [aget_init] at h
    split at h
    · cases h; rfl
    · cases h⟩

theorem look_single_part {c : Cont V} (h : WF c) {par : Path} (k : Key) {np : RNode V}
    (hnp : aget par c = some np) (hg : np.kind.isGroup = true) (hnone : aget (par ++ [k]) c = none) :
    look [c] (par ++ [k]) = .part par [k] :=
  look_missing_child [c] par k
    (by rw [(view_single h par).1, hnp]; exact plainKind_group_of_isGroup hg)
    (by rw [(view_single h _).1, hnone]; rfl)

theorem look_single_found {c : Cont V} (g : Good c) {p : Path} {n : RNode V} (hp : aget p c = some n) :
    ∃ i m, look [c] p = .found i m :=
  found_of_viewKind [c] p (by
    rw [(view_single g.wf p).1, hp]; exact plainKind_ne_none_of_notDel (g.nodel p n hp))

theorem wf_aput {c : Cont V} (h : WF c) (p : Path) (n : RNode V)
    (hroot : p = [] → n.kind = .vgroup)
    (hpar : ∀ x k, p = x ++ [k] → ∃ m, aget x c = some m ∧ m.kind.isGroup = true)
    (hkids : n.kind.isGroup = false → ∀ k, aget (p ++ [k]) c = none) : WF (aput p n c) := by
  refine ⟨?_, fun x j hne => ?_⟩
  · rw [aget_aput]
    split
    · rename_i hp; obtain ⟨kd, a⟩ := n; exact ⟨a, by rw [← hroot hp.symm]⟩
    · exact h.root
  · have hx : ∃ m, aget x c = some m ∧ m.kind.isGroup = true := by
      by_cases hp : p = x ++ [j]
      · exact hpar x j hp
      · rw [aget_aput_other _ _ _ _ (fun e => hp e.symm)] at hne
        exact h.parent x j hne
    obtain ⟨m, hm, hg⟩ := hx
    rw [aget_aput]
    split
    · rename_i hxp
      refine ⟨n, rfl, ?_⟩
      cases hn : n.kind.isGroup with
      | true => rfl
      | false =>
        rw [aget_aput_other _ _ _ _ (by rw [hxp]; simp), hxp, hkids hn j] at hne
        exact absurd rfl hne
    · exact ⟨m, hm, hg⟩

theorem good_aput_new {c : Cont V} (g : Good c) {par : Path} (k : Key) {np : RNode V} (n : RNode V)
    (hnp : aget par c = some np) (hg : np.kind.isGroup = true)
    (hnone : aget (par ++ [k]) c = none) (hn : n.kind.isDel = false) :
    Good (aput (par ++ [k]) n c) := by
  refine ⟨wf_aput g.wf _ n (fun e => by simp at e)
    (fun x j e => by obtain ⟨rfl, -⟩ := List.append_inj' e rfl; exact ⟨np, hnp, hg⟩)
    (fun _ j => g.wf.below_none _ [j] hnone), fun q m hq => ?_⟩
  rw [aget_aput] at hq
  split at hq
  · cases hq; exact hn
  · exact g.nodel q m hq

theorem good_aput_attrs {c : Cont V} (g : Good c) {q : Path} {n : RNode V} (as : List (Key × Option V))
    (hq : aget q c = some n) : Good (aput q { n with attrs := as } c) := by
  refine ⟨wf_aput g.wf q _ (fun e => ?_) (fun x j e => g.wf.parent x j (by rw [← e, hq]; simp))
    (fun hn j => ?_), fun q' m hq' => ?_⟩
  · obtain ⟨a, hr⟩ := g.wf.root
    rw [e, hr] at hq; cases hq; rfl
  · cases hj : aget (q ++ [j]) c with
    | none => rfl
    | some x =>
      obtain ⟨m, hm, hg⟩ := g.wf.parent q j (by rw [hj]; simp)
      rw [hq] at hm; cases hm; rw [hg] at hn; cases hn
  · rw [aget_aput] at hq'
    split at hq'
    · cases hq'; exact g.nodel q n hq
    · exact g.nodel q' m hq'

theorem prefixes_present {c : Cont V} (h : WF c) {par : Path} (k : Key) {np : RNode V}
    (hnp : aget par c = some np) (hg : np.kind.isGroup = true) :
    ∀ q ∈ properPrefixes (par ++ [k]), ∃ m, aget q c = some m ∧ m.kind.isGroup = true := by
  intro q hq
  obtain ⟨s, hs, e⟩ := (mem_properPrefixes q _).1 hq
  rcases List.eq_nil_or_concat s with rfl | ⟨s', j, rfl⟩
  · exact absurd rfl hs
  · rw [List.concat_eq_append, ← List.append_assoc] at e
    obtain ⟨rfl, -⟩ := List.append_inj' e rfl
    by_cases hs' : s' = []
    · subst hs'; exact ⟨np, by simpa using hnp, hg⟩
    · exact h.anc s' q hs' (by rw [hnp]; simp)

theorem ensureAll_noop {α : Type} (d : α) (qs : List Path) (m : List (Path × α))
    (h : ∀ q ∈ qs, aget q m ≠ none) : ensureAll d qs m = m := by
  induction qs with
  | nil => rfl
  | cons q qs ih =>
    obtain ⟨a, ha⟩ := Option.ne_none_iff_exists'.1 (h q (by simp))
    simp only [ensureAll, ha]
    exact ih (fun q' hq' => h q' (by simp [hq']))

theorem createNode_single {c : Cont V} (h : WF c) {par : Path} (k : Key) {np : RNode V} (n : RNode V)
    (hnp : aget par c = some np) (hg : np.kind.isGroup = true)
    (hnone : aget (par ++ [k]) c = none) :
    Raw.createNode c (par ++ [k]) n = .ok (aput (par ++ [k]) n c) := by
  have hp := prefixes_present h k hnp hg
  have hanc : ancOk c (par ++ [k]) = true := by
    simp only [ancOk, List.all_eq_true]
    intro q hq
    obtain ⟨m, hm, hgm⟩ := hp q hq
    simp [hm, hgm]
  have hens : ensure vnode (par ++ [k]) c = c :=
    ensureAll_noop _ _ _ (fun q hq => by obtain ⟨m, hm, _⟩ := hp q hq; rw [hm]; simp)
  simp [Raw.createNode, hnone, hanc, hens]

theorem isDelAt_none (c : Cont V) (p : Path) (h : aget p c = none) : isDelAt c p = false := by
  simp [isDelAt, h]

theorem createGroup_single {c : Cont V} (h : WF c) {par : Path} (k : Key) {np : RNode V}
    (hnp : aget par c = some np) (hg : np.kind.isGroup = true)
    (hnone : aget (par ++ [k]) c = none) :
    W.createGroup [c] (par ++ [k]) = .ok [aput (par ++ [k]) vnode c] := by
  have hl := look_single_part h k hnp hg hnone
  have hc := createNode_single h k vnode hnp hg hnone
  simp [W.createGroup, hl, W.createGroupAt, isDelAt_none c _ hnone, Raw.createGroup, hc, bind, Except.bind, pure,
    Except.pure]

theorem removeSub_aput_fresh {c : Cont V} (h : WF c) (p : Path) (n : RNode V)
    (hnone : aget p c = none) : removeSub p (aput p n c) = c := by
  rw [aput_absent p n c hnone, removeSub, List.filter_append]
  have h1 : (c.filter fun e => !(isPre p e.1)) = c := by
    apply List.filter_eq_self.mpr
    intro e he
    cases hpre : isPre p e.1 with
    | false => rfl
    | true =>
      obtain ⟨s, hs⟩ := (isPre_iff p e.1).1 hpre
      exact absurd (hs ▸ h.below_none p s hnone) (mem_aget c e he)
  rw [h1]
  simp [isPre_refl]

theorem createDataset_single {c : Cont V} (h : WF c) {par : Path} (k : Key) {np : RNode V} (v : V)
    (hnp : aget par c = some np) (hg : np.kind.isGroup = true)
    (hnone : aget (par ++ [k]) c = none) :
    W.createDataset [c] (par ++ [k]) v = .ok [aput (par ++ [k]) ⟨.data v, []⟩ c] := by
  have hl := look_single_part h k hnp hg hnone
  have hcg := createGroup_single h k hnp hg hnone
  have hc := createNode_single h k ⟨.data v, []⟩ hnp hg hnone
  have hrm := removeSub_aput_fresh h (par ++ [k]) vnode hnone
  simp [W.createDataset, hl, isDelAt_none c _ hnone, hnone, W.createVirtual, hcg, aget_aput_same,
    hrm, hc, bind, Except.bind, pure, Except.pure]

theorem setAttrRaw_single (c : Cont V) (p : Path) (n : RNode V) (k : Key) (v : Option V)
    (hp : aget p c = some n) :
    W.setAttrRaw [c] p k v = .ok [aput p { n with attrs := aput k v n.attrs } c] := by
  simp [W.setAttrRaw, hp, Raw.setAttr, bind, Except.bind, pure, Except.pure]

theorem copyAttrs_single (as : List (Key × V)) :
    ∀ (c : Cont V) (p : Path) (n : RNode V), aget p c = some n →
      W.copyAttrs [c] p as = .ok [aput p { n with attrs := putAll as n.attrs } c] := by
  induction as with
  | nil =>
    intro c p n hp
    simp only [W.copyAttrs, putAll, List.foldl_nil]
    rw [aput_self p _ c (by simpa using hp)]
  | cons kv more ih =>
    intro c p n hp
    obtain ⟨k, v⟩ := kv
    simp only [W.copyAttrs, setAttrRaw_single c p n k (some v) hp, bind, Except.bind]
    rw [ih _ p { n with attrs := aput k (some v) n.attrs } (aget_aput_same _ _ _)]
    simp [putAll, aput_aput_same]

theorem rawKind_notDel (kd : NKind V) : (rawKind kd).isDel = false := by
  cases kd <;> simp [rawKind, RKind.isDel]

theorem plainKind_rawKind (kd : NKind V) : plainKind (rawKind kd) = some kd := by
  cases kd <;> simp [rawKind, plainKind]

/-- the entry can be replayed: its parent is an existing group and the path itself is fresh -/
def StepOk (c : Cont V) (e : Path × NKind V × List (Key × V)) : Prop :=
  ∃ par k np, e.1 = par ++ [k] ∧ aget par c = some np ∧ np.kind.isGroup = true ∧ aget e.1 c = none

/-- parents-first, duplicate-free sequence of entries relative to a starting container -/
def Chain : Cont V → List (Path × NKind V × List (Key × V)) → Prop
  | _, [] => True
  | c, e :: more => StepOk c e ∧ Chain (apply1 c e) more

/-- one iteration of the replay loop -/
def stepBody (r : Rec V) (e : Path × NKind V × List (Key × V)) : Except Err (Rec V) := do
  let r1 ← (match e.2.1 with
    | .group => W.createGroup r e.1
    | .data v => W.createDataset r e.1 v)
  match look r1 e.1 with
    | .found _ _ => W.copyAttrs r1 e.1 e.2.2
    | _ => .error .missing

theorem step_single {c : Cont V} (g : Good c) (e : Path × NKind V × List (Key × V)) (h : StepOk c e) :
    stepBody [c] e = .ok [apply1 c e] ∧ Good (apply1 c e) := by
  obtain ⟨par, k, np, hq, hnp, hg, hnone⟩ := h
  obtain ⟨q, kd, as⟩ := e
  simp only at hq hnone ⊢
  subst hq
  -- the node is created without attributes, then the attributes are copied
  have hcreate : (match kd with
      | .group => W.createGroup [c] (par ++ [k])
      | .data v => W.createDataset [c] (par ++ [k]) v) = .ok [aput (par ++ [k]) ⟨rawKind kd, []⟩ c] := by
    cases kd with
    | group => exact createGroup_single g.wf k hnp hg hnone
    | data v => exact createDataset_single g.wf k v hnp hg hnone
  have g1 := good_aput_new g k ⟨rawKind kd, []⟩ hnp hg hnone (rawKind_notDel kd)
  obtain ⟨i, m, hl⟩ := look_single_found g1 (aget_aput_same _ _ _)
  refine ⟨?_, good_aput_new g k ⟨rawKind kd, putAll as []⟩ hnp hg hnone (rawKind_notDel kd)⟩
  simp only [stepBody, hcreate, bind, Except.bind, hl,
    copyAttrs_single as _ _ ⟨rawKind kd, []⟩ (aget_aput_same _ _ _)]
  simp [apply1, aput_aput_same]

theorem replay_cons (r : Rec V) (e : Path × NKind V × List (Key × V)) (more : List (Path × NKind V × List (Key × V))) :
    W.replay [] [] r (e :: more) = (stepBody r e) >>= fun r2 => W.replay [] [] r2 more := by
  obtain ⟨q, kd, as⟩ := e
  simp only [W.replay, stepBody, List.nil_append, List.length_nil, List.drop_zero, bind_assoc]
  rfl

theorem replay_single (l : List (Path × NKind V × List (Key × V))) :
    ∀ (c : Cont V), Good c → Chain c l →
      W.replay [] [] [c] l = .ok [l.foldl apply1 c] ∧ Good (l.foldl apply1 c) := by
  induction l with
  | nil => intro c g _; exact ⟨rfl, g⟩
  | cons e more ih =>
    intro c g hch
    obtain ⟨h1, g1⟩ := step_single g e hch.1
    obtain ⟨h2, g2⟩ := ih (apply1 c e) g1 hch.2
    exact ⟨by rw [replay_cons, h1]; exact h2, g2⟩

theorem chain_fresh (l : List (Path × NKind V × List (Key × V))) :
    ∀ (c : Cont V) (q : Path), Chain c l → aget q c ≠ none → aget q l = none := by
  induction l with
  | nil => intro c q _ _; rfl
  | cons e more ih =>
    intro c q hch hq
    obtain ⟨⟨par, k, np, _, _, _, hnone⟩, hmore⟩ := hch
    have hne : e.1 ≠ q := by intro he; rw [he] at hnone; exact hq hnone
    obtain ⟨p, kd, as⟩ := e
    simp only [aget, hne, if_false]
    exact ih _ q hmore (by rw [apply1, aget_aput_other _ _ _ _ (fun h => hne h.symm)]; exact hq)

theorem foldl_apply1_get (l : List (Path × NKind V × List (Key × V))) :
    ∀ (c : Cont V) (q : Path), Chain c l →
      aget q (l.foldl apply1 c) = match aget q l with
        | some e => some ⟨rawKind e.1, putAll e.2 []⟩
        | none => aget q c := by
  induction l with
  | nil => intro c q _; rfl
  | cons e more ih =>
    intro c q hch
    obtain ⟨p, kd, as⟩ := e
    simp only [List.foldl_cons, ih _ q hch.2]
    by_cases hp : p = q
    · subst hp
      simp [chain_fresh more _ p hch.2 (by simp [apply1, aget_aput_same]), aget, apply1, aget_aput_same]
    · simp only [aget, hp, if_false]
      cases aget q more with
      | some e' => rfl
      | none => simp [apply1, aget_aput_other _ _ _ _ (fun h : q = p => hp h.symm)]

theorem aget_putAll (as : List (Key × V)) :
    ∀ (m : List (Key × Option V)) (k : Key), (as.map (·.1)).Nodup →
      aget k (putAll as m) = match aget k as with
        | some v => some (some v)
        | none => aget k m := by
  induction as with
  | nil => intro m k _; rfl
  | cons kv more ih =>
    intro m k hnd
    obtain ⟨k1, v1⟩ := kv
    simp only [List.map_cons, List.nodup_cons] at hnd
    rw [show putAll ((k1, v1) :: more) m = putAll more (aput k1 (some v1) m) from rfl, ih _ k hnd.2]
    by_cases hk : k1 = k
    · subst hk
      have hnone : aget k1 more = none := by
        cases h : aget k1 more with
        | none => rfl
        | some v => exact absurd (List.mem_map_of_mem (f := (·.1)) (aget_mem _ _ _ h)) hnd.1
      simp [aget, hnone, aget_aput_same]
    · simp only [aget, hk, if_false]
      cases aget k more with
      | some v => rfl
      | none => simp [aget_aput_other _ _ _ _ (fun h : k = k1 => hk h.symm)]

/-! ## `materialise`: the merged / stub container shows exactly the listing it was built from -/
theorem good_rootCont (as : List (Key × V)) : Good (rootCont as) :=
  good_aput_attrs good_init _ (n := vnode) rfl

/-- the listing can be replayed parents-first into a fresh container -/
def Replayable (l : Listing V) : Prop := Chain (rootCont (rootAttrsOf l)) (nonRoot l)

theorem materialise_eq (l : Listing V) (h : Replayable l) :
    materialise l = .ok [(nonRoot l).foldl apply1 (rootCont (rootAttrsOf l))] ∧
    Good ((nonRoot l).foldl apply1 (rootCont (rootAttrsOf l))) := by
  have hroot : W.copyAttrs (Rec.init : Rec V) [] (rootAttrsOf l) = .ok [rootCont (rootAttrsOf l)] :=
    copyAttrs_single (rootAttrsOf l) (Cont.init : Cont V) [] vnode rfl
  obtain ⟨h1, g1⟩ := replay_single (nonRoot l) (rootCont (rootAttrsOf l)) (good_rootCont _) h
  refine ⟨?_, g1⟩
  change (do let r1 ← W.copyAttrs (Rec.init : Rec V) [] (rootAttrsOf l); W.replay [] [] r1 (nonRoot l)) = _
  rw [hroot]
  exact h1

theorem materialise_single (l : Listing V) (h : Replayable l) (m : Rec V) (hm : materialise l = .ok m) :
    ∃ c, m = [c] ∧ Good c := by
  obtain ⟨heq, g⟩ := materialise_eq l h
  rw [heq] at hm
  cases hm
  exact ⟨_, rfl, g⟩

theorem materialise_get (l : Listing V) (h : Replayable l) (q : Path) :
    aget q ((nonRoot l).foldl apply1 (rootCont (rootAttrsOf l))) =
      if q = [] then some ⟨.vgroup, putAll (rootAttrsOf l) []⟩
      else (aget q (nonRoot l)).map (fun e => ⟨rawKind e.1, putAll e.2 []⟩) := by
  rw [foldl_apply1_get _ _ _ h]
  by_cases hq : q = []
  · subst hq
    rw [chain_fresh _ _ [] h (by simp [rootCont, aget_aput_same])]
    simp [rootCont, aget_aput_same, vnode]
  · rw [if_neg hq]
    cases aget q (nonRoot l) with
    | some e => rfl
    | none => simp [rootCont, aget_aput_other _ _ _ _ hq, aget_init, hq]

theorem materialise_view (l : Listing V) (h : Replayable l) (m : Rec V) (hm : materialise l = .ok m)
    (hnd : ∀ e ∈ l, (e.2.2.map (·.1)).Nodup) (q : Path) (hq : q ≠ []) :
    viewKind m q = (aget q (nonRoot l)).map (fun e => e.1) ∧
    ∀ k, viewAttr m q k = (aget q (nonRoot l)).bind (fun e => aget k e.2) := by
  obtain ⟨heq, g⟩ := materialise_eq l h
  rw [heq] at hm
  cases hm
  obtain ⟨hk, ha⟩ := view_single g.wf q
  rw [materialise_get l h, if_neg hq] at hk ha
  cases hl : aget q (nonRoot l) with
  | none => rw [hl] at hk ha; exact ⟨hk, ha⟩
  | some e =>
    rw [hl] at hk ha
    refine ⟨hk.trans (plainKind_rawKind e.1), fun k => (ha k).trans ?_⟩
    have hn := hnd (q, e) (List.mem_filter.mp (aget_mem _ _ _ hl)).1
    simp only [Option.map_some, plainA, Option.bind_some, plainKind_rawKind, aget_putAll e.2 [] k hn]
    cases aget k e.2 <;> rfl

theorem materialise_root_attr (l : Listing V) (h : Replayable l) (m : Rec V) (hm : materialise l = .ok m)
    (hnd : (rootAttrsOf l |>.map (·.1)).Nodup) (k : Key) :
    viewAttr m [] k = aget k (rootAttrsOf l) := by
  obtain ⟨heq, g⟩ := materialise_eq l h
  rw [heq] at hm
  cases hm
  rw [(view_single g.wf []).2 k, materialise_get l h, if_pos rfl]
  simp only [plainA, Option.bind_some, plainKind, aget_putAll _ [] k hnd]
  cases aget k (rootAttrsOf l) <;> rfl

/-! ## the decidable well-formedness report implies `Replayable` -/

theorem stepOkB_sound (c : Cont V) (e : Path × NKind V × List (Key × V)) (h : stepOkB c e = true) :
    StepOk c e := by
  simp only [stepOkB] at h
  cases hr : e.1.reverse with
  | nil => simp [hr] at h
  | cons k rpar =>
    simp only [hr, Bool.and_eq_true, Option.isNone_iff_eq_none] at h
    obtain ⟨h1, h2⟩ := h
    have he : e.1 = rpar.reverse ++ [k] := by
      have := congrArg List.reverse hr
      simpa using this
    cases hp : aget rpar.reverse c with
    | none => simp [hp] at h1
    | some np =>
      simp only [hp] at h1
      exact ⟨rpar.reverse, k, np, he, hp, h1, h2⟩

theorem chainB_sound (l : Listing V) : ∀ (c : Cont V), chainB c l = true → Chain c l := by
  induction l with
  | nil => intro c _; trivial
  | cons e more ih =>
    intro c h
    simp only [chainB, Bool.and_eq_true] at h
    exact ⟨stepOkB_sound c e h.1, ih _ h.2⟩

theorem replayableB_sound (l : Listing V) (h : replayableB l = true) : Replayable l :=
  chainB_sound _ _ h

/-! ## stubs: the emptied listing is replayable whenever the listing is -/

/-- kind and attribute names kept, all values replaced by `empty` -/
def emptied (empty : V) (x : NKind V × List (Key × V)) : NKind V × List (Key × V) :=
  ((match x.1 with | .group => .group | .data _ => .data empty), x.2.map (fun kv => (kv.1, empty)))

theorem stubListing_eq (empty : V) (l : Listing V) :
    stubListing empty l = l.map (fun e => (e.1, emptied empty e.2)) := rfl

def SameShape (c c' : Cont V) : Prop :=
  ∀ q, (aget q c).map (fun n => n.kind.isGroup) = (aget q c').map (fun n => n.kind.isGroup)

theorem rawKind_emptied_isGroup (empty : V) (kd : NKind V) :
    (rawKind (emptied empty (kd, ([] : List (Key × V)))).1).isGroup = (rawKind kd).isGroup := by
  cases kd <;> rfl

theorem chain_stub (empty : V) (l : Listing V) :
    ∀ (c c' : Cont V), SameShape c c' → Chain c l →
      Chain c' (l.map (fun e => (e.1, emptied empty e.2))) := by
  induction l with
  | nil => intro c c' _ _; trivial
  | cons e more ih =>
    intro c c' hs hch
    obtain ⟨⟨par, k, np, he, hnp, hg, hnone⟩, hmore⟩ := hch
    obtain ⟨p, kd, as⟩ := e
    simp only at he hnone
    refine ⟨?_, ?_⟩
    · have h1 := hs par
      rw [hnp] at h1
      cases hp' : aget par c' with
      | none => simp [hp'] at h1
      | some np' =>
        simp only [hp', Option.map_some, Option.some.injEq] at h1
        have h2 := hs p
        rw [hnone] at h2
        have hn' : aget p c' = none := by
          cases hx : aget p c' with
          | none => rfl
          | some x => simp [hx] at h2
        exact ⟨par, k, np', he, hp', by rw [← h1]; exact hg, hn'⟩
    · apply ih (apply1 c (p, kd, as)) _ _ hmore
      intro q
      simp only [apply1, aget_aput]
      by_cases hq : q = p
      · simp only [hq, if_true, Option.map_some, emptied]
        cases kd <;> rfl
      · simp only [hq, if_false]
        exact hs q

theorem nonRoot_stub (empty : V) (l : Listing V) :
    nonRoot (stubListing empty l) = (nonRoot l).map (fun e => (e.1, emptied empty e.2)) := by
  simp only [nonRoot, stubListing_eq, List.filter_map]
  rfl

theorem replayable_stub (empty : V) (l : Listing V) (h : Replayable l) :
    Replayable (stubListing empty l) := by
  unfold Replayable at *
  rw [nonRoot_stub]
  apply chain_stub empty (nonRoot l) (rootCont (rootAttrsOf l)) _ _ h
  intro q
  simp only [rootCont, aget_aput]
  by_cases hq : q = [] <;> simp [hq]

theorem rootAttrsOf_stub (empty : V) (l : Listing V) :
    rootAttrsOf (stubListing empty l) = (rootAttrsOf l).map (fun kv => (kv.1, empty)) := by
  induction l with
  | nil => rfl
  | cons e es ih =>
    obtain ⟨p, kd, as⟩ := e
    by_cases hp : p = []
    · subst hp; rfl
    · have hb : (p == []) = false := by simpa using hp
      simpa only [rootAttrsOf, stubListing, List.map_cons, List.find?_cons, hb] using ih

end MetadorModel.Single
