import MetadorModel.Proofs.ContainerInv
import Mathlib.Data.List.Infix
/-!
# The initial container state satisfies the invariant; an executable check of `WFEnv`
-/
namespace MetadorModel.Container

/-- `WFEnv` spelled out over the finite tables of the environment (decidable) -/
def WFEnvCheck (e : Env) : Prop :=
  (∀ i ∈ e.schemas, i.parents.getLast? = some i.ref ∧ i.parents.Nodup ∧ i.ref ∈ e.pkgPlugins i.pkg ∧
     ∀ a ∈ i.parents.inits, a ≠ [] → ∃ p ∈ a, a.getLast? = some p ∧ ppath e p = a) ∧
  (∀ x ∈ e.pkgs, ∀ y ∈ e.pkgs, ∀ r ∈ e.pkgPlugins x.1, r ∈ e.pkgPlugins y.1 → x.1 = y.1) ∧
  (∀ x ∈ e.pkgs, (e.pkgPlugins x.1).Nodup)

instance (e : Env) : Decidable (WFEnvCheck e) := by
  unfold WFEnvCheck; infer_instance

theorem info_mem {e : Env} {r : SRef} {i : SInfo} (h : e.info r = some i) : i ∈ e.schemas := by
  unfold Env.info at h
  exact List.mem_of_find?_eq_some h

theorem pkgPlugins_key {e : Env} {pk : PkgId} {r : SRef} (h : r ∈ e.pkgPlugins pk) :
    ∃ x ∈ e.pkgs, x.1 = pk := by
  unfold Env.pkgPlugins at h
  cases hg : alGet e.pkgs pk with
  | none => simp [hg] at h
  | some l =>
    have : pk ∈ alKeys e.pkgs := (alGet_isSome_iff _ _).mp (by rw [hg]; rfl)
    obtain ⟨x, hx, rfl⟩ := List.mem_map.mp this
    exact ⟨x, hx, rfl⟩

theorem WFEnv.of_check {e : Env} (h : WFEnvCheck e) : WFEnv e := by
  obtain ⟨h1, h2, h3⟩ := h
  refine ⟨?_, ?_, ?_, ?_, ?_, ?_⟩
  · intro r i hi
    rw [← info_ref hi]; exact (h1 i (info_mem hi)).1
  · intro r i hi; exact (h1 i (info_mem hi)).2.1
  · intro r i a b hi hab ha
    obtain ⟨p, -, hp, hpp⟩ := (h1 i (info_mem hi)).2.2.2 a (by rw [List.mem_inits, hab]; simp) ha
    exact ⟨p, hp, hpp⟩
  · intro r i hi
    rw [← info_ref hi]; exact (h1 i (info_mem hi)).2.2.1
  · intro pk pk' r hr hr'
    obtain ⟨x, hx, rfl⟩ := pkgPlugins_key hr
    obtain ⟨y, hy, rfl⟩ := pkgPlugins_key hr'
    exact h2 x hx y hy r hr hr'
  · intro pk
    cases hg : alGet e.pkgs pk with
    | none => simp [Env.pkgPlugins, hg]
    | some l =>
      have : pk ∈ alKeys e.pkgs := (alGet_isSome_iff _ _).mp (by rw [hg]; rfl)
      obtain ⟨x, hx, rfl⟩ := List.mem_map.mp this
      exact h3 x hx

theorem init_get? (q : Path) : get? initSt.raw q =
    if q = [] then some .grp else if q = uuidP then some (.ds (.text "uuid"))
    else if q = versionP then some (.ds (.text "1.0")) else if q = tocP then some .grp else none := by
  by_cases h0 : q = []
  · simp [h0]
  · rw [get?_ne_nil h0]
    simp only [initSt, lookup, h0, if_false, eq_comm (b := q)]

theorem init_nontoc (q : Path) (h0 : q ≠ []) (hq : q.head? ≠ some .toc) : get? initSt.raw q = none := by
  rw [init_get?, if_neg h0, if_neg, if_neg, if_neg] <;> rintro rfl <;> exact hq rfl

theorem init_noObj (p : Path) (r : SRef) (u : Nat) : ¬ ObjAt initSt.raw p r u :=
  fun ⟨_, _, hb, hp, hg⟩ => hg (hp ▸ init_nontoc _ (by simp) (objPath_head hb))

/-- `MetadorContainer(raw)` on an empty file establishes the invariant -/
theorem init_inv (e : Env) : Inv e initSt := by
  have nou : ∀ r, ¬ UsedIn initSt.raw r := fun r ⟨p, u, h⟩ => init_noObj p r u h
  have noreg : ∀ pk, ¬ RegP e (UsedIn initSt.raw) pk := fun pk ⟨r, _, h, _⟩ => nou r h
  have nontoc := init_nontoc
  refine ⟨⟨by decide, ?_⟩, ?_, ?_, ?_, ?_, ?_⟩
  · intro n hm
    simp [initSt, uuidP, versionP, tocP] at hm
  · -- the parent of each of the three nodes is `/metador_container` or the root
    intro q k hne
    rw [init_get?, if_neg (by simp)] at hne
    split_ifs at hne with h1 h2 h3
    · obtain rfl := (List.append_inj' (show q ++ [k] = [Key.toc] ++ [Key.uuid] from h1) rfl).1; rfl
    · obtain rfl := (List.append_inj' (show q ++ [k] = [Key.toc] ++ [Key.version] from h2) rfl).1; rfl
    · obtain rfl := (List.append_inj' (show q ++ [k] = [] ++ [Key.toc] from h3) rfl).1; rfl
    · exact absurd rfl hne
  · constructor
    · intro q n h0 hq hg
      rw [nontoc q h0 hq] at hg; cases hg
    · intro base m hb hg
      rw [nontoc _ (by simp) (objPath_head hb)] at hg
      exact absurd rfl hg
    · intro p r u h; exact absurd h (init_noObj p r u)
    · intro base m r u r' u' hb hg
      rw [nontoc _ (by simp) (objPath_head hb)] at hg
      exact absurd rfl hg
    · intro p p' r r' u h; exact absurd h (init_noObj p r u)
    · intro p r u h; exact absurd h (init_noObj p r u)
  · -- the three nodes of the fresh file are the only ones; records lie deeper or are absent
    have deep : ∀ q : Path, 2 < q.length → get? initSt.raw q = none := fun q h => by
      rw [init_get?, if_neg, if_neg, if_neg, if_neg] <;> rintro rfl <;> simp [uuidP, versionP, tocP] at h
    have g : ∀ q, get? initSt.raw q = _ := init_get?
    refine ⟨rfl, rfl, rfl, ⟨fun ⟨p, r, u, h⟩ => absurd h (init_noObj p r u), fun _ => rfl⟩,
      fun r => ⟨fun ⟨p, u, h⟩ => absurd h (init_noObj p r u), fun _ => deep _ (by simp [linkDir])⟩,
      fun p r u h => absurd h (init_noObj p r u), fun r u _ => deep _ (by simp [linkPath]),
      ⟨fun ⟨r, h⟩ => absurd h (nou r), fun _ => rfl⟩,
      fun r => ⟨fun h => absurd h (nou r), fun _ => deep _ (by simp [schemaDir])⟩,
      fun r => ⟨fun h => absurd h (nou r), fun _ => deep _ (by simp [schemaDir])⟩,
      fun r => ⟨fun h => absurd h (nou r), fun _ => deep _ (by simp [schemaDir])⟩,
      ⟨fun ⟨r, h⟩ => absurd h (nou r), fun _ => rfl⟩,
      fun pk => ⟨fun h => absurd h (noreg pk), fun _ => deep _ (by simp [pkgPath])⟩, ?_⟩
    · intro rest hne
      rw [g] at hne
      by_cases h1 : Key.toc :: rest = uuidP
      · simp only [uuidP, List.cons.injEq, true_and] at h1; rw [h1]; exact .uuid
      · by_cases h2 : Key.toc :: rest = versionP
        · simp only [versionP, List.cons.injEq, true_and] at h2; rw [h2]; exact .version
        · by_cases h3 : Key.toc :: rest = tocP
          · simp only [tocP, List.cons.injEq, true_and] at h3; rw [h3]; exact .root
          · simp [h1, h2, h3] at hne
  · refine ⟨fun r => ?_, List.nodup_nil, ⟨fun P => ?_, fun P => Iff.rfl, fun P l h => ?_, fun P cs h => ?_⟩,
      fun pk pl => ?_, fun r ps => ?_, fun pk h => absurd h (noreg pk), fun pk rs h => ?_⟩
    · simp [initSt]; exact nou r
    · simp only [initSt, alGet_nil, Option.isSome_none, Bool.false_eq_true, false_iff]
      rintro ⟨S, hS, -⟩; exact nou S hS
    · simp [initSt] at h
    · simp [initSt] at h
    · show alGet ([] : List (PkgId × List SRef)) pk = some pl ↔ _
      exact ⟨fun h => (by cases h), fun ⟨h, _⟩ => absurd h (noreg pk)⟩
    · show alGet ([] : List (SRef × List PkgId)) r = some ps ↔ _
      exact ⟨fun h => (by cases h), fun ⟨pk, _, h, _⟩ => absurd h (noreg pk)⟩
    · simp [initSt] at h
  · intro u tp
    show alGet ([] : List (Nat × Path)) u = some tp ↔ _
    exact ⟨fun h => (by cases h), fun ⟨p, r, h, _⟩ => absurd h (init_noObj p r u)⟩

end MetadorModel.Container
