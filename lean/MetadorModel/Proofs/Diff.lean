import MetadorModel.Proofs.DiffMap
/-! Directory diffs (C18), basic facts: well-formedness; the two sides of a comparison as
`Option DirTree`; a record seen from further up (`Rec.pre`); the three buckets of a node as lists
over sets of keys; independence of the listing from the path prefix. -/
namespace MetadorModel.Diff
open MetadorModel

theorem wf_dir (es : Entries) : (DirTree.dir es).wf = true ↔ AL.sorted es = true ∧ wfEs es = true := by
  simp [DirTree.wf]

theorem wfEs_cons (k : String) (t : DirTree) (r : Entries) :
    wfEs ((k, t) :: r) = true ↔ t.wf = true ∧ wfEs r = true := by
  simp [wfEs]

theorem wfEs_iff (es : Entries) : wfEs es = true ↔ ∀ e ∈ es, e.2.wf = true := by
  induction es with
  | nil => simp [wfEs]
  | cons a r ih => rw [wfEs_cons, ih, List.forall_mem_cons]

theorem wfEs_get {es : Entries} (h : wfEs es = true) {k : String} {t : DirTree}
    (hg : AL.get es k = some t) : t.wf = true :=
  (wfEs_iff es).mp h _ (AL.mem_of_get hg)

theorem wfEs_ins {es : Entries} (h : wfEs es = true) (k : String) {t : DirTree} (ht : t.wf = true) :
    wfEs (AL.ins k t es) = true :=
  (wfEs_iff _).mpr fun _ he => (AL.mem_ins he).elim (fun h' => h' ▸ ht) ((wfEs_iff es).mp h _)

theorem wfEs_erase {es : Entries} (h : wfEs es = true) (k : String) : wfEs (AL.erase k es) = true :=
  (wfEs_iff _).mpr fun e he => (wfEs_iff es).mp h e ((AL.erase_sublist k es).subset he)

/-- the entries of a directory; a file (or nothing) has none -/
def entriesO : Option DirTree → Entries
  | some (.dir es) => es
  | _ => []

def wfO : Option DirTree → Prop
  | none => True
  | some t => t.wf = true

/-- `lookup` with a possibly missing tree -/
def lookupO : Option DirTree → Path → Option DirTree
  | none, _ => none
  | some t, p => lookup t p

theorem lookup_cons_dir (es : Entries) (k : String) (p : Path) :
    lookup (.dir es) (k :: p) = lookupO (AL.get es k) p := by
  rw [lookup]
  cases AL.get es k <;> rfl

theorem lookupO_cons (x : Option DirTree) (k : String) (q : Path) :
    lookupO x (k :: q) = lookupO (AL.get (entriesO x) k) q := by
  rcases x with _ | s | es
  · rfl
  · rfl
  · exact lookup_cons_dir es k q

theorem lookupO_nil (x : Option DirTree) : lookupO x [] = x := by
  cases x <;> simp [lookupO, lookup]

theorem wfO_entries {x : Option DirTree} (h : wfO x) :
    AL.sorted (entriesO x) = true ∧ wfEs (entriesO x) = true := by
  rcases x with _ | s | es
  · exact ⟨rfl, rfl⟩
  · exact ⟨rfl, rfl⟩
  · exact (wf_dir es).mp h

theorem wfO_get {x : Option DirTree} (h : wfO x) (k : String) : wfO (AL.get (entriesO x) k) := by
  cases hg : AL.get (entriesO x) k with
  | none => trivial
  | some t => exact wfEs_get (wfO_entries h).2 hg

/-- the record seen from `p` levels further up -/
def Rec.pre (p : Path) (r : Rec) : Rec := ⟨p ++ r.path, r.prev, r.curr⟩

@[simp] theorem Rec.pre_path (p : Path) (r : Rec) : (Rec.pre p r).path = p ++ r.path := rfl
@[simp] theorem Rec.pre_prev (p : Path) (r : Rec) : (Rec.pre p r).prev = r.prev := rfl
@[simp] theorem Rec.pre_curr (p : Path) (r : Rec) : (Rec.pre p r).curr = r.curr := rfl

theorem Rec.pre_pre (p q : Path) (r : Rec) : Rec.pre p (Rec.pre q r) = Rec.pre (p ++ q) r := by
  simp [Rec.pre, List.append_assoc]

theorem Rec.pre_nil (r : Rec) : Rec.pre [] r = r := by
  cases r; simp [Rec.pre]

theorem nodes_mk (p : Path) (pv cv : Option DirTree) (rm md ad : List DNode) :
    nodes (.mk p pv cv rm md ad) = nodesL rm ++ (nodesL md ++ (⟨p, pv, cv⟩ :: nodesL ad)) := by
  simp [nodes]

@[simp] theorem nodesL_nil : nodesL [] = [] := by simp [nodesL]
theorem nodesL_cons (d : DNode) (r : List DNode) : nodesL (d :: r) = nodes d ++ nodesL r := by
  simp [nodesL]

theorem nodesL_filterMap {α : Type} (f : α → Option DNode) (l : List α) :
    nodesL (l.filterMap f) = l.flatMap (fun a => nodesO (f a)) := by
  induction l with
  | nil => rfl
  | cons a r ih =>
    rw [List.filterMap_cons, List.flatMap_cons, ← ih]
    cases f a with
    | none => rfl
    | some d => exact nodesL_cons d _

theorem nodesO_map_none : (nodesO none).map (Rec.pre p) = nodesO none := by simp [nodesO]

theorem isEmpty_nodesL_of_isEmpty {l : List DNode} (h : l.isEmpty = true) : nodesL l = [] := by
  cases l with
  | nil => simp
  | cons a r => simp at h

theorem cmpT_dir_dir (path : Path) (es fs : Entries) :
    cmpT path (.dir es) (.dir fs) =
      if (remSel path es fs).isEmpty && (cmpEs path es fs).isEmpty && (addSel path fs es).isEmpty then none
      else some (.mk path (some (.dir es)) (some (.dir fs)) (remSel path es fs) (cmpEs path es fs)
        (addSel path fs es)) := by
  simp [cmpT]

theorem cmpEs_cons (path : Path) (k : String) (t : DirTree) (r fs : Entries) :
    cmpEs path ((k, t) :: r) fs =
      match AL.get fs k with
      | none => cmpEs path r fs
      | some u =>
        match cmpT (path ++ [k]) t u with
        | none => cmpEs path r fs
        | some d => d :: cmpEs path r fs := by
  rw [cmpEs]
  cases AL.get fs k with
  | none => rfl
  | some u => cases cmpT (path ++ [k]) t u <;> rfl

/-- the keys of `es` that `fs` does not have -/
def only (es fs : Entries) : List String := (es.map Prod.fst).filter fun k => (AL.get fs k).isNone

/-- the keys of `es` that `fs` has too -/
def both (es fs : Entries) : List String := (es.map Prod.fst).filter fun k => (AL.get fs k).isSome

theorem mem_only {es fs : Entries} {k : String} :
    k ∈ only es fs ↔ (AL.get es k).isSome = true ∧ AL.get fs k = none := by
  rw [only, List.mem_filter, AL.mem_keys, Option.isNone_iff_eq_none]

theorem mem_both {es fs : Entries} {k : String} :
    k ∈ both es fs ↔ (AL.get es k).isSome = true ∧ (AL.get fs k).isSome = true := by
  rw [both, List.mem_filter, AL.mem_keys]

/-- every child of a directory node is the node of the two entries at its name:
`removed`, `modified` and `added` differ in the keys they range over. -/
theorem remSel_eq {es : Entries} (hs : AL.sorted es = true) (p : Path) (fs : Entries) :
    remSel p es fs = (only es fs).filterMap fun k => compareAt (p ++ [k]) (AL.get es k) (AL.get fs k) := by
  rw [only, ← AL.filterMap_sel hs _ fun k o => compareAt (p ++ [k]) o (AL.get fs k)]
  clear hs
  induction es with
  | nil => rfl
  | cons a r ih =>
    rw [remSel, List.filterMap_cons, ih]
    cases AL.get fs a.1 <;> rfl

theorem addSel_eq {fs : Entries} (hs : AL.sorted fs = true) (p : Path) (es : Entries) :
    addSel p fs es = (only fs es).filterMap fun k => compareAt (p ++ [k]) (AL.get es k) (AL.get fs k) := by
  rw [only, ← AL.filterMap_sel hs _ fun k o => compareAt (p ++ [k]) (AL.get es k) o]
  clear hs
  induction fs with
  | nil => rfl
  | cons a r ih =>
    rw [addSel, List.filterMap_cons, ih]
    cases AL.get es a.1 <;> rfl

theorem cmpEs_eq {es : Entries} (hs : AL.sorted es = true) (p : Path) (fs : Entries) :
    cmpEs p es fs = (both es fs).filterMap fun k => compareAt (p ++ [k]) (AL.get es k) (AL.get fs k) := by
  rw [both, ← AL.filterMap_sel hs _ fun k o => compareAt (p ++ [k]) o (AL.get fs k)]
  clear hs
  induction es with
  | nil => rfl
  | cons a r ih =>
    rw [cmpEs_cons, List.filterMap_cons, ih]
    cases h : AL.get fs a.1 with
    | none => rfl
    | some u =>
      simp only [compareAt, Option.isSome_some, if_true]
      cases cmpT (p ++ [a.1]) a.2 u <;> rfl

theorem remSel_filter (p : Path) (es fs : Entries) :
    remSel p es fs = remEs p (es.filter fun e => (AL.get fs e.1).isNone) := by
  induction es with
  | nil => rfl
  | cons a r ih =>
    rw [remSel, List.filter_cons, ih]
    cases AL.get fs a.1 <;> rfl

theorem addSel_filter (p : Path) (fs es : Entries) :
    addSel p fs es = addEs p (fs.filter fun e => (AL.get es e.1).isNone) := by
  induction fs with
  | nil => rfl
  | cons a r ih =>
    rw [addSel, List.filter_cons, ih]
    cases AL.get es a.1 <;> rfl

theorem remEs_isEmpty (p : Path) (es : Entries) : (remEs p es).isEmpty = es.isEmpty := by
  cases es <;> rfl

theorem addEs_isEmpty (p : Path) (es : Entries) : (addEs p es).isEmpty = es.isEmpty := by
  cases es <;> rfl

theorem addSel_nil_right (p : Path) (fs : Entries) : addSel p fs [] = addEs p fs := by
  rw [addSel_filter]; exact congrArg _ (List.filter_eq_self.mpr fun _ _ => rfl)

theorem remSel_nil_right (p : Path) (es : Entries) : remSel p es [] = remEs p es := by
  rw [remSel_filter]; exact congrArg _ (List.filter_eq_self.mpr fun _ _ => rfl)

theorem cmpEs_nil_right (p : Path) (es : Entries) : cmpEs p es [] = [] := by
  induction es with
  | nil => rfl
  | cons a r ih => rw [cmpEs_cons]; exact ih

theorem remSel_nil_left (p : Path) (fs : Entries) : remSel p [] fs = [] := by simp [remSel]
theorem addSel_nil_left (p : Path) (es : Entries) : addSel p [] es = [] := by simp [addSel]
theorem cmpEs_nil_left (p : Path) (fs : Entries) : cmpEs p [] fs = [] := by simp [cmpEs]

theorem nodes_mk_pre (p q : Path) (pv cv : Option DirTree) {rm rm' md md' ad ad' : List DNode}
    (h1 : nodesL rm' = (nodesL rm).map (Rec.pre p)) (h2 : nodesL md' = (nodesL md).map (Rec.pre p))
    (h3 : nodesL ad' = (nodesL ad).map (Rec.pre p)) :
    nodes (.mk (p ++ q) pv cv rm' md' ad') = (nodes (.mk q pv cv rm md ad)).map (Rec.pre p) := by
  rw [nodes_mk, nodes_mk, h1, h2, h3, List.map_append, List.map_append, List.map_cons]
  rfl

/-- a statement about all trees together with one about all lists of entries: the recursion
through the nested type is done here once -/
theorem tree_induction {P : DirTree → Prop} {Q : Entries → Prop} (hf : ∀ s, P (.file s))
    (hd : ∀ es, Q es → P (.dir es)) (hn : Q []) (hc : ∀ k t r, P t → Q r → Q ((k, t) :: r)) :
    (∀ t, P t) ∧ ∀ es, Q es :=
  ⟨DirTree.rec (motive_3 := fun e => P e.2) hf hd hn (fun e r => hc e.1 e.2 r) fun _ _ h => h,
   DirTree.rec_1 (motive_3 := fun e => P e.2) hf hd hn (fun e r => hc e.1 e.2 r) fun _ _ h => h⟩

theorem addT_pre :
    (∀ t p q, nodes (addT (p ++ q) t) = (nodes (addT q t)).map (Rec.pre p)) ∧
    ∀ es p q, nodesL (addEs (p ++ q) es) = (nodesL (addEs q es)).map (Rec.pre p) :=
  tree_induction (fun _ p q => nodes_mk_pre p q _ _ rfl rfl rfl)
    (fun _ ih p q => nodes_mk_pre p q _ _ rfl rfl (ih p q)) (fun _ _ => rfl)
    fun k t r iht ihr p q => by
      rw [addEs, addEs, nodesL_cons, nodesL_cons, List.map_append, List.append_assoc, iht p (q ++ [k]), ihr p q]

theorem remT_pre :
    (∀ t p q, nodes (remT (p ++ q) t) = (nodes (remT q t)).map (Rec.pre p)) ∧
    ∀ es p q, nodesL (remEs (p ++ q) es) = (nodesL (remEs q es)).map (Rec.pre p) :=
  tree_induction (fun _ p q => nodes_mk_pre p q _ _ rfl rfl rfl)
    (fun _ ih p q => nodes_mk_pre p q _ _ (ih p q) rfl rfl) (fun _ _ => rfl)
    fun k t r iht ihr p q => by
      rw [remEs, remEs, nodesL_cons, nodesL_cons, List.map_append, List.append_assoc, iht p (q ++ [k]), ihr p q]

theorem cmp_pre :
    (∀ a b p q, (cmpT (p ++ q) a b).isNone = (cmpT q a b).isNone ∧
      nodesO (cmpT (p ++ q) a b) = (nodesO (cmpT q a b)).map (Rec.pre p)) ∧
    ∀ es fs p q, (cmpEs (p ++ q) es fs).isEmpty = (cmpEs q es fs).isEmpty ∧
      nodesL (cmpEs (p ++ q) es fs) = (nodesL (cmpEs q es fs)).map (Rec.pre p) := by
  refine tree_induction (fun s b p q => ?_) (fun es ih b p q => ?_) (fun _ _ _ => ⟨rfl, rfl⟩)
    fun k t r iht ihr fs p q => ?_
  · cases b with
    | file s' =>
      simp only [cmpT]
      split_ifs
      · exact ⟨rfl, rfl⟩
      · exact ⟨rfl, nodes_mk_pre p q _ _ rfl rfl rfl⟩
    | dir fs => exact ⟨rfl, nodes_mk_pre p q _ _ rfl rfl (addT_pre.2 fs p q)⟩
  · cases b with
    | file s' => exact ⟨rfl, nodes_mk_pre p q _ _ (remT_pre.2 es p q) rfl rfl⟩
    | dir fs =>
      have h2 := ih fs p q
      rw [cmpT_dir_dir, cmpT_dir_dir, h2.1]
      simp only [remSel_filter, addSel_filter, remEs_isEmpty, addEs_isEmpty]
      split_ifs
      · exact ⟨rfl, rfl⟩
      · exact ⟨rfl, nodes_mk_pre p q _ _ (remT_pre.2 _ p q) h2.2 (addT_pre.2 _ p q)⟩
  · rw [cmpEs_cons, cmpEs_cons]
    cases AL.get fs k with
    | none => exact ihr fs p q
    | some u =>
      have ht := iht u p (q ++ [k])
      rw [← List.append_assoc] at ht
      have hr := ihr fs p q
      dsimp only
      generalize cmpT (p ++ q ++ [k]) t u = x at ht ⊢
      generalize cmpT (q ++ [k]) t u = y at ht ⊢
      cases x <;> cases y
      · exact hr
      · cases ht.1
      · cases ht.1
      · refine ⟨rfl, ?_⟩
        rw [nodesL_cons, nodesL_cons, List.map_append, ← hr.2]
        exact congrArg (· ++ _) ht.2

theorem cmpEs_pre : (es : Entries) → (fs : Entries) → (p q : Path) →
    (cmpEs (p ++ q) es fs).isEmpty = (cmpEs q es fs).isEmpty ∧
    nodesL (cmpEs (p ++ q) es fs) = (nodesL (cmpEs q es fs)).map (Rec.pre p) :=
  cmp_pre.2

theorem nodesO_compareAt_pre (p q : Path) (x y : Option DirTree) :
    nodesO (compareAt (p ++ q) x y) = (nodesO (compareAt q x y)).map (Rec.pre p) := by
  cases x <;> cases y
  · rfl
  · exact addT_pre.1 _ p q
  · exact remT_pre.1 _ p q
  · exact (cmp_pre.1 _ _ p q).2

end MetadorModel.Diff
