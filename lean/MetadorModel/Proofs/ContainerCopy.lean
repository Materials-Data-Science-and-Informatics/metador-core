import MetadorModel.Proofs.ContainerMissing
import MetadorModel.Proofs.ContainerRebase
/-!
# `group.copy(source, dest, without_meta=…)` keeps the invariant
-/
namespace MetadorModel.Container

theorem user_head {base : Path} (m : String) (hb : isInternal base = false) :
    (base ++ [Key.user m]).head? ≠ some .toc := by
  cases base with
  | nil => simp
  | cons x base => simpa using isInternal_head_ne_toc hb

theorem repairMissing_cons (e : Env) (p : Path) (todo : List Path) (update : Bool) :
    repairMissing e (p :: todo) update =
      (do
        (match objOfPath p with
          | none => raise .value
          | some (r, u) => do
            let s ← getSt
            if update && (alGet s.c.tocPath u).isSome then
              linkUpdate u p
            else
              let u' ← freshUuid
              let newPath := p.dropLast ++ [.obj r u']
              liftRaw fun t => rawMove t p newPath
              linkRegister e r u' newPath : M Unit)
        repairMissing e todo update) := rfl

theorem repairCopy_step_run (e : Env) (base : Path) (m : String) (r : SRef) (u : Nat) (todo : List Path)
    (s : St) (t2 : Tree) (s3 : St)
    (h2 : rawMove s.raw (base ++ [.metaDir m, .obj r u]) (base ++ [.metaDir m, .obj r s.next]) = .ok t2)
    (h3 : linkRegister e r s.next (base ++ [.metaDir m, .obj r s.next]) ⟨t2, s.c, s.next + 1⟩ = (.ok (), s3)) :
    repairMissing e ((base ++ [.metaDir m, .obj r u]) :: todo) false s = repairMissing e todo false s3 := by
  have hdl : (base ++ [Key.metaDir m, Key.obj r u]).dropLast ++ [Key.obj r s.next] =
      base ++ [.metaDir m, .obj r s.next] := by rw [dropLast_snoc2]; simp
  rw [repairMissing_cons]
  simp only [objOfPath_obj, Bool.false_and, Bool.false_eq_true, if_false, bind, M.bind, run_getSt, freshUuid,
    run_liftRaw, hdl, h2, h3]

/-- the loop of `repair_missing(update=False)`: every pending (unlinked) object gets a fresh uuid
and is registered -/
theorem repairCopy_spec {e : Env} (he : WFEnv e) : ∀ (todo : List Path) (s : St),
    TreeOK e s.raw → TocOK e s (fun q r u => ObjAt s.raw q r u ∧ q ∉ todo) → todo.Nodup →
    (∀ q ∈ todo, ∃ r u, ObjAt s.raw q r u) → (∀ q r u, ObjAt s.raw q r u → u < s.next) →
    ∃ s', repairMissing e todo false s = (.ok (), s') ∧ Inv e s' ∧
      (∀ q n, q.head? ≠ some .toc → get? s.raw q = some n → q ∉ todo → get? s'.raw q = some n) := by
  intro todo
  induction todo with
  | nil => exact fun s ht hc _ _ hb =>
    ⟨s, rfl, inv_of_parts ht (hc.congr (fun p r u => by simp)) hb, fun _ _ _ h _ => h⟩
  | cons p todo ih =>
    intro s ht hc hnd hall hb
    obtain ⟨hpn, hnd'⟩ := List.nodup_cons.mp hnd
    obtain ⟨r, u, hobj⟩ := hall p (by simp)
    have hobj0 := hobj
    obtain ⟨base, m, hbase, rfl, hex⟩ := hobj
    set p := base ++ [.metaDir m, .obj r u] with hp
    set new := base ++ [.metaDir m, .obj r s.next] with hnew
    obtain ⟨i, hinfo⟩ := ht.objenv p r u hobj0
    -- the new name is free: its uuid has never been used
    have hfree : get? s.raw new = none := by
      by_contra hg
      exact absurd (hb new r s.next ⟨base, m, hbase, rfl, hg⟩) (lt_irrefl _)
    obtain ⟨t2, hmv, ht2, htoc2, hobj2, hframe2⟩ := renameObj_spec ht hbase hex hfree
    -- the linked objects are the same as before
    let L := fun q r' u' => ObjAt s.raw q r' u' ∧ q ∉ p :: todo
    have hnew_todo : new ∉ todo := by
      intro hm
      obtain ⟨r', u', _, _, _, _, hg⟩ := hall new (List.mem_cons_of_mem _ hm)
      exact hg hfree
    have hfresh : ¬ ∃ q r', L q r' s.next := by
      rintro ⟨q, r', ho, -⟩
      exact absurd (hb q r' s.next ho) (lt_irrefl _)
    obtain ⟨s3, hrun3, hc3, step3⟩ := TocOK.register he (s := ⟨t2, s.c, s.next + 1⟩) (L := L)
      ⟨hc.toc.frame htoc2, hc.scache, hc.lcache, hc.luniq⟩ new hinfo hfresh
    have hobj3 : ∀ q r' u', ObjAt s3.raw q r' u' ↔ ObjAt t2 q r' u' := ObjAt.congr step3.frame
    have hL3 : ∀ q r' u', (ObjAt s3.raw q r' u' ∧ q ∉ todo) ↔ (L q r' u' ∨ (q = new ∧ r' = r ∧ u' = s.next)) := by
      intro q r' u'
      rw [hobj3, hobj2, or_and_right, and_assoc]
      exact or_congr (and_congr_right fun _ => (List.mem_cons.not.trans not_or).symm)
        (and_iff_left_of_imp fun h => h.1 ▸ hnew_todo)
    have ht3 : TreeOK e s3.raw :=
      treeOK_of_frame ht2 (step3.keys (rawMove_keys hmv ht.keys ht.pclosed))
        (step3.pclosed (rawMove_pclosed hmv ht.pclosed)) step3.frame
    have hall3 : ∀ q ∈ todo, ∃ r' u', ObjAt s3.raw q r' u' := by
      intro q hq
      obtain ⟨r', u', ho⟩ := hall q (List.mem_cons_of_mem _ hq)
      refine ⟨r', u', (hobj3 _ _ _).mpr ((hobj2 _ _ _).mpr (Or.inl ⟨ho, ?_⟩))⟩
      rintro rfl; exact hpn hq
    have hb3 : ∀ q r' u', ObjAt s3.raw q r' u' → u' < s3.next := by
      intro q r' u' ho
      rw [step3.next]
      rcases (hobj2 _ _ _).mp ((hobj3 _ _ _).mp ho) with ⟨h, -⟩ | ⟨-, -, rfl⟩
      · exact Nat.lt_succ_of_lt (hb q r' u' h)
      · exact Nat.lt_succ_self _
    obtain ⟨s', hrun', hinv', hkeep'⟩ := ih s3 ht3 (hc3.congr hL3) hnd' hall3 hb3
    refine ⟨s', by rw [repairCopy_step_run e base m r u todo s t2 s3 hmv hrun3]; exact hrun', hinv', ?_⟩
    intro q n hqt hq hnot
    simp only [List.mem_cons, not_or] at hnot
    refine hkeep' q n hqt ?_ hnot.2
    rw [step3.frame q hqt, hframe2 q hnot.1 (by rintro rfl; rw [hfree] at hq; cases hq)]
    exact hq

theorem rebased_toc {t t' : Tree} {src dst : Path} {mv : Bool} (hreb : Rebased t t' src dst mv)
    (hd0 : dst ≠ []) (hdt : dst.head? ≠ some .toc) (hs0 : src ≠ []) (hst : src.head? ≠ some .toc)
    (q : Path) (hq : q.head? = some .toc) : get? t' q = get? t q := by
  have hq0 : q ≠ [] := by rintro rfl; simp at hq
  have hnp : ∀ a : Path, a ≠ [] → a.head? ≠ some .toc → ¬ a <+: q := fun a ha0 hat h =>
    (ne_toc_of_prefix ha0 hat h).2 hq
  rw [hreb q hq0, if_neg (hnp dst hd0 hdt), if_neg (fun h => hnp src hs0 hst h.2)]
  cases hg : get? t q with
  | some x => rfl
  | none =>
    cases hm : isMid [] dst q with
    | false => rfl
    | true =>
      obtain ⟨-, hpre, -⟩ := isMid_nil_iff.mp hm
      obtain ⟨c, rfl⟩ := hpre
      cases q with
      | nil => exact absurd rfl hq0
      | cons x q => simp at hq hdt; exact absurd hq hdt

theorem nodeKind_of_get {s : St} {t : Tree} {p q : Path} (h : get? s.raw p = get? t q) (c : Caches) (n : Nat) :
    nodeKind s p = nodeKind ⟨t, c, n⟩ q := by
  simp [nodeKind, h]

/-- `find_missing(d)` and `repair_missing(update=False)` on a tree that differs from a state satisfying
the invariant by unlinked objects below `d`: these get fresh uuids and links, the rest stays -/
theorem copy_finish {e : Env} (he : WFEnv e) {s : St} (hi : Inv e s) {t' : Tree} (ht' : TreeOK e t')
    (htoc : ∀ q, q.head? = some .toc → get? t' q = get? s.raw q) {d : Path} (hd0 : d ≠ [])
    (hdt : d.head? ≠ some .toc) (hdo : ∀ r u, ¬ ObjAt t' d r u)
    (hold : ∀ p r u, ObjAt s.raw p r u ↔ (ObjAt t' p r u ∧ ¬ d <+: p))
    (hb : ∀ p r u, ObjAt t' p r u → u < s.next) :
    ∃ missing s', findMissing ⟨t', s.c, s.next⟩ d = .ok missing ∧
      repairMissing e missing false ⟨t', s.c, s.next⟩ = (.ok (), s') ∧ Inv e s' ∧
      ∀ q n, q.head? ≠ some .toc → get? t' q = some n → ¬ d <+: q → get? s'.raw q = some n := by
  have hc : TocOK e ⟨t', s.c, s.next⟩ (ObjAt s.raw) :=
    ⟨hi.toc.frame htoc, hi.scache, hi.lcache, fun p p' r r' u => hi.mok.uniq p p' r r' u⟩
  have hmem := mem_objsBelow ht' hd0 hdt
  have hmiss : findMissing ⟨t', s.c, s.next⟩ d = .ok (objsBelow t' d) :=
    findMissing_all (s := ⟨t', s.c, s.next⟩) ht' hc hd0 hdt
      (fun q r u _ hpre p0 r0 hL h => ((hold p0 r0 u).mp hL).2 (h ▸ hpre))
  have hL : ∀ q r u, (ObjAt t' q r u ∧ q ∉ objsBelow t' d) ↔ ObjAt s.raw q r u := by
    intro q r u
    rw [hmem, hold]
    exact and_congr_right fun ho =>
      not_congr ⟨fun h => h.2.1, fun h => ⟨⟨r, u, ho⟩, h, fun hq => hdo r u (hq ▸ ho)⟩⟩
  obtain ⟨s', hrun, hinv, hkeep⟩ := repairCopy_spec he (objsBelow t' d) ⟨t', s.c, s.next⟩ ht' (hc.congr hL)
    (objsBelow_nodup ht'.keys d) (fun q hq => ((hmem q).mp hq).1) hb
  exact ⟨_, s', hmiss, hrun, hinv, fun q n hqt hq hnd => hkeep q n hqt hq fun hm => hnd ((hmem q).mp hm).2.1⟩

/-- what `copy` leaves behind: the invariant holds, and nothing that existed has been touched -/
def CopyPost (e : Env) (s s' : St) : Prop :=
  Inv e s' ∧ ∀ q n, q.head? ≠ some .toc → get? s.raw q = some n → get? s'.raw q = some n

theorem CopyPost.refl {e : Env} {s : St} (hi : Inv e s) : CopyPost e s s := ⟨hi, fun _ _ _ h => h⟩

/-- `raw.copy` of a user node of a state satisfying the invariant to a free user name: an unlinked copy
of what is below `src` appears below `dst`, nothing else changes -/
theorem copy_user_spec {e : Env} {s : St} (hi : Inv e s) {src dst : Path} (hsi : isInternal src = false)
    (hdi : isInternal dst = false) {t1 : Tree} (hcp : rawCopy s.raw src dst = .ok t1) :
    TreeOK e t1 ∧ (∀ q, q.head? = some .toc → get? t1 q = get? s.raw q) ∧ get? t1 dst = get? s.raw src ∧
    (∀ q n, get? s.raw q = some n → get? t1 q = some n) ∧
    (∀ p r u, ObjAt s.raw p r u ↔ (ObjAt t1 p r u ∧ ¬ dst <+: p)) ∧
    (∀ p r u, ObjAt t1 p r u → dst <+: p → ObjAt s.raw (src ++ p.drop dst.length) r u) ∧
    (∀ p r u, ObjAt t1 p r u → u < s.next) := by
  have ht := hi.treeOK
  obtain ⟨hs0, hd0, -, hfree, -⟩ := rawCopy_inv hcp
  have hreb := rebased_of_copy hcp ht.pclosed
  obtain ⟨ht1, hobj1⟩ := treeOK_rebase_user ht hsi hdi (by simp) hs0 hd0 hfree (rawCopy_keys hcp ht.keys ht.pclosed)
    (rawCopy_pclosed hcp ht.pclosed) hreb
  have hold : ∀ p r u, ObjAt s.raw p r u → ¬ dst <+: p := fun p r u ho => ho.not_below_free ht.pclosed hfree
  refine ⟨ht1, rebased_toc hreb hd0 (isInternal_head_ne_toc hdi) hs0 (isInternal_head_ne_toc hsi),
    by simpa using hreb.below hd0 [], fun q n hq => hreb.keep ht.pclosed hfree hq (by simp), fun p r u => ?_,
    fun p r u ho hpre => ?_, fun p r u ho => ?_⟩
  · rw [hobj1]
    exact ⟨fun h => ⟨Or.inr ⟨hold p r u h, by simp, h⟩, hold p r u h⟩,
      fun ⟨h, hn⟩ => h.elim (fun h => absurd h.1 hn) (·.2.2)⟩
  · exact ((hobj1 p r u).mp ho).elim (·.2) (fun h => absurd hpre h.1)
  · exact ((hobj1 p r u).mp ho).elim (fun h => hi.mok.bound _ r u h.2) (fun h => hi.mok.bound _ r u h.2.2)

/-- `copy` of a dataset with its metadata: the directory is copied next to the new dataset, and the
copied objects are registered -/
theorem copy_ds_meta {e : Env} (he : WFEnv e) {s : St} (hi : Inv e s) {b b' : Path} {m m' : String}
    (hb : isInternal b = false) (hb' : isInternal b' = false) {t1 : Tree} (ht1 : TreeOK e t1)
    (htoc1 : ∀ q, q.head? = some .toc → get? t1 q = get? s.raw q)
    (keep1 : ∀ q n, get? s.raw q = some n → get? t1 q = some n)
    (hobj1 : ∀ p r u, ObjAt t1 p r u ↔ ObjAt s.raw p r u) {v : Val} (hdv : get? t1 (b' ++ [.user m']) = some (.ds v))
    {t2 : Tree} (hcp2 : rawCopy t1 (b ++ [.metaDir m]) (b' ++ [.metaDir m']) = .ok t2) :
    ∃ missing s', findMissing ⟨t2, s.c, s.next⟩ (b' ++ [.metaDir m']) = .ok missing ∧
      repairMissing e missing false ⟨t2, s.c, s.next⟩ = (.ok (), s') ∧ CopyPost e s s' := by
  obtain ⟨hs0, hd0, -, hfree2, -⟩ := rawCopy_inv hcp2
  have hreb2 := rebased_of_copy hcp2 ht1.pclosed
  obtain ⟨ht2, hobj2⟩ := treeOK_rebase_meta ht1 (fun _ h => h.elim) hb hb' (Or.inr ⟨v, hdv⟩) hfree2
    (rawCopy_keys hcp2 ht1.keys ht1.pclosed) (rawCopy_pclosed hcp2 ht1.pclosed) hreb2
  have hold2 : ∀ p r u, ObjAt t1 p r u → ¬ b' ++ [Key.metaDir m'] <+: p := fun p r u ho =>
    ho.not_below_free ht1.pclosed hfree2
  obtain ⟨missing, s', hmiss, hrun, hinv, hkeep⟩ := copy_finish he hi ht2
    (fun q hq => (rebased_toc hreb2 hd0 (objPath_head hb') hs0 (objPath_head hb) q hq).trans (htoc1 q hq))
    hd0 (objPath_head hb') (fun r u ⟨_, _, _, hp, _⟩ => by have := congrArg List.getLast? hp; simp at this)
    (fun p r u => by
      rw [← hobj1, hobj2]
      exact ⟨fun h => ⟨Or.inr ⟨hold2 p r u h, by simp, h⟩, hold2 p r u h⟩,
        fun ⟨h, hn⟩ => h.elim (fun h => absurd h.1 hn) (·.2.2)⟩)
    (fun p r u ho => ((hobj2 p r u).mp ho).elim (fun h => hi.mok.bound _ r u ((hobj1 _ r u).mp h.2))
      (fun h => hi.mok.bound _ r u ((hobj1 _ r u).mp h.2.2)))
  refine ⟨missing, s', hmiss, hrun, hinv, fun q n hqt hq => ?_⟩
  have hq1 := keep1 q n hq
  have hnd : ¬ b' ++ [Key.metaDir m'] <+: q := fun hp => by
    rw [none_below_free ht1.pclosed hfree2 hp] at hq1; cases hq1
  exact hkeep q n hqt (hreb2.keep ht1.pclosed hfree2 hq1 (by simp)) hnd

/-- `copy` of a group without metadata: the copied directories are removed again, without touching
the TOC (the objects in them were never linked) -/
theorem copy_grp_bare {e : Env} {s : St} (hi : Inv e s) {dst : Path} (hdi : isInternal dst = false) {t1 : Tree}
    (ht1 : TreeOK e t1) (htoc1 : ∀ q, q.head? = some .toc → get? t1 q = get? s.raw q)
    (keep1 : ∀ q n, get? s.raw q = some n → get? t1 q = some n)
    (hold1 : ∀ p r u, ObjAt s.raw p r u ↔ (ObjAt t1 p r u ∧ ¬ dst <+: p))
    (hkd : nodeKind ⟨t1, s.c, s.next⟩ dst = some false) :
    ∃ s', destroyMeta dst false false ⟨t1, s.c, s.next⟩ = (.ok (), s') ∧ CopyPost e s s' := by
  have ht := hi.treeOK
  obtain ⟨s', hrun, ht', hnext, ⟨⟨hcs, htoc'⟩, hmono⟩, huser, hgone, hsurv⟩ :=
    destroyMeta_spec (delSpec_tree e) (s := ⟨t1, s.c, s.next⟩) ht1 hdi hkd
  obtain ⟨t', c', n'⟩ := s'
  obtain rfl : c' = s.c := hcs
  obtain rfl : n' = s.next := hnext
  have hobjs : ∀ p r u, ObjAt t' p r u ↔ ObjAt s.raw p r u := by
    intro p r u
    rw [hold1]
    refine ⟨fun h => ⟨(hgone p r u h).1, (hgone p r u h).2.2⟩, fun ⟨h, hn⟩ => hsurv p r u h hn fun hd => hn ?_⟩
    -- an object in the group's own directory lies below the group
    obtain ⟨base, m, _, rfl, _⟩ := h
    rw [dropLast_snoc2, metaBase_grp] at hd
    rw [snoc2_assoc, hd]
    exact ⟨[.metaDir "", .obj r u], by simp⟩
  refine ⟨_, hrun, inv_of_same_objs hi ht' (fun q hq => (htoc' q hq).trans (htoc1 q hq)) hobjs, fun q n hqt hq => ?_⟩
  have hq1 := keep1 q n hq
  rcases hmono q hqt with hnone | hsame
  · -- `q` is a user node, a surviving object, or the directory of a surviving object
    exfalso
    have hq0 : q ≠ [] := by rintro rfl; simp at hnone
    cases ht.ushape q n hq0 hqt hq with
    | user q n hqi _ => rw [huser q hqi, hq1] at hnone; cases hnone
    | metaDir base m hb =>
      obtain ⟨r, u, hru⟩ := ht.host_obj base m hb (by rw [hq]; simp)
      obtain ⟨_, _, _, _, hg'⟩ := (hobjs _ r u).mpr ⟨base, m, hb, rfl, hru⟩
      have := ht'.pclosed (base ++ [.metaDir m]) (.obj r u) (by simpa using hg')
      rw [hnone] at this; cases this
    | obj base m r u tok hb =>
      obtain ⟨_, _, _, _, hg'⟩ := (hobjs _ r u).mpr ⟨base, m, hb, rfl, by rw [hq]; simp⟩
      exact hg' hnone
  · exact hsame.trans hq1

/-- `group.copy(source, dest, without_meta)`: success or failure -/
theorem opCopy_spec {e : Env} (he : WFEnv e) {s : St} (hi : Inv e s) (src dst : Path) (wm : Bool) :
    CopyPost e s (opCopy e src dst wm s).2 := by
  have hrefl := CopyPost.refl hi
  unfold opCopy guardPath
  cases hsi : isInternal src with
  | true => exact hrefl
  | false =>
    cases hk : nodeKind s src with
    | none => simp only [Bool.false_eq_true, if_false, bind, M.bind, run_pure, run_getSt, hk, run_ofOpt_none]; exact hrefl
    | some k =>
      cases hdi : isInternal dst with
      | true => simp only [Bool.false_eq_true, if_false, bind, M.bind, run_pure, run_getSt, hk, run_ofOpt_some, if_true, run_raise]; exact hrefl
      | false =>
        cases hcp : rawCopy s.raw src dst with
        | error err => simp only [Bool.false_eq_true, if_false, bind, M.bind, run_pure, run_getSt, hk, run_ofOpt_some, run_liftRaw, hcp]; exact hrefl
        | ok t1 =>
          obtain ⟨ht1, htoc1, hdst1, keep1, hold1, hsrc1, hb1⟩ := copy_user_spec hi hsi hdi hcp
          obtain ⟨hs0, hd0, -, hfree, -⟩ := rawCopy_inv hcp
          have hkd : nodeKind ⟨t1, s.c, s.next⟩ dst = some k :=
            (nodeKind_of_get (s := s) (p := src) hdst1.symm s.c s.next).symm.trans hk
          simp only [Bool.false_eq_true, if_false, bind, M.bind, run_pure, run_getSt, hk, run_ofOpt_some, run_liftRaw,
            hcp, hkd]
          cases k with
          | true =>
            -- a dataset: nothing below it, the copy carries no metadata yet
            obtain ⟨v, hv⟩ := nodeKind_true hk
            have hobjs1 : ∀ p r u, ObjAt t1 p r u ↔ ObjAt s.raw p r u := fun p r u =>
              ⟨fun h => (hold1 p r u).mpr ⟨h, fun hpre => no_obj_below_ds hi.pclosed hsi hv (hsrc1 p r u h hpre)⟩,
                fun h => ((hold1 p r u).mp h).1⟩
            have hinv1 : CopyPost e s ⟨t1, s.c, s.next⟩ :=
              ⟨inv_of_same_objs hi ht1 htoc1 hobjs1, fun q n _ hq => keep1 q n hq⟩
            cases wm with
            | true => exact hinv1
            | false =>
              simp only [Bool.not_false, Bool.and_self, if_true, run_liftRaw, Bool.not_true, Bool.false_eq_true,
                if_false, M.bind, run_getSt]
              cases hcp2 : rawCopy t1 (metaBase src true) (metaBase dst true) with
              | error err => exact hinv1
              | ok t2 =>
                obtain ⟨b, m, rfl, hb⟩ := user_path_snoc hs0 hsi
                obtain ⟨b', m', rfl, hb'⟩ := user_path_snoc hd0 hdi
                simp only [metaBase_ds] at hcp2 ⊢
                obtain ⟨missing, s', hmiss, hrun, hpost⟩ :=
                  copy_ds_meta he hi hb hb' ht1 htoc1 keep1 hobjs1 (hdst1.trans hv) hcp2
                simp only [hmiss, hrun, M.bind, run_pure]
                exact hpost
          | false =>
            cases wm with
            | true =>
              obtain ⟨s', hrun, hpost⟩ := copy_grp_bare hi hdi ht1 htoc1 keep1 hold1 hkd
              simp only [Bool.false_and, Bool.false_eq_true, if_false, Bool.not_false, if_true, hrun]
              exact hpost
            | false =>
              obtain ⟨missing, s', hmiss, hrun, hinv, hkeep⟩ := copy_finish he hi ht1 htoc1 hd0
                (isInternal_head_ne_toc hdi) (fun r u ho => by rw [ho.internal] at hdi; cases hdi) hold1 hb1
              simp only [Bool.false_and, Bool.false_eq_true, if_false, Bool.not_false, if_true, run_getSt, M.bind, hmiss,
                hrun]
              exact ⟨hinv, fun q n hqt hq => hkeep q n hqt (keep1 q n hq) fun hpre => by
                rw [none_below_free hi.pclosed hfree hpre] at hq; cases hq⟩

theorem opCopy_inv {e : Env} (he : WFEnv e) {s : St} (hi : Inv e s) (src dst : Path) (wm : Bool) :
    Inv e (opCopy e src dst wm s).2 := (opCopy_spec he hi src dst wm).1

/-- `copy` never changes (or removes) anything that existed outside `/metador_container` -/
theorem opCopy_keeps {e : Env} (he : WFEnv e) {s : St} (hi : Inv e s) (src dst : Path) (wm : Bool) {q : Path}
    {n : Node} (hqt : q.head? ≠ some .toc) (hq : get? s.raw q = some n) :
    get? (opCopy e src dst wm s).2.raw q = some n := (opCopy_spec he hi src dst wm).2 q n hqt hq

end MetadorModel.Container
