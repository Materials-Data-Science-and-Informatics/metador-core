import MetadorModel.Model.UBlock
import Mathlib.Data.List.Basic
/-! Lemmas about the canonical user-block parser of `Model/UBlock.lean` (C04, C11).

Every field parser `p` gets two lemmas: `p_append` (it reads back what the renderer wrote and
leaves the rest) and `p_some` (whatever it accepts was written by the renderer). `parseP_render`
and `parseP_some` chain them, and `parseUBT_ok_iff` is the characterisation
`parseUBT t = ok u ↔ t = render u ∧ u.wf`.

The `do` blocks of the parsers are taken apart with `Option.bind_eq_some_iff` and `rw`, one stage at
a time: `simp` under their nested binders is slow. -/
namespace MetadorModel.UBlock
open List

theorem lit_append (p s : List Char) : lit p (p ++ s) = some s := by
  induction p with
  | nil => cases s <;> rfl
  | cons c p ih => simp [lit, ih]

theorem lit_some {p s r : List Char} (h : lit p s = some r) : s = p ++ r := by
  induction p generalizing s with
  | nil => cases s <;> simp_all [lit]
  | cons c p ih =>
    cases s with
    | nil => simp [lit] at h
    | cons d s =>
      simp only [lit] at h
      split_ifs at h with hcd
      rw [hcd, ih h, cons_append]

theorem untilQuote_append_left {a : List Char} (ha : '"' ∉ a) (t : List Char) :
    untilQuote (a ++ t) = (untilQuote t).map (fun p => (a ++ p.1, p.2)) := by
  induction a with
  | nil => cases hu : untilQuote t <;> simp [hu]
  | cons c a ih =>
    have hc : c ≠ '"' := fun h => ha (h ▸ mem_cons_self)
    simp only [cons_append, untilQuote, hc, if_false, ih (fun h => ha (mem_cons_of_mem _ h))]
    cases hu : untilQuote t <;> simp

theorem untilQuote_some {s a r : List Char} (h : untilQuote s = some (a, r)) :
    s = a ++ '"' :: r ∧ '"' ∉ a := by
  induction s generalizing a with
  | nil => simp [untilQuote] at h
  | cons c s ih =>
    simp only [untilQuote] at h
    split_ifs at h with hc
    · simp at h; obtain ⟨rfl, rfl⟩ := h; simp [hc]
    · obtain ⟨⟨a', r'⟩, hu, h⟩ := Option.map_eq_some_iff.mp h
      obtain ⟨rfl, rfl⟩ := Prod.mk.inj h
      obtain ⟨h1, h2⟩ := ih hu
      exact ⟨by rw [h1, cons_append], by simp [h2, Ne.symm hc]⟩

theorem strP_append {ok : List Char → Bool} {a r : List Char} (hok : ok a = true) (ha : '"' ∉ a) :
    strP ok (q a ++ r) = some (a, r) := by
  simp [strP, q, untilQuote_append_left ha, untilQuote, hok]

theorem strP_some {ok : List Char → Bool} {s a r : List Char} (h : strP ok s = some (a, r)) :
    s = q a ++ r ∧ ok a = true ∧ '"' ∉ a := by
  cases s with
  | nil => simp [strP] at h
  | cons c s =>
    simp only [strP] at h
    split_ifs at h with hc
    subst hc
    rcases hu : untilQuote s with _ | ⟨a', r'⟩
    · simp [hu] at h
    · simp [hu] at h
      obtain ⟨hok, rfl, rfl⟩ := h
      obtain ⟨h1, h2⟩ := untilQuote_some hu
      exact ⟨by rw [h1]; simp [q], hok, h2⟩

theorem digitRun_append {d r : List Char} (hd : ∀ c ∈ d, isDigit c = true)
    (hr : ∀ c, r.head? = some c → isDigit c = false) : digitRun (d ++ r) = (d, r) := by
  induction d with
  | nil =>
    cases r with
    | nil => rfl
    | cons c r => simp [digitRun, hr c rfl]
  | cons c d ih =>
    have := ih (fun x hx => hd x (mem_cons_of_mem _ hx))
    simp [digitRun, hd c mem_cons_self, this]

theorem digitRun_eq {s a r : List Char} (h : digitRun s = (a, r)) : s = a ++ r := by
  induction s generalizing a with
  | nil => simp [digitRun] at h; obtain ⟨rfl, rfl⟩ := h; rfl
  | cons c s ih =>
    simp only [digitRun] at h
    split_ifs at h with hc
    · obtain ⟨rfl, rfl⟩ := Prod.mk.inj h
      rw [cons_append, ← ih rfl]
    · obtain ⟨rfl, rfl⟩ := Prod.mk.inj h; rfl

theorem isDec_digits {s : List Char} (h : isDec s = true) : ∀ c ∈ s, isDigit c = true := by
  cases s with
  | nil => simp
  | cons c cs =>
    simp only [isDec] at h
    split_ifs at h with h0
    · subst h0
      have : cs = [] := by simpa using h
      subst this
      simp; decide
    · simp only [Bool.and_eq_true, decide_eq_true_eq, all_eq_true] at h
      intro x hx
      rcases mem_cons.mp hx with rfl | hx
      · simp only [isDigit, Bool.and_eq_true, decide_eq_true_eq]
        exact ⟨Char.le_trans (by decide) h.1.1, h.1.2⟩
      · exact h.2 x hx

/-- the index is followed by the key of `patch_uuid`, which does not begin with a digit -/
theorem decP_append_K3 {d : List Char} (hd : isDec d = true) (r : List Char) :
    decP (d ++ (K3 ++ r)) = some (d, K3 ++ r) := by
  have hr : ∀ c, (K3 ++ r).head? = some c → isDigit c = false := by
    intro c h; simp [K3] at h; subst h; decide
  simp [decP, digitRun_append (isDec_digits hd) hr, hd]

theorem decP_some {s a r : List Char} (h : decP s = some (a, r)) : s = a ++ r ∧ isDec a = true := by
  unfold decP at h
  rcases hd : digitRun s with ⟨a', r'⟩
  simp [hd] at h
  obtain ⟨hok, rfl, rfl⟩ := h
  exact ⟨digitRun_eq hd, hok⟩

theorem optP_append {ok : List Char → Bool} (o : Option (List Char)) (r : List Char)
    (h : ∀ a, o = some a → ok a = true ∧ '"' ∉ a) : optP ok (optStr o ++ r) = some (o, r) := by
  unfold optP
  cases o with
  | none => rw [optStr, lit_append]
  | some a =>
    have : lit S_null (q a ++ r) = none := rfl
    rw [optStr, this, strP_append (h a rfl).1 (h a rfl).2]; rfl

theorem optP_some {ok : List Char → Bool} {s r : List Char} {o : Option (List Char)}
    (h : optP ok s = some (o, r)) :
    s = optStr o ++ r ∧ ∀ a, o = some a → ok a = true ∧ '"' ∉ a := by
  unfold optP at h
  rcases hl : lit S_null s with _ | r'
  · rw [hl] at h
    obtain ⟨⟨a, r''⟩, hs, h⟩ := Option.map_eq_some_iff.mp h
    obtain ⟨rfl, rfl⟩ := Prod.mk.inj h
    obtain ⟨h1, h2, h3⟩ := strP_some hs
    exact ⟨h1, fun a' ha' => by cases ha'; exact ⟨h2, h3⟩⟩
  · rw [hl] at h
    obtain ⟨rfl, rfl⟩ := Prod.mk.inj (Option.some.inj h)
    exact ⟨lit_some hl, nofun⟩

theorem boolP_append (b : Bool) (r : List Char) : boolP (renderBool b ++ r) = some (b, r) := by
  unfold boolP
  cases b
  · have : lit S_true (S_false ++ r) = none := rfl
    rw [renderBool, if_neg Bool.false_ne_true, this, lit_append]; rfl
  · rw [renderBool, if_pos rfl, lit_append]

theorem boolP_some {s r : List Char} {b : Bool} (h : boolP s = some (b, r)) :
    s = renderBool b ++ r := by
  unfold boolP at h
  rcases hl : lit S_true s with _ | r'
  · rw [hl] at h
    obtain ⟨r'', hf, h⟩ := Option.map_eq_some_iff.mp h
    obtain ⟨rfl, rfl⟩ := Prod.mk.inj h
    exact lit_some hf
  · rw [hl] at h
    obtain ⟨rfl, rfl⟩ := Prod.mk.inj (Option.some.inj h)
    exact lit_some hl

theorem extP_append (o : Option ExtT) (r : List Char)
    (h : ∀ e, o = some e → (isUuid e.muuid = true ∧ '"' ∉ e.muuid) ∧ (isQHash e.mhash = true ∧ '"' ∉ e.mhash)) :
    extP (renderExt o ++ r) = some (o, r) := by
  unfold extP
  cases o with
  | none => rw [renderExt, lit_append]
  | some e =>
    obtain ⟨⟨h1, h1'⟩, h2, h2'⟩ := h e rfl
    have h0 : lit S_obj0 (renderExt (some e) ++ r) = none := rfl
    rw [h0]
    simp only [renderExt, append_assoc, Option.bind_eq_bind, Option.bind_some, boolP_append, lit_append,
      strP_append h1 h1', strP_append h2 h2']
    rfl

theorem extP_some {s r : List Char} {o : Option ExtT} (h : extP s = some (o, r)) :
    s = renderExt o ++ r ∧
      ∀ e, o = some e → (isUuid e.muuid = true ∧ '"' ∉ e.muuid) ∧ (isQHash e.mhash = true ∧ '"' ∉ e.mhash) := by
  unfold extP at h
  rcases hl : lit S_obj0 s with _ | r'
  · rw [hl] at h
    obtain ⟨s1, k1, h⟩ := Option.bind_eq_some_iff.mp h
    obtain ⟨⟨b, s2⟩, k2, h⟩ := Option.bind_eq_some_iff.mp h
    obtain ⟨s3, k3, h⟩ := Option.bind_eq_some_iff.mp h
    obtain ⟨⟨mu, s4⟩, k4, h⟩ := Option.bind_eq_some_iff.mp h
    obtain ⟨s5, k5, h⟩ := Option.bind_eq_some_iff.mp h
    obtain ⟨⟨mh, s6⟩, k6, h⟩ := Option.bind_eq_some_iff.mp h
    obtain ⟨s7, k7, h⟩ := Option.bind_eq_some_iff.mp h
    obtain ⟨rfl, rfl⟩ := Prod.mk.inj (Option.some.inj h)
    obtain ⟨u1, u2, u3⟩ := strP_some k4
    obtain ⟨v1, v2, v3⟩ := strP_some k6
    refine ⟨?_, fun e he => by cases he; exact ⟨⟨u2, u3⟩, ⟨v2, v3⟩⟩⟩
    rw [lit_some k1, boolP_some k2, lit_some k3, u1, lit_some k5, v1, lit_some k7]
    simp only [renderExt, append_assoc]
  · rw [hl] at h
    obtain ⟨rfl, rfl⟩ := Prod.mk.inj (Option.some.inj h)
    exact ⟨lit_some hl, nofun⟩

theorem hexRun_chars {n : Nat} {s r : List Char} {p : Char → Prop} (h : hexRun n s = some r)
    (hp : ∀ c, isHexL c = true → p c) (hr : ∀ c ∈ r, p c) : ∀ c ∈ s, p c := by
  induction n generalizing s with
  | zero => cases Option.some.inj h; exact hr
  | succ n ih =>
    cases s with
    | nil => simp [hexRun] at h
    | cons c s =>
      simp only [hexRun] at h
      split_ifs at h with hc
      exact forall_mem_cons.mpr ⟨hp c hc, ih h⟩

theorem dash_chars {s r : List Char} {p : Char → Prop} (h : dash s = some r) (hp : p '-')
    (hr : ∀ c ∈ r, p c) : ∀ c ∈ s, p c := by
  cases s with
  | nil => simp [dash] at h
  | cons c s =>
    simp only [dash] at h
    split_ifs at h with hc
    cases Option.some.inj h
    exact forall_mem_cons.mpr ⟨hc ▸ hp, hr⟩

/-- a uuid consists of lower-case hex digits and dashes -/
theorem isUuid_chars {s : List Char} (h : isUuid s = true) {p : Char → Prop}
    (hx : ∀ c, isHexL c = true → p c) (hd : p '-') : ∀ c ∈ s, p c := by
  unfold isUuid at h
  split at h
  · rename_i k
    obtain ⟨s8, k, k9⟩ := Option.bind_eq_some_iff.mp k
    obtain ⟨s7, k, k8⟩ := Option.bind_eq_some_iff.mp k
    obtain ⟨s6, k, k7⟩ := Option.bind_eq_some_iff.mp k
    obtain ⟨s5, k, k6⟩ := Option.bind_eq_some_iff.mp k
    obtain ⟨s4, k, k5⟩ := Option.bind_eq_some_iff.mp k
    obtain ⟨s3, k, k4⟩ := Option.bind_eq_some_iff.mp k
    obtain ⟨s2, k, k3⟩ := Option.bind_eq_some_iff.mp k
    obtain ⟨s1, k1, k2⟩ := Option.bind_eq_some_iff.mp k
    exact hexRun_chars k1 hx (dash_chars k2 hd (hexRun_chars k3 hx (dash_chars k4 hd (hexRun_chars k5 hx
      (dash_chars k6 hd (hexRun_chars k7 hx (dash_chars k8 hd (hexRun_chars k9 hx nofun))))))))
  · cases h

/-- a hash string consists of `sha256:` or `sha512:` and hex digits -/
theorem isQHash_chars {s : List Char} (h : isQHash s = true) {p : Char → Prop}
    (hx : ∀ c, isHex c = true → p c) (h256 : ∀ c ∈ S_sha256, p c) (h512 : ∀ c ∈ S_sha512, p c) :
    ∀ c ∈ s, p c := by
  have hex : ∀ t, hexOk t = true → ∀ c ∈ t, p c := by
    intro t ht c hc
    simp only [hexOk, Bool.and_eq_true, all_eq_true] at ht
    exact hx c (ht.2 c hc)
  unfold isQHash at h
  rcases k1 : lit S_sha256 s with _ | r
  · rw [k1] at h
    rcases k2 : lit S_sha512 s with _ | r
    · simp [k2] at h
    · rw [k2] at h
      rw [lit_some k2]
      exact forall_mem_append.mpr ⟨h512, hex r h⟩
  · rw [k1] at h
    rw [lit_some k1]
    exact forall_mem_append.mpr ⟨h256, hex r h⟩

theorem isHex_ne_quote {c : Char} (h : isHex c = true) : c ≠ '"' := by
  rintro rfl; revert h; decide

theorem isHexL_isHex {c : Char} (h : isHexL c = true) : isHex c = true := by
  rw [isHex, h, Bool.true_or]

theorem isUuid_noQuote {s : List Char} (h : isUuid s = true) : '"' ∉ s := fun hm =>
  isUuid_chars h (p := (· ≠ '"')) (fun _ hc => isHex_ne_quote (isHexL_isHex hc)) (by decide) _ hm rfl

theorem isQHash_noQuote {s : List Char} (h : isQHash s = true) : '"' ∉ s := fun hm =>
  isQHash_chars h (p := (· ≠ '"')) (fun _ => isHex_ne_quote) (by decide) (by decide) _ hm rfl

/-- what `wf` says about the fields, in the form the field parsers need -/
theorem wf_parts {u : UBT} (h : u.wf = true) :
    isUuid u.rid = true ∧ isDec u.idx = true ∧ isUuid u.pid = true ∧
    (∀ a, u.prev = some a → isUuid a = true ∧ '"' ∉ a) ∧
    (∀ a, u.hash = some a → isQHash a = true ∧ '"' ∉ a) ∧
    (∀ e, u.ext = some e → (isUuid e.muuid = true ∧ '"' ∉ e.muuid) ∧ (isQHash e.mhash = true ∧ '"' ∉ e.mhash)) := by
  simp only [UBT.wf, ExtT.wf, Bool.and_eq_true] at h
  obtain ⟨⟨⟨⟨⟨h1, h2⟩, h3⟩, h4⟩, h5⟩, h6⟩ := h
  refine ⟨h1, h2, h3, ?_, ?_, ?_⟩
  · intro a ha; rw [ha] at h4; exact ⟨h4, isUuid_noQuote h4⟩
  · intro a ha; rw [ha] at h5; exact ⟨h5, isQHash_noQuote h5⟩
  · intro e he; rw [he] at h6
    simp only [Bool.and_eq_true] at h6
    exact ⟨⟨h6.1, isUuid_noQuote h6.1⟩, ⟨h6.2, isQHash_noQuote h6.2⟩⟩

/-- **round trip with remainder**: the parser reads back a rendered block and leaves the rest -/
theorem parseP_render {u : UBT} (h : u.wf = true) (rest : List Char) :
    parseP (render u ++ rest) = some (u, rest) := by
  obtain ⟨h1, h2, h3, h4, h5, h6⟩ := wf_parts h
  unfold parseP
  simp only [render, append_assoc]
  rw [lit_append]
  simp only [Option.bind_eq_bind, Option.bind_some, lit_append,
    strP_append h1 (isUuid_noQuote h1), strP_append h3 (isUuid_noQuote h3),
    decP_append_K3 h2, optP_append u.prev _ h4, optP_append u.hash _ h5, extP_append u.ext _ h6]
  rfl

/-- **soundness**: whatever the parser accepts is a rendered block followed by the rest -/
theorem parseP_some {s r : List Char} {u : UBT} (h : parseP s = some (u, r)) :
    s = render u ++ r ∧ u.wf = true := by
  unfold parseP at h
  obtain ⟨s1, k1, h⟩ := Option.bind_eq_some_iff.mp h
  obtain ⟨⟨rid, s2⟩, k2, h⟩ := Option.bind_eq_some_iff.mp h
  obtain ⟨s3, k3, h⟩ := Option.bind_eq_some_iff.mp h
  obtain ⟨⟨idx, s4⟩, k4, h⟩ := Option.bind_eq_some_iff.mp h
  obtain ⟨s5, k5, h⟩ := Option.bind_eq_some_iff.mp h
  obtain ⟨⟨pid, s6⟩, k6, h⟩ := Option.bind_eq_some_iff.mp h
  obtain ⟨s7, k7, h⟩ := Option.bind_eq_some_iff.mp h
  obtain ⟨⟨prev, s8⟩, k8, h⟩ := Option.bind_eq_some_iff.mp h
  obtain ⟨s9, k9, h⟩ := Option.bind_eq_some_iff.mp h
  obtain ⟨⟨hash, s10⟩, k10, h⟩ := Option.bind_eq_some_iff.mp h
  obtain ⟨s11, k11, h⟩ := Option.bind_eq_some_iff.mp h
  obtain ⟨⟨ext, s12⟩, k12, h⟩ := Option.bind_eq_some_iff.mp h
  obtain ⟨s13, k13, h⟩ := Option.bind_eq_some_iff.mp h
  obtain ⟨rfl, rfl⟩ := Prod.mk.inj (Option.some.inj h)
  obtain ⟨a1, a2, -⟩ := strP_some k2
  obtain ⟨b1, b2⟩ := decP_some k4
  obtain ⟨c1, c2, -⟩ := strP_some k6
  obtain ⟨d1, d2⟩ := optP_some k8
  obtain ⟨e1, e2⟩ := optP_some k10
  obtain ⟨f1, f2⟩ := extP_some k12
  constructor
  · rw [lit_some k1, a1, lit_some k3, b1, lit_some k5, c1, lit_some k7, d1, lit_some k9, e1,
      lit_some k11, f1, lit_some k13]
    simp only [render, append_assoc]
  · simp only [UBT.wf, ExtT.wf, Bool.and_eq_true]
    refine ⟨⟨⟨⟨⟨a2, b2⟩, c2⟩, ?_⟩, ?_⟩, ?_⟩
    · rcases prev with _ | a
      · rfl
      · exact (d2 a rfl).1
    · rcases hash with _ | a
      · rfl
      · exact (e2 a rfl).1
    · rcases ext with _ | e
      · rfl
      · simp only [Bool.and_eq_true]
        exact ⟨(f2 e rfl).1.1, (f2 e rfl).2.1⟩

theorem parseUBT_ok {t : List Char} {u : UBT} (h : parseUBT t = .ok u) : parseP t = some (u, []) := by
  unfold parseUBT at h
  split at h
  · rename_i hp
    cases h
    exact hp
  · cases h

/-- **The canonical parser accepts exactly the rendered well-formed blocks.** -/
theorem parseUBT_ok_iff (t : List Char) (u : UBT) :
    parseUBT t = .ok u ↔ t = render u ∧ u.wf = true := by
  constructor
  · intro h
    exact append_nil (render u) ▸ parseP_some (parseUBT_ok h)
  · rintro ⟨ht, hw⟩
    rw [parseUBT, ht, ← append_nil (render u), parseP_render hw []]
    rfl

end MetadorModel.UBlock
