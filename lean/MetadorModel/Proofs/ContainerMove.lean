import MetadorModel.Proofs.ContainerCopy
import MetadorModel.Proofs.ContainerReload
/-!
# `group.move(source, dest)` keeps the invariant; the invariant along histories

`move` is the last operation, so the file closes with the results for the whole model: `OpOK` (the one side
condition on operations), `step_inv` and `run_inv`.
-/
namespace MetadorModel.Container

theorem linkUpdate_run (u : Nat) (pnew : Path) (s : St) (tp : Path) (t1 t2 : Tree)
    (htp : alGet s.c.tocPath u = some tp) (h1 : rawDel s.raw tp = .ok t1)
    (h2 : rawCreate t1 tp (.ds (.target pnew)) = .ok t2) :
    linkUpdate u pnew s = (.ok (), ⟨t2, s.c, s.next⟩) := by
  simp [linkUpdate, htp, run_liftRaw, h1, h2]

/-- `TOCLinks.update`: re-targeting the link of uuid `u` -/
theorem linkUpdate_spec {e : Env} {L : Path → SRef → Nat → Prop} {s : St}
    (hc : TocOK e s L) {p0 : Path} {r : SRef} {u : Nat} (hL : L p0 r u) (pnew : Path) :
    ∃ s', linkUpdate u pnew s = (.ok (), s') ∧
      TocOK e s' (fun q r' u' => (L q r' u' ∧ u' ≠ u) ∨ (q = pnew ∧ r' = r ∧ u' = u)) ∧
      TocStep s s' := by
  obtain ⟨hb, hlnk, hsch⟩ := tocRaw_iff.mp hc.toc
  have htp : alGet s.c.tocPath u = some (linkPath r u) := (hc.lcache u _).mpr ⟨p0, r, hL, rfl⟩
  have hlink : get? s.raw (linkPath r u) = some (.ds (.target p0)) := hlnk.link_some p0 r u hL
  have hleaf : ∀ q, linkPath r u <+: q → q ≠ linkPath r u → get? s.raw q = none := by
    intro q hpre hne
    by_contra hcn
    obtain ⟨b, rfl⟩ := hpre
    have := hb.shape ([.links, .ep r, .link u] ++ b) (by simpa [linkPath] using hcn)
    cases b with
    | nil => simp at hne
    | cons x b => cases this
  -- the groups above the link
  have hex : ∃ p r' u', L p r' u' := ⟨p0, r, u, hL⟩
  have hpar : ∀ q, isMid [] (linkPath r u) q = true → get? s.raw q = some .grp := by
    intro q hm
    simp only [linkPath, isMid, List.nil_append, Bool.or_false, Bool.or_eq_true, beq_iff_eq] at hm
    rcases hm with rfl | rfl | rfl
    · exact hb.root
    · exact hlnk.links.1 hex
    · exact (hlnk.ldir r).1 ⟨p0, u, hL⟩
  obtain ⟨t1, t2, h1, h2, g2⟩ := rawReplace_leaf (t := s.raw) (p := linkPath r u) (by simp [linkPath])
    (by rw [hlink]; simp) hleaf hpar (.ds (.target pnew))
  have step : TocStep s ⟨t2, s.c, s.next⟩ :=
    (TocStep.of_del h1 (by simp [linkPath]) s.c).trans
      (TocStep.of_create (s := ⟨t1, s.c, s.next⟩) h2 (by simp [linkPath]) s.c)
  let L' := fun q r' u' => (L q r' u' ∧ u' ≠ u) ∨ (q = pnew ∧ r' = r ∧ u' = u)
  -- up to the target path, the old and the new relation link the same schemas and uuids
  have fwd : ∀ q r' u', L q r' u' → ∃ q', L' q' r' u' := fun q r' u' h => by
    by_cases hu : u' = u
    · subst hu
      obtain ⟨-, rfl⟩ := hc.luniq q p0 r' r u' h hL
      exact ⟨pnew, Or.inr ⟨rfl, rfl, rfl⟩⟩
    · exact ⟨q, Or.inl ⟨h, hu⟩⟩
  have bwd : ∀ q r' u', L' q r' u' → ∃ q', L q' r' u' := by
    rintro q r' u' (⟨h, -⟩ | ⟨-, rfl, rfl⟩)
    exacts [⟨q, h⟩, ⟨p0, hL⟩]
  have hU : ∀ r', (∃ q u', L' q r' u') ↔ (∃ q u', L q r' u') := fun r' =>
    ⟨fun ⟨q, u', h⟩ => (bwd q r' u' h).imp fun _ h' => ⟨u', h'⟩,
      fun ⟨q, u', h⟩ => (fwd q r' u' h).imp fun _ h' => ⟨u', h'⟩⟩
  have hne_link : ∀ r' u', (r', u') ≠ (r, u) → linkPath r' u' ≠ linkPath r u := by
    intro r' u' hne h
    simp only [linkPath, List.cons.injEq, Key.ep.injEq, Key.link.injEq, true_and, and_true] at h
    exact hne (by rw [h.1, h.2])
  refine ⟨⟨t2, s.c, s.next⟩, linkUpdate_run u pnew s _ t1 t2 htp h1 h2, ⟨?_, hc.scache.congr hU, ?_, ?_⟩, step⟩
  · -- the raw TOC
    refine tocRaw_iff.mpr ⟨?_, ?_, (hsch.frame ?_).congr hU⟩
    · refine ⟨?_, ?_, ?_, ?_⟩
      · rw [g2, if_neg (by simp [tocP, linkPath])]; exact hb.root
      · rw [g2, if_neg (by simp [versionP, linkPath])]; exact hb.ver
      · rw [g2, if_neg (by simp [uuidP, linkPath])]; exact hb.uid
      · intro rest hne
        rw [g2] at hne
        by_cases hq : Key.toc :: rest = linkPath r u
        · simp only [linkPath, List.cons.injEq, true_and] at hq
          rw [hq]; exact .link r u
        · rw [if_neg hq] at hne; exact hb.shape rest hne
    · refine ⟨?_, fun r' => ?_, ?_, ?_⟩
      · refine Holds.intro_some ?_ ⟨pnew, r, u, Or.inr ⟨rfl, rfl, rfl⟩⟩
        rw [g2, if_neg (by simp [linksP, linkPath])]; exact hlnk.links.1 hex
      · refine (hlnk.ldir r').congr ?_ (hU r')
        rw [g2, if_neg (by simp [linkDir, linkPath])]
      · rintro q r' u' (⟨h, hu⟩ | ⟨rfl, rfl, rfl⟩)
        · rw [g2, if_neg (hne_link r' u' (by
            intro heq; cases heq; exact hu rfl))]
          exact hlnk.link_some q r' u' h
        · rw [g2, if_pos rfl]
      · intro r' u' hno
        have hne : (r', u') ≠ (r, u) := by
          rintro heq; cases heq
          exact hno ⟨pnew, Or.inr ⟨rfl, rfl, rfl⟩⟩
        rw [g2, if_neg (hne_link r' u' hne)]
        exact hlnk.link_none r' u' fun ⟨q, h⟩ => hno (fwd q r' u' h)
    · intro q hq
      rw [g2, if_neg]
      rintro rfl
      rcases hq with h | h <;> simp [schemasP, packagesP, linkPath] at h
  · -- the link cache (unchanged)
    intro u' tp
    show alGet s.c.tocPath u' = some tp ↔ _
    rw [hc.lcache u' tp]
    exact ⟨fun ⟨q, r', h, e⟩ => (fwd q r' u' h).imp fun _ h' => ⟨r', h', e⟩,
      fun ⟨q, r', h, e⟩ => (bwd q r' u' h).imp fun _ h' => ⟨r', h', e⟩⟩
  · exact LUniq.add (L := fun q r' u' => L q r' u' ∧ u' ≠ u) (fun q q' r1 r2 u' h1 h2 => hc.luniq q q' r1 r2 u' h1.1 h2.1)
      fun ⟨_, _, _, h⟩ => h rfl

/-- link relation after the links of the objects in `todo` have been re-targeted to their paths -/
def Relinked (L : Path → SRef → Nat → Prop) (todo : List Path) (q : Path) (r : SRef) (u : Nat) : Prop :=
  (L q r u ∧ ∀ p ∈ todo, ∀ r', objOfPath p ≠ some (r', u)) ∨ (q ∈ todo ∧ objOfPath q = some (r, u))

theorem repairMove_step_run (e : Env) (p : Path) (r : SRef) (u : Nat) (todo : List Path) (s s1 : St) (tp : Path)
    (ho : objOfPath p = some (r, u)) (htp : alGet s.c.tocPath u = some tp)
    (h1 : linkUpdate u p s = (.ok (), s1)) :
    repairMissing e (p :: todo) true s = repairMissing e todo true s1 := by
  rw [repairMissing_cons]
  simp only [ho, Bool.true_and, htp, Option.isSome_some, if_true, bind, M.bind, run_getSt, h1]

theorem relink_spec {e : Env} : ∀ (todo : List Path) (s : St) (L : Path → SRef → Nat → Prop),
    TocOK e s L →
    (∀ p ∈ todo, ∃ r u p0, objOfPath p = some (r, u) ∧ L p0 r u) →
    todo.Pairwise (fun p p' => ∀ r u r' u', objOfPath p = some (r, u) → objOfPath p' = some (r', u') → u ≠ u') →
    ∃ s', repairMissing e todo true s = (.ok (), s') ∧ TocOK e s' (Relinked L todo) ∧ TocStep s s' := by
  intro todo
  induction todo with
  | nil => exact fun s L hc _ _ =>
    ⟨s, rfl, hc.congr (fun q r u => by simp [Relinked]), TocStep.refl s⟩
  | cons p todo ih =>
    intro s L hc hall hdist
    obtain ⟨r, u, p0, ho, hL⟩ := hall p (by simp)
    obtain ⟨hd1, hd2⟩ := List.pairwise_cons.mp hdist
    obtain ⟨s1, hrun1, hc1, step1⟩ := linkUpdate_spec hc hL p
    have htp : alGet s.c.tocPath u = some (linkPath r u) := (hc.lcache u _).mpr ⟨p0, r, hL, rfl⟩
    have hall1 : ∀ p' ∈ todo, ∃ r' u' p0', objOfPath p' = some (r', u') ∧
        ((L p0' r' u' ∧ u' ≠ u) ∨ (p0' = p ∧ r' = r ∧ u' = u)) := by
      intro p' hp'
      obtain ⟨r', u', p0', ho', hL'⟩ := hall p' (List.mem_cons_of_mem _ hp')
      exact ⟨r', u', p0', ho', Or.inl ⟨hL', fun h => hd1 p' hp' r u r' u' ho ho' h.symm⟩⟩
    obtain ⟨s', hrun', hc', step'⟩ := ih s1 _ hc1 hall1 hd2
    refine ⟨s', by rw [repairMove_step_run e p r u todo s s1 _ ho htp hrun1]; exact hrun', hc'.congr ?_,
      step1.trans step'⟩
    intro q r' u'
    simp only [Relinked, List.mem_cons, forall_eq_or_imp]
    constructor
    · rintro (⟨hLq, hnp, hnt⟩ | ⟨rfl | hq, hoq⟩)
      · exact Or.inl ⟨Or.inl ⟨hLq, fun h => hnp r (h ▸ ho)⟩, hnt⟩
      · rw [ho] at hoq; cases hoq
        exact Or.inl ⟨Or.inr ⟨rfl, rfl, rfl⟩, fun p' hp' r'' h => hd1 p' hp' r u r'' u ho h rfl⟩
      · exact Or.inr ⟨hq, hoq⟩
    · rintro (⟨⟨hLq, hu⟩ | ⟨rfl, rfl, rfl⟩, hnt⟩ | ⟨hq, hoq⟩)
      · refine Or.inl ⟨hLq, ?_, hnt⟩
        intro r'' h
        rw [ho] at h; cases h; exact hu rfl
      · exact Or.inr ⟨Or.inl rfl, ho⟩
      · exact Or.inr ⟨Or.inr hq, hoq⟩

/-- after the tree has been re-rooted (`S ↦ D`): `find_missing(D)` + `repair_missing(update=True)`
re-establish the invariant -/
theorem move_finish {e : Env} {s : St} (hi : Inv e s) {t2 : Tree} {S D : Path} (ht2 : TreeOK e t2)
    (htoc : ∀ q, q.head? = some .toc → get? t2 q = get? s.raw q)
    (hD0 : D ≠ []) (hDt : D.head? ≠ some .toc) (hDobj : ∀ r u, ¬ ObjAt t2 D r u)
    (hfreeD : ∀ q r u, ObjAt s.raw q r u → ¬ D <+: q)
    (hobj : ∀ p r u, ObjAt t2 p r u ↔ ((D <+: p ∧ ObjAt s.raw (S ++ p.drop D.length) r u) ∨
      (¬ D <+: p ∧ ¬ S <+: p ∧ ObjAt s.raw p r u))) :
    ∃ missing s', findMissing ⟨t2, s.c, s.next⟩ D = .ok missing ∧
      repairMissing e missing true ⟨t2, s.c, s.next⟩ = (.ok (), s') ∧ Inv e s' ∧
      (∀ q, q.head? ≠ some .toc → get? s'.raw q = get? t2 q) := by
  have hc2 : TocOK e ⟨t2, s.c, s.next⟩ (ObjAt s.raw) :=
    ⟨hi.toc.frame htoc, hi.scache, hi.lcache, fun p p' r r' u => hi.mok.uniq p p' r r' u⟩
  have hmiss : findMissing ⟨t2, s.c, s.next⟩ D = .ok (objsBelow t2 D) := by
    refine findMissing_all (s := ⟨t2, s.c, s.next⟩) ht2 hc2 hD0 hDt ?_
    rintro q r u ho hpre p0 r0 hL rfl
    exact hfreeD p0 r0 u hL hpre
  have hmem : ∀ q, q ∈ objsBelow t2 D ↔ ((∃ r u, ObjAt t2 q r u) ∧ D <+: q) := fun q =>
    (mem_objsBelow ht2 hD0 hDt q).trans
      (and_congr_right fun ⟨r, u, h⟩ => and_iff_left_of_imp fun _ hq => hDobj r u (hq ▸ h))
  have hoo : ∀ q r u, ObjAt t2 q r u → objOfPath q = some (r, u) := by
    rintro q r u ⟨b, m, -, rfl, -⟩; exact objOfPath_obj b m r u
  -- the old path of a moved object
  have hold : ∀ q r u, ObjAt t2 q r u → D <+: q → ObjAt s.raw (S ++ q.drop D.length) r u := fun q r u ho hpre =>
    ((hobj q r u).mp ho).elim (·.2) (fun h => absurd hpre h.1)
  obtain ⟨s', hrun', hc', step'⟩ := relink_spec (e := e) (objsBelow t2 D) ⟨t2, s.c, s.next⟩ (ObjAt s.raw)
    hc2
    (by
      intro p hp
      obtain ⟨⟨r, u, ho⟩, hpre⟩ := (hmem p).mp hp
      exact ⟨r, u, _, hoo p r u ho, hold p r u ho hpre⟩)
    (by
      refine List.Nodup.pairwise_of_forall_ne (objsBelow_nodup ht2.keys D) ?_
      intro p hp p' hp' hne r u r' u' ho ho' hu
      subst hu
      obtain ⟨⟨r1, u1, h1⟩, hpre⟩ := (hmem p).mp hp
      obtain ⟨⟨r2, u2, h2⟩, hpre'⟩ := (hmem p').mp hp'
      rw [hoo p r1 u1 h1] at ho; cases ho
      rw [hoo p' r2 u2 h2] at ho'; cases ho'
      have := (hi.mok.uniq _ _ _ _ _ (hold p r u h1 hpre) (hold p' r' u h2 hpre')).1
      obtain ⟨c, rfl⟩ := hpre
      obtain ⟨c', rfl⟩ := hpre'
      simp only [drop_append_self] at this
      exact hne (by rw [List.append_cancel_left this]))
  refine ⟨_, s', hmiss, hrun', ?_, step'.frame⟩
  have hobj' : ∀ q r u, ObjAt s'.raw q r u ↔ ObjAt t2 q r u := ObjAt.congr step'.frame
  have hL' : ∀ q r u, ObjAt s'.raw q r u ↔ Relinked (ObjAt s.raw) (objsBelow t2 D) q r u := by
    intro q r u
    rw [hobj']
    constructor
    · intro ho
      by_cases hpre : D <+: q
      · exact Or.inr ⟨(hmem q).mpr ⟨⟨r, u, ho⟩, hpre⟩, hoo q r u ho⟩
      · rcases (hobj q r u).mp ho with ⟨h, -⟩ | ⟨-, hns, h⟩
        · exact absurd h hpre
        · refine Or.inl ⟨h, ?_⟩
          intro p hp r' hop
          obtain ⟨⟨r1, u1, h1⟩, hpre1⟩ := (hmem p).mp hp
          rw [hoo p r1 u1 h1] at hop; cases hop
          have := (hi.mok.uniq _ _ _ _ _ (hold p r' u h1 hpre1) h).1
          exact hns (this ▸ List.prefix_append _ _)
    · rintro (⟨h, hno⟩ | ⟨hq, hoq⟩)
      · have hnd : ¬ D <+: q := hfreeD q r u h
        refine (hobj q r u).mpr (Or.inr ⟨hnd, ?_, h⟩)
        intro hs
        obtain ⟨c, rfl⟩ := hs
        -- the moved copy of this object would be in the list
        have hmoved : ObjAt t2 (D ++ c) r u := (hobj _ r u).mpr (Or.inl ⟨List.prefix_append _ _, by
          rw [drop_append_self]; exact h⟩)
        exact hno (D ++ c) ((hmem _).mpr ⟨⟨r, u, hmoved⟩, List.prefix_append _ _⟩) r (hoo _ r u hmoved)
      · obtain ⟨⟨r1, u1, h1⟩, -⟩ := (hmem q).mp hq
        rw [hoo q r1 u1 h1] at hoq; cases hoq
        exact h1
  refine inv_of_parts (treeOK_of_frame ht2 (step'.keys ht2.keys) (step'.pclosed ht2.pclosed) step'.frame)
    (hc'.congr hL') ?_
  intro q r u ho
  rw [step'.next]
  show u < s.next
  rcases (hobj q r u).mp ((hobj' _ _ _).mp ho) with ⟨-, h⟩ | ⟨-, -, h⟩ <;> exact hi.mok.bound _ r u h

/-- What `move` leaves behind: the invariant; nothing outside the moved node (and, for a dataset,
its metadata directory) is touched; and if the operation succeeded the node with everything below
it (for a dataset: the node and its metadata directory) is found unchanged at the new place. -/
def MovePost (e : Env) (s : St) (src dst : Path) (r : Res Unit) : Prop :=
  Inv e r.2 ∧
  (∀ q n, q.head? ≠ some .toc → get? s.raw q = some n → ¬ src <+: q →
    (∀ k, nodeKind s src = some k → ¬ metaBase src k <+: q) → get? r.2.raw q = some n) ∧
  (r.1 = .ok () →
    (nodeKind s src = some false → ∀ c, get? r.2.raw (dst ++ c) = get? s.raw (src ++ c)) ∧
    (nodeKind s src = some true → get? r.2.raw dst = get? s.raw src ∧
      ∀ c, get? r.2.raw (metaBase dst true ++ c) = get? s.raw (metaBase src true ++ c)))

theorem MovePost.err {e : Env} {s : St} (hi : Inv e s) (src dst : Path) (err : Err) :
    MovePost e s src dst (.error err, s) :=
  ⟨hi, fun _ _ _ h _ _ => h, fun h => by cases h⟩

/-- `move` of a dataset that has metadata, after the dataset itself has been moved (tree `t1`): the
directory follows, and the links of its objects are re-targeted -/
theorem move_ds_meta {e : Env} {s : St} (hi : Inv e s) {b b' : Path} {m m' : String} {v : Val} {t1 : Tree}
    (hb : isInternal b = false) (hb' : isInternal b' = false)
    (ht1 : TreeOKx e t1 (fun P => P = b ++ [.metaDir m])) (hobj1 : ∀ p r u, ObjAt t1 p r u ↔ ObjAt s.raw p r u)
    (htoc1 : ∀ q, q.head? = some .toc → get? t1 q = get? s.raw q)
    (hdv : get? t1 (b' ++ [.user m']) = some (.ds v)) (hfree2 : get? t1 (b' ++ [.metaDir m']) = none)
    (hsm : get? t1 (b ++ [.metaDir m]) ≠ none) :
    ∃ t2 missing s', rawMove t1 (b ++ [.metaDir m]) (b' ++ [.metaDir m']) = .ok t2 ∧
      has t2 (b' ++ [.metaDir m']) = true ∧
      findMissing ⟨t2, s.c, s.next⟩ (b' ++ [.metaDir m']) = .ok missing ∧
      repairMissing e missing true ⟨t2, s.c, s.next⟩ = (.ok (), s') ∧ Inv e s' ∧
      (∀ q n, q.head? ≠ some .toc → get? t1 q = some n → ¬ b ++ [.metaDir m] <+: q → get? s'.raw q = some n) ∧
      ∀ c, get? s'.raw (b' ++ [.metaDir m'] ++ c) = get? t1 (b ++ [.metaDir m] ++ c) := by
  have hne : b ++ [Key.metaDir m] ≠ b' ++ [.metaDir m'] := fun h => hsm (h ▸ hfree2)
  have hb'g : get? t1 b' = some .grp := ht1.pclosed b' (.user m') (by rw [hdv]; simp)
  obtain ⟨t2, hmv2⟩ := rawMove_ok (t := t1) (src := b ++ [.metaDir m]) (dst := b' ++ [.metaDir m'])
    (by simp) (by simp) hsm hfree2
    (fun hp => (prefix_snoc_iff.mp hp).elim hne fun h => by
      have := isInternal_prefix h hb'
      rw [isInternal_metaDir b m []] at this; cases this)
    (fun q v' hm => by
      obtain ⟨-, hpre, hqn⟩ := isMid_nil_iff.mp hm
      have h := (prefix_snoc_iff.mp hpre).resolve_left hqn
      by_cases hqb : q = b'
      · rw [hqb, hb'g]; exact fun h => by cases h
      · rw [prefix_grp' ht1.pclosed h hqb (by rw [hb'g]; simp)]; exact fun h => by cases h)
  have hreb2 := rebased_of_move hmv2 ht1.pclosed
  obtain ⟨ht2, hobj2⟩ := treeOK_rebase_meta ht1 (fun P h => ⟨rfl, h⟩) hb hb' (Or.inr ⟨v, hdv⟩) hfree2
    (rawMove_keys hmv2 ht1.keys ht1.pclosed) (rawMove_pclosed hmv2 ht1.pclosed) hreb2
  have hgd2 := hreb2.below (show b' ++ [Key.metaDir m'] ≠ [] by simp)
  obtain ⟨missing, s', hmiss, hrun, hinv, hfr⟩ := move_finish (S := b ++ [.metaDir m]) (D := b' ++ [.metaDir m']) hi ht2
    (fun q hq => (rebased_toc hreb2 (by simp) (objPath_head hb') (by simp) (objPath_head hb) q hq).trans
      (htoc1 q hq))
    (by simp) (objPath_head hb')
    (fun r u ⟨_, _, _, hp, _⟩ => by have := congrArg List.getLast? hp; simp at this)
    (fun q r u ho => ((hobj1 q r u).mpr ho).not_below_free ht1.pclosed hfree2)
    (fun p r u => by simp only [hobj2, hobj1, true_and])
  refine ⟨t2, missing, s', hmv2, has_iff.mpr (by rw [← List.append_nil (b' ++ _), hgd2, List.append_nil]; exact hsm),
    hmiss, hrun, hinv, fun q n hqt hq hns => ?_, fun c => ?_⟩
  · rw [hfr q hqt]; exact hreb2.keep ht1.pclosed hfree2 hq (fun h => hns h.2)
  · rw [hfr _ (by rw [List.append_assoc]; exact objPath_head hb'), hgd2]

/-- `group.move(source, dest)`: success or failure. The last name of `dest` must not be empty
(HDF5 names never are; `Key.user ""` is an artefact of the structured names of this model). -/
theorem opMove_spec {e : Env} {s : St} (hi : Inv e s) (src dst : Path)
    (hname : dst.getLast? ≠ some (.user "")) : MovePost e s src dst (opMove e src dst s) := by
  unfold opMove guardPath
  cases hsi : isInternal src with
  | true => exact MovePost.err hi src dst .value
  | false =>
    cases hdi : isInternal dst with
    | true => exact MovePost.err hi src dst .value
    | false =>
      cases hk : nodeKind s src with
      | none =>
        simp only [Bool.false_eq_true, if_false, bind, M.bind, run_pure, run_getSt, hk, run_ofOpt_none]
        exact MovePost.err hi src dst .key
      | some k =>
        cases hmv : rawMove s.raw src dst with
        | error err =>
          simp only [Bool.false_eq_true, if_false, bind, M.bind, run_pure, run_getSt, hk, run_ofOpt_some,
            run_liftRaw, hmv]
          exact MovePost.err hi src dst err
        | ok t1 =>
          have ht := hi.treeOK
          obtain ⟨hs0, hd0, -, hfree, -, -⟩ := rawMove_inv hmv
          have hreb1 := rebased_of_move hmv ht.pclosed
          have htoc1 : ∀ q, q.head? = some .toc → get? t1 q = get? s.raw q :=
            rebased_toc hreb1 hd0 (isInternal_head_ne_toc hdi) hs0 (isInternal_head_ne_toc hsi)
          have hgd1 := hreb1.below hd0
          have hdst1 : get? t1 dst = get? s.raw src := by simpa using hgd1 []
          have hkd : nodeKind ⟨t1, s.c, s.next⟩ dst = some k :=
            (nodeKind_of_get (s := s) (p := src) hdst1.symm s.c s.next).symm.trans hk
          have keep1 : ∀ q n, get? s.raw q = some n → ¬ src <+: q → get? t1 q = some n := fun q n hq hns =>
            hreb1.keep ht.pclosed hfree hq (fun h => hns h.2)
          simp only [Bool.false_eq_true, if_false, bind, M.bind, run_pure, run_getSt, hk, run_ofOpt_some,
            run_liftRaw, hmv, hkd]
          cases k with
          | false =>
            have hgrp := nodeKind_false hk
            obtain ⟨ht1, hobj1⟩ := treeOK_rebase_user ht hsi hdi (fun _ => hgrp) hs0 hd0 hfree
              (rawMove_keys hmv ht.keys ht.pclosed) (rawMove_pclosed hmv ht.pclosed) hreb1
            have hhas : has t1 dst = true := has_iff.mpr (by rw [hdst1, hgrp]; simp)
            obtain ⟨missing, s', hmiss, hrun', hinv', hfr'⟩ := move_finish (S := src) hi ht1 htoc1 hd0
              (isInternal_head_ne_toc hdi) (fun r u ho => by rw [ho.internal] at hdi; cases hdi)
              (fun p r u ho => ho.not_below_free ht.pclosed hfree)
              (fun p r u => by simp only [hobj1, true_and])
            simp only [Bool.false_eq_true, if_false, run_pure, hhas, if_true, hmiss, hrun']
            refine ⟨hinv', fun q n hqt hq hns _ => (hfr' q hqt).trans (keep1 q n hq hns),
              fun _ => ⟨fun _ c => ?_, fun h => by rw [hk] at h; cases h⟩⟩
            exact (hfr' _ (head_append_ne_toc c hd0 (isInternal_head_ne_toc hdi))).trans (hgd1 c)
          | true =>
            obtain ⟨v, hv⟩ := nodeKind_true hk
            obtain ⟨b, m, rfl, hb⟩ := user_path_snoc hs0 hsi
            obtain ⟨b', m', rfl, hb'⟩ := user_path_snoc hd0 hdi
            have hm' : m' ≠ "" := by rintro rfl; exact hname (by simp)
            obtain ⟨ht1x, hobj1, hint1, hdv⟩ := treeOK_move_ds ht hsi hdi hv hmv
            -- the directory name of the destination is free
            have hfree2 : get? t1 (b' ++ [.metaDir m']) = none := by
              rw [hint1 _ (isInternal_metaDir b' m' [])]
              by_contra hg
              rcases ht.host_ds b' m' hb' hg (fun h => h) with h | ⟨v', hv'⟩
              · exact hm' h
              · rw [hfree] at hv'; cases hv'
            simp only [metaBase_ds, if_true]
            cases hsm : has t1 (b ++ [.metaDir m]) with
            | false =>
              have hsm' : get? t1 (b ++ [.metaDir m]) = none := has_false_iff.mp hsm
              simp only [run_getSt, hsm, Bool.false_eq_true, if_false, run_pure, has_false_iff.mpr hfree2, M.bind]
              refine ⟨inv_of_same_objs hi (ht1x.weaken fun base mm _ hg hex => hg (hex ▸ hsm')) htoc1 hobj1,
                fun q n _ hq hns _ => keep1 q n hq hns, fun _ => ⟨fun h => (by rw [hk] at h; cases h), fun _ => ⟨hdst1, fun c => ?_⟩⟩⟩
              rw [metaBase_ds, metaBase_ds]
              show get? t1 (b' ++ [.metaDir m'] ++ c) = get? s.raw (b ++ [.metaDir m] ++ c)
              rw [none_below_free ht1x.pclosed hfree2 (List.prefix_append _ _),
                ← hint1 _ (by rw [List.append_assoc]; exact isInternal_metaDir b m c),
                none_below_free ht1x.pclosed hsm' (List.prefix_append _ _)]
            | true =>
              obtain ⟨t2, missing, s', hmv2, hhas2, hmiss, hrun', hinv', hkeep, hdir⟩ :=
                move_ds_meta hi hb hb' ht1x hobj1 htoc1 hdv hfree2 (has_iff.mp hsm)
              simp only [run_getSt, hsm, if_true, run_liftRaw, hmv2, run_pure, M.bind, hhas2, hmiss, hrun']
              refine ⟨hinv', fun q n hqt hq hns hnm => hkeep q n hqt (keep1 q n hq hns) (by rw [← metaBase_ds]; exact hnm true hk),
                fun _ => ⟨fun h => (by rw [hk] at h; cases h), fun _ => ⟨?_, fun c => ?_⟩⟩⟩
              · exact (hkeep _ _ (user_head m' hb') hdv (metaDir_not_prefix_user hb')).trans (hdst1 ▸ hdv).symm
              · rw [metaBase_ds, metaBase_ds]
                exact (hdir c).trans (hint1 _ (by rw [List.append_assoc]; exact isInternal_metaDir b m c))

theorem opMove_inv {e : Env} {s : St} (hi : Inv e s) (src dst : Path)
    (hname : dst.getLast? ≠ some (.user "")) : Inv e (opMove e src dst s).2 :=
  (opMove_spec hi src dst hname).1

/-- side condition on operations: the destination of a `move` does not end in the empty name
(HDF5 names are never empty; the driver's path parser refuses empty segments) -/
def OpOK : Op → Prop
  | .move _ dst => dst.getLast? ≠ some (.user "")
  | _ => True

instance (op : Op) : Decidable (OpOK op) := by
  cases op <;> unfold OpOK <;> infer_instance

/-- every operation keeps the invariant (success and failure) -/
theorem step_inv {e : Env} (he : WFEnv e) {s : St} (hi : Inv e s) (op : Op) (hop : OpOK op) :
    Inv e (step e op s).2 := by
  cases op with
  | createGroup p => exact opCreateGroup_inv hi p
  | createDataset p tok => exact opCreateDataset_inv hi p tok
  | onMeta p ops => exact opMeta_inv he hi p ops
  | delete p => exact opDelete_inv he hi p
  | copy src dst wm => exact opCopy_inv he hi src dst wm
  | move src dst => exact opMove_inv hi src dst hop
  | reopen => exact opReopen_inv he hi
  | patch => exact hi

theorem run_inv {e : Env} (he : WFEnv e) : ∀ (ops : List Op) (s : St), Inv e s → (∀ op ∈ ops, OpOK op) →
    Inv e (run e s ops)
  | [], _, hi, _ => hi
  | op :: ops, s, hi, h =>
    run_inv he ops _ (step_inv he hi op (h op (by simp))) (fun o ho => h o (List.mem_cons_of_mem _ ho))

end MetadorModel.Container
