import MetadorModel.Proofs.Listing
import MetadorModel.Proofs.OverlayWriteOps
/-!
# C01 write side: one basic step of the overlay refines one step of the plain tree

`Sim x y` relates the outcome of an overlay write with the outcome of the same call on the
plain tree: both fail, or both succeed with `Rep`-related results (and the invariant holds
again). `step_sim_basic` proves it for `set`, `grp`, `del`, `sattr`, `dattr`, `patch`. Every
record shows some tree (`rep_treeOf`), so the invariant is kept without mention of a tree
(`step_inv_basic`).
-/
namespace MetadorModel.Overlay
open MetadorModel.Tree
variable {V : Type}

def Sim (x : Except Err (Rec V)) (y : Except Err (Tree V)) : Prop :=
  match x, y with
  | .ok r', .ok t' => Rep r' t' ∧ Inv r' ∧ r' ≠ []
  | .error _, .error _ => True
  | _, _ => False

theorem Sim.of_err {x : Except Err (Rec V)} {y : Except Err (Tree V)}
    (hx : ∃ e, x = .error e) (hy : ∃ e, y = .error e) : Sim x y := by
  obtain ⟨e, rfl⟩ := hx
  obtain ⟨e', rfl⟩ := hy
  trivial

theorem Sim.of_ok {x : Except Err (Rec V)} {y : Except Err (Tree V)} (r' : Rec V) (t' : Tree V)
    (hx : x = .ok r') (hy : y = .ok t') (h : Rep r' t' ∧ Inv r' ∧ r' ≠ []) : Sim x y := by
  subst hx; subst hy; exact h

theorem Sim.cases {x : Except Err (Rec V)} {y : Except Err (Tree V)} (h : Sim x y) :
    (∃ r' t', x = .ok r' ∧ y = .ok t' ∧ Rep r' t' ∧ Inv r' ∧ r' ≠ []) ∨
    (∃ e e', x = .error e ∧ y = .error e') := by
  cases x with
  | ok r' =>
    cases y with
    | ok t' => exact Or.inl ⟨r', t', rfl, rfl, h⟩
    | error e => simp [Sim] at h
  | error e =>
    cases y with
    | ok t' => simp [Sim] at h
    | error e' => exact Or.inr ⟨e, e', rfl, rfl⟩

theorem Sim.bind {x : Except Err (Rec V)} {y : Except Err (Tree V)}
    {f : Rec V → Except Err (Rec V)} {g : Tree V → Except Err (Tree V)} (h : Sim x y)
    (hfg : ∀ r' t', x = .ok r' → y = .ok t' → Rep r' t' → Inv r' → r' ≠ [] → Sim (f r') (g t')) :
    Sim (x >>= f) (y >>= g) := by
  rcases h.cases with ⟨r', t', rfl, rfl, h1, h2, h3⟩ | ⟨e, e', rfl, rfl⟩
  · exact hfg r' t' rfl rfl h1 h2 h3
  · trivial

theorem ok_ne_err {α : Type} {x : Except Err α} {a : α} (h1 : x = .ok a) (h2 : ∃ e, x = .error e) : False := by
  obtain ⟨e, he⟩ := h2; rw [h1] at he; cases he

theorem Sim.inv {x : Except Err (Rec V)} {y : Except Err (Tree V)} (h : Sim x y) {r' : Rec V}
    (hx : x = .ok r') : Inv r' ∧ r' ≠ [] := by
  rcases h.cases with ⟨r1, _, h1, _, _, h4, h5⟩ | ⟨_, _, h1, _⟩
  · rw [h1] at hx; cases hx; exact ⟨h4, h5⟩
  · rw [h1] at hx; cases hx

/-- the plain tree after creating a node of kind `kd` at `pre ++ [k] ++ more` shows what the
record shows after the chain was written -/
theorem rep_create (r r' : Rec V) (t : Tree V) (pre : Path) (k : Key) (more : Path) (kd : NKind V)
    (hrep : Rep r t) (hpre : viewKind r pre = some .group) (hk : viewKind r (pre ++ [k]) = none)
    (hview : ∀ q, obsR r' q =
      if isPre (pre ++ [k]) q then
        ((if q = pre ++ [k] ++ more then some kd else if isPre q (pre ++ [k] ++ more) then some .group else none),
          fun _ => none)
      else obsR r q) :
    Rep r' (aput (pre ++ [k] ++ more) ⟨kd, []⟩ (ensure emptyGroup (pre ++ [k] ++ more) t)) := by
  have hbelow : ∀ s, aget (pre ++ [k] ++ s) t = none :=
    fun s => hrep.below_none (pre ++ [k]) s (by rw [← (hrep _).1]; exact hk)
  refine (rep_iff _ _).2 fun q => ?_
  rw [hview q, obsT_aput, obsT_ensure]
  by_cases hb : isPre (pre ++ [k]) q = true
  · obtain ⟨s, rfl⟩ := (isPre_iff _ _).1 hb
    rw [if_pos hb, attrAt_absent t _ (hbelow s)]
    unfold withAnc
    rw [(kindAt_none_iff _ _).2 (hbelow s)]
    by_cases hq : pre ++ [k] ++ s = pre ++ [k] ++ more
    · simp [hq, aget]
    · simp only [hq, ↓reduceIte]
      by_cases hp : isPre (pre ++ [k] ++ s) (pre ++ [k] ++ more) = true
      · have : pre ++ [k] ++ s ∈ properPrefixes (pre ++ [k] ++ more) := (mem_properPrefixes' _ _).2 ⟨hp, hq⟩
        simp only [hp, this, ↓reduceIte]
      · have : pre ++ [k] ++ s ∉ properPrefixes (pre ++ [k] ++ more) := fun hm => hp ((mem_properPrefixes' _ _).1 hm).1
        simp only [hp, this, ↓reduceIte, Bool.false_eq_true]
  · have hb' : isPre (pre ++ [k]) q = false := by simpa using hb
    have hq : q ≠ pre ++ [k] ++ more := by rintro rfl; rw [isPre_append] at hb'; cases hb'
    rw [if_neg hb, if_neg hq, (rep_iff _ _).1 hrep q]
    unfold obsT withAnc
    cases hkq : kindAt t q with
    | some kd' => rfl
    | none =>
      have : q ∉ properPrefixes (pre ++ [k] ++ more) := by
        intro hm
        have := pp_visible_of_part r pre k hpre q (mem_pp_of_mem_pp_append _ more q hm hb')
        rw [(hrep q).1, hkq] at this; cases this
      simp only [this, ↓reduceIte]

/-- `create_group` / `create_dataset` on the plain tree, by the kind of node to be created -/
def specCreate (t : Tree V) (tgt : Path) : NKind V → Except Err (Tree V)
  | .group => Spec.createGroup t tgt
  | .data v => Spec.createDataset t tgt v

theorem specCreate_eq (t : Tree V) (p : Path) (kd : NKind V) :
    specCreate t p kd = (Spec.checkFresh t p >>= fun _ => pure (aput p ⟨kd, []⟩ (ensure emptyGroup p t))) := by
  cases kd <;> rfl

theorem create_sim (r : Rec V) (t : Tree V) (path : Path) (kd : NKind V)
    (hne : r ≠ []) (hinv : Inv r) (hrep : Rep r t) : Sim (wCreate r path kd) (specCreate t path kd) := by
  cases r with
  | nil => exact absurd rfl hne
  | cons c older =>
    cases hl : look (c :: older) path with
    | found cf nf =>
      obtain ⟨e, he⟩ := hrep.checkFresh_exists path (viewKind_ne_none_of_found hl)
      exact Sim.of_err (create_err c older path kd (Or.inl ⟨cf, nf, hl⟩)) ⟨e, by rw [specCreate_eq, he]; rfl⟩
    | insideValue =>
      obtain ⟨x, s, v, rfl, hs, hx⟩ := look_inside_props _ _ hl
      obtain ⟨e, he⟩ := hrep.checkFresh_inside x s v hs hx
      exact Sim.of_err (create_err c older _ kd (Or.inr hl)) ⟨e, by rw [specCreate_eq, he]; rfl⟩
    | part pre y =>
      obtain ⟨k, more, hpath, rfl, hpre, hk⟩ := look_part_props _ _ _ _ hl
      obtain ⟨c', h1, hinv', hview⟩ := create_ok c older path pre k more kd hinv hl
      have hcf := hrep.checkFresh_ok pre k more hpre hk
      rw [← hpath] at hcf
      refine Sim.of_ok (c' :: older) _ h1 (by rw [specCreate_eq, hcf]; rfl) ⟨?_, hinv', by simp⟩
      have hp2 : path = pre ++ [k] ++ more := by rw [hpath]; simp
      subst hp2
      exact rep_create (c :: older) (c' :: older) t pre k more kd hrep hpre hk hview

theorem delete_sim (c : Cont V) (older : Rec V) (t : Tree V) (path : Path)
    (hinv : Inv (c :: older)) (hrep : Rep (c :: older) t) :
    Sim (W.delete (c :: older) path) (Spec.delete t path) := by
  by_cases hp : path = []
  · exact Sim.of_err (delete_err c older path (Or.inl hp)) ⟨.root, by simp [Spec.delete, hp]⟩
  · by_cases hvis : viewKind (c :: older) path = none
    · exact Sim.of_err (delete_err c older path (Or.inr hvis)) ⟨.missing, by simp [Spec.delete, hp, hrep.absent hvis]⟩
    · obtain ⟨c', h1, hinv', hview⟩ := delete_ok c older path hinv hp hvis
      obtain ⟨n, hn⟩ := hrep.node hvis
      exact Sim.of_ok (c' :: older) (removeSub path t) h1 (by simp [Spec.delete, hp, hn])
        ⟨(rep_iff _ _).2 fun q => by rw [hview q, obsT_removeSub, (rep_iff _ _).1 hrep q], hinv', by simp⟩

theorem rep_attr {r r' : Rec V} {t : Tree V} {path : Path} {k : Key} {w : Option V} {n : Node V}
    {as : List (Key × V)} (hrep : Rep r t) (hn : aget path t = some n)
    (hk : ∀ q, viewKind r' q = viewKind r q)
    (ha : ∀ q k', viewAttr r' q k' = if q = path ∧ k' = k then w else viewAttr r q k')
    (has : ∀ k', aget k' as = if k' = k then w else aget k' n.attrs) :
    Rep r' (aput path { n with attrs := as } t) := by
  intro q
  refine ⟨by rw [hk, kindAt_aput_attrs t path q n as hn, (hrep q).1], fun k' => ?_⟩
  rw [ha, attrAt_aput, (hrep q).2 k']
  by_cases hq : q = path
  · subst hq
    by_cases hkk : k' = k
    · subst hkk; simp [has k']
    · simp [hkk, has k', attrAt, hn]
  · simp [hq]

theorem setAttr_sim (c : Cont V) (older : Rec V) (t : Tree V) (path : Path) (k : Key) (v : V)
    (hinv : Inv (c :: older)) (hrep : Rep (c :: older) t) :
    Sim (W.setAttr (c :: older) path k v) (Spec.setAttr t path k v) := by
  by_cases hvis : viewKind (c :: older) path = none
  · exact Sim.of_err (setAttr_err _ path k v hvis) ⟨.missing, by simp [Spec.setAttr, hrep.absent hvis]⟩
  · obtain ⟨c', h1, hinv', hk', ha'⟩ := setAttr_ok c older path k v hinv hvis
    obtain ⟨n, hn⟩ := hrep.node hvis
    exact Sim.of_ok (c' :: older) _ h1 (by simp only [Spec.setAttr, hn])
      ⟨rep_attr hrep hn hk' ha' (fun k' => aget_aput k k' v n.attrs), hinv', by simp⟩

theorem delAttr_sim (c : Cont V) (older : Rec V) (t : Tree V) (path : Path) (k : Key)
    (hinv : Inv (c :: older)) (hrep : Rep (c :: older) t) :
    Sim (W.delAttr (c :: older) path k) (Spec.delAttr t path k) := by
  by_cases hvis : viewAttr (c :: older) path k = none
  · apply Sim.of_err (delAttr_err c older path k hvis)
    rw [(hrep path).2 k] at hvis
    unfold attrAt at hvis
    cases hg : aget path t with
    | none => exact ⟨.missing, by simp [Spec.delAttr, hg]⟩
    | some n =>
      simp only [hg, Option.bind_some] at hvis
      exact ⟨.missing, by simp [Spec.delAttr, hg, hvis]⟩
  · obtain ⟨c', h1, hinv', hk', ha'⟩ := delAttr_ok c older path k hinv hvis
    rw [(hrep path).2 k] at hvis
    unfold attrAt at hvis
    cases hg : aget path t with
    | none => simp [hg] at hvis
    | some n =>
      simp only [hg, Option.bind_some] at hvis
      obtain ⟨v0, hv0⟩ := Option.ne_none_iff_exists'.1 hvis
      exact Sim.of_ok (c' :: older) _ h1 (by simp only [Spec.delAttr, hg, hv0])
        ⟨rep_attr hrep hg hk' ha' (fun k' => aget_aerase k k' n.attrs), hinv', by simp⟩

theorem newPatch_sim (c : Cont V) (older : Rec V) (t : Tree V)
    (hinv : Inv (c :: older)) (hrep : Rep (c :: older) t) :
    Sim (W.step (c :: older) .patch) (Spec.step t .patch) := by
  refine Sim.of_ok (newPatch (c :: older)) t rfl rfl ⟨?_, ⟨wf_init, invLast_init _, hinv⟩, by simp [newPatch]⟩
  intro q
  obtain ⟨h1, h2⟩ := view_newPatch' (c :: older) q
  exact ⟨by rw [h1, (hrep q).1], fun k => by rw [h2 k, (hrep q).2 k]⟩

/-- the operations of the alphabet except `copy` and `move` -/
def _root_.MetadorModel.Tree.Op.isBasic : Op V → Bool
  | .copy _ _ => false
  | .move _ _ => false
  | _ => true

theorem step_sim_basic (r : Rec V) (t : Tree V) (op : Op V) (hb : op.isBasic = true)
    (hne : r ≠ []) (hinv : Inv r) (hrep : Rep r t) : Sim (W.step r op) (Spec.step t op) := by
  cases r with
  | nil => exact absurd rfl hne
  | cons c older =>
    cases op with
    | set p v => exact create_sim _ t p (.data v) hne hinv hrep
    | grp p => exact create_sim _ t p .group hne hinv hrep
    | del p => exact delete_sim c older t p hinv hrep
    | sattr p k v => exact setAttr_sim c older t p k v hinv hrep
    | dattr p k => exact delAttr_sim c older t p k hinv hrep
    | copy s d => cases hb
    | move s d => cases hb
    | patch => exact newPatch_sim c older t hinv hrep

def mkNode (x : NKind V × List (Key × V)) : Node V := ⟨x.1, x.2⟩

/-- the canonical listing as a plain tree (root first) -/
def treeOf (r : Rec V) : Tree V :=
  ([], ⟨.group, attrsList r []⟩) :: (Merge.nonRoot (listing r)).map (fun e => (e.1, mkNode e.2))

theorem aget_treeOf (r : Rec V) (q : Path) (hq : q ≠ []) :
    aget q (treeOf r) = (viewKind r q).map (fun kd => (⟨kd, attrsList r q⟩ : Node V)) := by
  have h0 : ¬ ([] : Path) = q := fun h => hq h.symm
  unfold treeOf
  simp only [aget, h0, ↓reduceIte]
  rw [Single.aget_map_val mkNode, Listing.aget_nonRoot _ q hq, Listing.aget_listing r q hq]
  cases viewKind r q <;> rfl

theorem rep_treeOf (r : Rec V) : Rep r (treeOf r) := by
  intro q
  by_cases hq : q = []
  · subst hq
    refine ⟨by simp [kindAt, treeOf, aget, viewKind_root], fun k => ?_⟩
    simp [attrAt, treeOf, aget, Listing.aget_attrsList]
  · refine ⟨?_, fun k => ?_⟩
    · unfold kindAt; rw [aget_treeOf r q hq]
      cases viewKind r q <;> rfl
    · unfold attrAt; rw [aget_treeOf r q hq]
      cases hv : viewKind r q with
      | none => simp [viewAttr_none_of_viewKind_none r q hv k]
      | some kd => simp [Listing.aget_attrsList]

theorem exists_rep (r : Rec V) : ∃ t, Rep r t := ⟨treeOf r, rep_treeOf r⟩

/-! ### a record without containers refuses everything -/

theorem look_nil (q : Path) (hq : q ≠ []) : ∃ k rest, look ([] : Rec V) q = .part [] (k :: rest) := by
  cases q with
  | nil => exact absurd rfl hq
  | cons k rest => exact ⟨k, rest, by simp [look, lookFrom, child, scan, vnode, RKind.isGroup]⟩

theorem copy_nil (s d : Path) : ∃ e, W.copy ([] : Rec V) s d = .error e := by
  by_cases hs : s = []
  · exact ⟨.root, by simp [W.copy, hs]⟩
  · obtain ⟨k, rest, hl⟩ := look_nil (V := V) s hs
    exact ⟨.missing, by simp only [W.copy, hs, ↓reduceIte, hl]⟩

theorem step_nil (op : Op V) : ∃ e, W.step ([] : Rec V) op = .error e := by
  cases op with
  | set p v => exact ⟨.closed, rfl⟩
  | grp p =>
    simp only [W.step, W.createGroup]
    cases hl : look ([] : Rec V) p with
    | found cf nf => exact ⟨_, rfl⟩
    | insideValue => exact ⟨_, rfl⟩
    | part pre y =>
      cases y with
      | nil => exact ⟨_, rfl⟩
      | cons k more =>
        by_cases hm : more = []
        · exact ⟨.closed, by simp [hm, W.createGroupAt]⟩
        · exact ⟨.closed, by simp [hm, W.createGroupAt, bind, Except.bind]⟩
  | del p => exact ⟨.closed, rfl⟩
  | sattr p k v =>
    simp only [W.step, W.setAttr]
    cases hl : look ([] : Rec V) p with
    | found cf nf => exact ⟨.closed, rfl⟩
    | insideValue => exact ⟨_, rfl⟩
    | part pre y => exact ⟨_, rfl⟩
  | dattr p k => exact ⟨.closed, rfl⟩
  | copy s d => exact copy_nil s d
  | move s d =>
    simp only [W.step, W.move]
    by_cases hp : isPre s d = true
    · exact ⟨.root, by simp [hp]⟩
    · obtain ⟨e, he⟩ := copy_nil (V := V) s d
      exact ⟨e, by simp [hp, he, bind, Except.bind]⟩
  | patch => exact ⟨.closed, rfl⟩

theorem step_inv_basic (r r' : Rec V) (op : Op V) (hb : op.isBasic = true) (hinv : Inv r)
    (h : W.step r op = .ok r') : Inv r' ∧ r' ≠ [] := by
  by_cases hne : r = []
  · subst hne; exact (ok_ne_err h (step_nil op)).elim
  · exact (step_sim_basic r (treeOf r) op hb hne hinv (rep_treeOf r)).inv h

theorem inv_init : Inv (Rec.init : Rec V) := ⟨wf_init, invLast_init _, trivial⟩

theorem rep_init : Rep (Rec.init : Rec V) (Tree.init : Tree V) := by
  intro q
  obtain ⟨h1, h2⟩ := view_newPatch' ([] : Rec V) q
  refine ⟨h1.trans ?_, fun k => (h2 k).trans ?_⟩
  · cases q <;> rfl
  · rw [viewAttr_nil]; cases q <;> rfl

end MetadorModel.Overlay
