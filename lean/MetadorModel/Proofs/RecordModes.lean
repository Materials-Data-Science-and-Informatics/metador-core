import MetadorModel.Proofs.RecordOpen
/-! Open-mode laws of the record model (C03), proved from the call specs. -/
namespace MetadorModel.Record
open MetadorModel.FindFiles


/-- how the first constructor argument resolves to a non-empty list of container files:
an explicit list, or a record name via `find_files` -/
def Resolves (d : Disk) : Target → List Name → Prop
  | .list fs, paths => fs = paths ∧ paths ≠ []
  | .name n, paths => findFiles (names d) n = some paths ∧ paths ≠ []

theorem openRec_resolved (s : State) (c : Bool) (t : Target) (m : Mode) (paths : List Name)
    (hcl : s.h.closed = true) (hres : Resolves s.disk t paths) (hm : m = .r ∨ m = .rp ∨ m = .a) :
    openRec s c t m = openExisting s c paths m := by
  unfold openRec
  simp only [hcl, Bool.not_true, Bool.false_eq_true, if_false]
  cases t with
  | list fs =>
    obtain ⟨rfl, hne⟩ := hres
    have h1 : (m == Mode.w || m == Mode.wm || m == Mode.x) = false := by
      rcases hm with rfl | rfl | rfl <;> rfl
    have h2 : fs.isEmpty = false := by
      cases fs with
      | nil => exact absurd rfl hne
      | cons => rfl
    simp [h1, h2]
  | name n =>
    obtain ⟨hf, hne⟩ := hres
    cases paths with
    | nil => exact absurd rfl hne
    | cons f fs => rcases hm with rfl | rfl | rfl <;> simp [hf]

/-- **'r' is strictly read-only** (every disk, every target, both classes): the call changes
no file and reports an empty write set; if it succeeds, the handle has no writable container
and patching is disabled. -/
theorem open_r_pure (s : State) (c : Bool) (t : Target) :
    (openRec s c t .r).st.disk = s.disk ∧ (openRec s c t .r).W = [] ∧
    ((openRec s c t .r).out = .ok →
      hasWritable (openRec s c t .r).st.h = false ∧ (openRec s c t .r).st.h.allow = false ∧
      (openRec s c t .r).st.h.closed = false) := by
  have hfail : ∀ r : Res, Failed s r → r.st.disk = s.disk ∧ r.W = [] ∧
      (r.out = .ok → hasWritable r.st.h = false ∧ r.st.h.allow = false ∧ r.st.h.closed = false) :=
    fun r hf => ⟨hf.2.1, hf.W, fun h => absurd h hf.1⟩
  rcases openRec_cases s c t .r with hf | ⟨_, h, _⟩ | ⟨paths, h⟩
  · exact hfail _ hf.1
  · exact absurd rfl h
  rw [h]
  rcases openExisting_spec s c paths .r with hf | ⟨files, b, man, hopen, _, ⟨_, heq⟩ | ⟨hw, _, _⟩⟩
  · exact hfail _ hf.1
  · obtain ⟨_, _, ⟨fl, ul, hl, hb⟩, _⟩ := openFiles_ok hopen
    cases hb
    rw [heq]
    exact ⟨rfl, rfl, fun _ => ⟨by simp [hasWritable, openedHandle], rfl, rfl⟩⟩
  · cases hw

/-- on a handle opened read-only, creating, committing and discarding patches and writing are
refused with `ValueError` and change nothing -/
theorem open_r_refuses_patching (s : State) (hcl : s.h.closed = false) (ha : s.h.allow = false)
    (hw : hasWritable s.h = false) (hne : s.h.files ≠ []) (k : Nat) :
    createPatch s = fail s .valueError ∧ commitPlain s = fail s .valueError ∧
    discardPatch s = fail s .valueError ∧ write s k = fail s .valueError ∧
    (s.h.mfcls = true → (commitMF s).out = .valueError ∧ (commitMF s).st.disk = s.disk ∧ (commitMF s).W = []) := by
  have hne' : s.h.files.isEmpty = false := by
    cases h : s.h.files with
    | nil => exact absurd h hne
    | cons => rfl
  refine ⟨by simp [createPatch, hcl, ha], by simp [commitPlain, hcl, ha], by simp [discardPatch, hcl, ha],
    by simp [write, hcl, hw, hne'], ?_⟩
  intro _
  unfold commitMF
  cases hl : lastFile s.h.files with
  | none => exact absurd ((lastFile_eq_none _).mp hl) hne
  | some y =>
    obtain ⟨f, ub⟩ := y
    simp [commitPlain, mfPrep, hcl, ha, fail, Res.W, hl]

/-- **`r` / `r+` on a missing record fail** with `FileNotFoundError`; nothing changes. -/
theorem open_missing_r_fails (s : State) (c : Bool) (n : Name) (m : Mode) (hm : m = .r ∨ m = .rp)
    (hcl : s.h.closed = true) (habs : findFiles (names s.disk) n = some []) :
    openRec s c (.name n) m = fail s .fileNotFound := by
  rcases hm with rfl | rfl <;> simp [openRec, hcl, habs]

theorem absent_base_free {d : Disk} {n : Name} (habs : findFiles (names d) n = some []) :
    getF d (baseFile n) = none := by
  rw [getF_none_iff_not_mem_names]
  intro hmem
  unfold findFiles at habs
  split at habs
  · simp only [Option.some.injEq] at habs
    have : baseFile n ∈ (names d).filter (belongs n) := List.mem_filter.mpr ⟨hmem, belongs_baseFile n⟩
    rw [habs] at this; cases this
  · cases habs

theorem absent_valid {d : Disk} {n : Name} (habs : findFiles (names d) n = some []) : isValidName n = true := by
  unfold findFiles at habs
  split at habs
  · assumption
  · cases habs

/-- the result of creating the record `n` -/
def created (s : State) (c : Bool) (n : Name) : Res :=
  { st := { disk := setF s.disk (baseFile n) (.cont (newBaseUB s.next) []), next := s.next + 2,
            h := freshHandle c n s.next },
    out := .ok, created := [baseFile n] }

/-- **`a` creates when absent** (and so do `w`, `w-`, `x`): exactly the base container
`<n>.ih5` is created, empty and uncommitted; the handle is writable. -/
theorem open_a_creates_when_absent (s : State) (c : Bool) (n : Name) (m : Mode)
    (hm : m = .a ∨ m = .w ∨ m = .wm ∨ m = .x)
    (hcl : s.h.closed = true) (habs : findFiles (names s.disk) n = some []) :
    openRec s c (.name n) m = created s c n ∧
    hasWritable (created s c n).st.h = true ∧ view (created s c n).st = [] ∧
    (∀ g, g ≠ baseFile n → getF (created s c n).st.disk g = getF s.disk g) := by
  have hfree := absent_base_free habs
  have hv := absent_valid habs
  have hnt : createRec s c n false [] = created s c n := by
    rcases createRec_notrunc s c n [] with hf | ⟨_, _, _, heq⟩
    · exfalso
      apply hf.1.1
      simp [createRec, hv, goneFiles, newContainer, hfree, eraseAll]
    · exact heq
  have ht : createRec s c n true [] = created s c n := by
    rw [← hnt]
    simp [createRec, goneFiles, hfree]
  refine ⟨?_, by simp [created, hasWritable, freshHandle], ?_, ?_⟩
  · rcases hm with rfl | rfl | rfl | rfl
    · simp [openRec, hcl, habs, hnt]
    · simp [openRec, hcl, ht]
    · simp [openRec, hcl, hnt]
    · simp [openRec, hcl, hnt]
  · simp [view, created, freshHandle, viewFiles, payloadOf, getF_setF_eq]
  · intro g hg
    exact getF_setF_ne _ _ _ _ hg

/-- **`x` / `w-` refuse to touch an existing record**: `FileExistsError`, nothing changes. -/
theorem open_x_refuses_existing (s : State) (c : Bool) (n : Name) (m : Mode) (hm : m = .x ∨ m = .wm)
    (hcl : s.h.closed = true) (hv : isValidName n = true) (hex : (getF s.disk (baseFile n)).isSome = true) :
    openRec s c (.name n) m = fail s .fileExists := by
  have : createRec s c n false [] = fail s .fileExists := by
    simp [createRec, hv, goneFiles, newContainer, hex, eraseAll, fail]
  rcases hm with rfl | rfl <;> simp [openRec, hcl, this]

/-- `x` / `w-` (like `a`, `w`) create the record when it is absent -/
theorem open_x_creates_when_absent (s : State) (c : Bool) (n : Name) (m : Mode) (hm : m = .x ∨ m = .wm)
    (hcl : s.h.closed = true) (habs : findFiles (names s.disk) n = some []) :
    openRec s c (.name n) m = created s c n := by
  rcases hm with rfl | rfl
  · exact (open_a_creates_when_absent s c n _ (Or.inr (Or.inr (Or.inr rfl))) hcl habs).1
  · exact (open_a_creates_when_absent s c n _ (Or.inr (Or.inr (Or.inl rfl))) hcl habs).1


theorem mem_goneFiles {d : Disk} {n g : Name} {t : Bool} (h : g ∈ goneFiles d n t) :
    belongs n g = true ∧ g ∈ names d := by
  unfold goneFiles at h
  split at h
  · exact ⟨(List.mem_filter.mp h).2, (List.mem_filter.mp h).1⟩
  · cases h

/-- **`w` replaces the whole record — and only that record.** For a valid name the call
succeeds; afterwards the base container is a fresh, empty, uncommitted one and the handle is
the fresh writable handle; every directory entry that does not syntactically belong to the
name (`belongs n g = false`, in particular all files of prefix-related records, see
`findFiles_disjoint`) is untouched; if the record existed (its base container did), every
other file belonging to the name is gone. -/
theorem open_w_replaces (s : State) (c : Bool) (n : Name) (hcl : s.h.closed = true)
    (hv : isValidName n = true) :
    (openRec s c (.name n) .w).out = .ok ∧
    (openRec s c (.name n) .w).st.h = freshHandle c n s.next ∧
    getF (openRec s c (.name n) .w).st.disk (baseFile n) = some (.cont (newBaseUB s.next) []) ∧
    view (openRec s c (.name n) .w).st = [] ∧
    (∀ g, belongs n g = false → getF (openRec s c (.name n) .w).st.disk g = getF s.disk g) ∧
    ((getF s.disk (baseFile n)).isSome = true →
      ∀ g, belongs n g = true → g ≠ baseFile n → getF (openRec s c (.name n) .w).st.disk g = none) ∧
    (∀ g ∈ (openRec s c (.name n) .w).removed, belongs n g = true) := by
  have hfree : getF (eraseAll s.disk (goneFiles s.disk n true)) (baseFile n) = none := by
    by_cases hex : (getF s.disk (baseFile n)).isSome = true
    · apply getF_eraseAll_mem
      unfold goneFiles
      simp only [hex, Bool.and_self, if_true]
      exact List.mem_filter.mpr ⟨(getF_isSome_iff_mem_names _ _).mp hex, belongs_baseFile n⟩
    · have : goneFiles s.disk n true = [] := by simp [goneFiles, hex]
      rw [this, eraseAll]
      exact Option.not_isSome_iff_eq_none.mp hex
  have hop : openRec s c (.name n) .w = createRec s c n true [] := by simp [openRec, hcl]
  rw [hop]
  rcases createRec_spec s c n true [] with ⟨h, _⟩ | ⟨_, e, _, herr, _⟩ | ⟨_, _, _, heq⟩
  · rw [hv] at h; cases h
  · rw [newContainer_of_fresh _ (by simp) hfree] at herr; cases herr
  · rw [heq]
    refine ⟨rfl, rfl, getF_setF_eq _ _ _, ?_, ?_, ?_, ?_⟩
    · simp [view, freshHandle, viewFiles, payloadOf, getF_setF_eq]
    · intro g hg
      have h1 : g ≠ baseFile n := by
        intro h; rw [h, belongs_baseFile] at hg; cases hg
      simp only
      rw [getF_setF_ne _ _ _ _ h1]
      apply getF_eraseAll_not_mem
      intro hm
      rw [(mem_goneFiles hm).1] at hg; cases hg
    · intro hex g hg hne
      simp only
      rw [getF_setF_ne _ _ _ _ hne]
      by_cases hmem : g ∈ names s.disk
      · apply getF_eraseAll_mem
        unfold goneFiles
        simp only [hex, Bool.and_self, if_true]
        exact List.mem_filter.mpr ⟨hmem, hg⟩
      · have hnot : g ∉ goneFiles s.disk n true := fun h => hmem (mem_goneFiles h).2
        rw [getF_eraseAll_not_mem _ _ _ hnot]
        exact (getF_none_iff_not_mem_names _ _).mpr hmem
    · intro g hg
      exact (mem_goneFiles hg).1

/-- **`r+` / `a` continue an uncommitted container**: when `_open` accepts the files and the
newest container has no checksum, it is reopened writable; no file is created or removed,
only that container may be touched. -/
theorem open_rplus_continues (s : State) (c : Bool) (t : Target) (m : Mode) (paths : List Name)
    (files : List (Name × UB)) (man : Option (Nat × Nat))
    (hcl : s.h.closed = true) (hres : Resolves s.disk t paths) (hm : m = .rp ∨ m = .a)
    (hopen : openFiles s.disk paths true = .ok (files, true))
    (hman : (if c then loadManifest s.disk files else .ok none) = .ok man) :
    ∃ f ul, lastFile files = some (f, ul) ∧ ul.hash = none ∧
      openRec s c t m =
        { st := { s with h := openedHandle files true c m man }, out := .ok, written := [f] } ∧
      hasWritable (openedHandle files true c m man) = true := by
  obtain ⟨_, _, ⟨fl, ul, hl, hb⟩, _⟩ := openFiles_ok hopen
  have hnone : ul.hash = none := by simpa using hb.symm
  have hne : files.isEmpty = false := by
    cases files with
    | nil => simp [lastFile] at hl
    | cons x r => rfl
  have hmr : (m != Mode.r) = true := by rcases hm with rfl | rfl <;> rfl
  refine ⟨fl, ul, hl, hnone, ?_, by simp [hasWritable, openedHandle, hne]⟩
  rw [openRec_resolved s c t m paths hcl hres (by rcases hm with h | h <;> simp [h])]
  unfold openExisting
  simp only [hmr, hopen, hman, hasWritable, hne, hl]
  simp [openedHandle, hmr]

/-- **`r+` / `a` on a committed record start exactly one new patch**: when `_open` accepts
the files and the newest container is committed, the call creates the next patch container
`<name>.p<idx+1>.ih5` (mode `x`): if that name is free, this one file is created (empty,
uncommitted, linked to its predecessor) and nothing else changes; otherwise the call is
refused and nothing changes at all. -/
theorem open_rplus_new_patch (s : State) (c : Bool) (t : Target) (m : Mode) (paths : List Name)
    (files : List (Name × UB)) (man : Option (Nat × Nat))
    (hcl : s.h.closed = true) (hres : Resolves s.disk t paths) (hm : m = .rp ∨ m = .a)
    (hopen : openFiles s.disk paths true = .ok (files, false))
    (hman : (if c then loadManifest s.disk files else .ok none) = .ok man) :
    ∃ f0 u0 rest fl ul, files = (f0, u0) :: rest ∧ lastFile files = some (fl, ul) ∧ ul.hash.isSome = true ∧
      ((getF s.disk (patchFile (inferName f0) (ul.idx + 1)) = none ∧
        (files.map Prod.fst).contains (patchFile (inferName f0) (ul.idx + 1)) = false ∧
        openRec s c t m =
          { st := { disk := setF s.disk (patchFile (inferName f0) (ul.idx + 1)) (.cont (newPatchUB ul s.next) []),
                    next := s.next + 1,
                    h := { openedHandle files false c m man with
                           files := files ++ [(patchFile (inferName f0) (ul.idx + 1), newPatchUB ul s.next)],
                           lastRW := true } },
            out := .ok, created := [patchFile (inferName f0) (ul.idx + 1)] }) ∨
       (Failed s (openRec s c t m) ∧
         ((getF s.disk (patchFile (inferName f0) (ul.idx + 1))).isSome = true ∨
          (files.map Prod.fst).contains (patchFile (inferName f0) (ul.idx + 1)) = true))) := by
  obtain ⟨_, _, ⟨fl, ul, hl, hb⟩, _⟩ := openFiles_ok hopen
  have hsome : ul.hash.isSome = true := by
    cases h : ul.hash with
    | none => rw [h] at hb; cases hb
    | some v => rfl
  cases files with
  | nil => simp [lastFile] at hl
  | cons x rest =>
    obtain ⟨f0, u0⟩ := x
    have hmr : (m != Mode.r) = true := by rcases hm with rfl | rfl <;> rfl
    refine ⟨f0, u0, rest, fl, ul, rfl, hl, hsome, ?_⟩
    rw [openRec_resolved s c t m paths hcl hres (by rcases hm with h | h <;> simp [h])]
    unfold openExisting
    simp only [hmr, hopen, hman, hasWritable, List.isEmpty_cons, Bool.not_false, Bool.and_false,
      Bool.false_eq_true, if_false, Bool.not_false, Bool.and_self, if_true]
    unfold createPatch
    simp only [hasWritable, List.isEmpty_cons, Bool.not_false, Bool.and_false, Bool.false_eq_true, if_false,
      Bool.not_true, hl, fileNames]
    by_cases hcont : (List.map Prod.fst ((f0, u0) :: rest)).contains (patchFile (inferName f0) (ul.idx + 1)) = true
    · right
      refine ⟨?_, Or.inr hcont⟩
      simp only [newContainer, hcont, if_true, fail]
      exact ⟨by simp, rfl, rfl, rfl, rfl, rfl⟩
    · by_cases hex : (getF s.disk (patchFile (inferName f0) (ul.idx + 1))).isSome = true
      · right
        refine ⟨?_, Or.inl hex⟩
        simp only [newContainer, hcont, hex, if_true, Bool.false_eq_true, if_false, fail]
        exact ⟨by simp, rfl, rfl, rfl, rfl, rfl⟩
      · left
        have hnone : getF s.disk (patchFile (inferName f0) (ul.idx + 1)) = none :=
          Option.not_isSome_iff_eq_none.mp hex
        refine ⟨hnone, by simpa using hcont, ?_⟩
        simp only [newContainer, hcont, hex, Bool.false_eq_true, if_false]
        simp [openedHandle, hmr]


end MetadorModel.Record
