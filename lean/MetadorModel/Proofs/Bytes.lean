import MetadorModel.Model.Bytes
import Mathlib.Data.List.Basic
/-! Helper lemmas for `Model/Bytes.lean` (chunked reading, streaming fold). Used by C17 and C19. -/
namespace MetadorModel.Bytes

/-- a `read` of at most `n > 0` bytes returns nothing only at the end of the data -/
theorem eq_nil_of_take_isEmpty {n : Nat} (hn : 0 < n) {bs : Bytes} (h : (bs.take n).isEmpty = true) :
    bs = [] :=
  (List.take_eq_nil_iff.mp (List.isEmpty_iff.mp h)).resolve_left (Nat.ne_of_gt hn)

/-- … and otherwise leaves less -/
theorem drop_length_lt {n : Nat} (hn : 0 < n) {bs : Bytes} (h : ¬ (bs.take n).isEmpty = true) :
    (bs.drop n).length < bs.length := by
  have : bs ≠ [] := fun h0 => h (by rw [h0, List.take_nil]; rfl)
  have := List.length_pos_iff.mpr this
  rw [List.length_drop]
  omega

theorem chunksAux_flatten (n : Nat) (hn : 0 < n) :
    ∀ (fuel : Nat) (bs : Bytes), bs.length < fuel → (chunksAux n fuel bs).flatten = bs := by
  intro fuel
  induction fuel with
  | zero => intro bs h; omega
  | succ f ih =>
    intro bs h
    rw [chunksAux]
    split_ifs with he
    · rw [eq_nil_of_take_isEmpty hn he]; rfl
    · have := drop_length_lt hn he
      rw [List.flatten_cons, ih _ (by omega), List.take_append_drop]

theorem chunks_flatten' (n : Nat) (hn : 0 < n) (bs : Bytes) : (chunks n bs).flatten = bs :=
  chunksAux_flatten n hn _ bs (Nat.lt_succ_self _)

theorem chunksAux_mem (n : Nat) :
    ∀ (fuel : Nat) (bs : Bytes) (c : Bytes), c ∈ chunksAux n fuel bs → c ≠ [] ∧ c.length ≤ n := by
  intro fuel
  induction fuel with
  | zero => intro bs c h; simp [chunksAux] at h
  | succ f ih =>
    intro bs c h
    unfold chunksAux at h
    simp only at h
    split_ifs at h with he
    · simp at h
    · rcases List.mem_cons.mp h with h | h
      · subst h
        refine ⟨by intro h0; simp [h0] at he, by simp; omega⟩
      · exact ih _ _ h

theorem foldl_update_flatten {σ : Type} (upd : σ → Bytes → σ)
    (hs : ∀ s a b, upd (upd s a) b = upd s (a ++ b)) (h0 : ∀ s, upd s [] = s) :
    ∀ (cs : List Bytes) (s : σ), cs.foldl upd s = upd s cs.flatten := by
  intro cs
  induction cs with
  | nil => intro s; simp [h0]
  | cons c r ih => intro s; simp [ih, hs]

/-- The assumed behaviour of `hashlib` objects: feeding data in pieces is feeding the
concatenation, feeding nothing changes nothing, block sizes are positive. Hypothesis of the
digest theorems, never an axiom. -/
structure Streaming {σ : Type} (hl : HashLib σ) : Prop where
  append : ∀ s a b, hl.update (hl.update s a) b = hl.update s (a ++ b)
  empty : ∀ s, hl.update s [] = s
  block_pos : ∀ s, 0 < hl.blockSize s

theorem hashChunks_eq {σ : Type} (upd : σ → Bytes → σ)
    (hs : ∀ s a b, upd (upd s a) b = upd s (a ++ b)) (h0 : ∀ s, upd s [] = s)
    (init : σ) (n : Nat) (hn : 0 < n) (bs : Bytes) :
    hashChunks upd init n bs = upd init bs := by
  unfold hashChunks
  rw [foldl_update_flatten upd hs h0, chunks_flatten' n hn]

/-- the loop of `hashsum` (block size read again in every iteration) feeds the whole content -/
theorem readLoop_eq {σ : Type} (hl : HashLib σ) (h : Streaming hl) :
    ∀ (fuel : Nat) (bs : Bytes) (s : σ), bs.length < fuel → readLoop hl fuel bs s = hl.update s bs := by
  intro fuel
  induction fuel with
  | zero => intro bs s hl'; omega
  | succ f ih =>
    intro bs s hlt
    rw [readLoop]
    split_ifs with he
    · rw [eq_nil_of_take_isEmpty (h.block_pos s) he, h.empty]
    · have := drop_length_lt (h.block_pos s) he
      rw [ih _ _ (by omega), h.append, List.take_append_drop]

/-- with a constant block size (as for every `hashlib` object) the loop is the fold over
`chunks` -/
theorem readLoop_eq_hashChunksAux {σ : Type} (hl : HashLib σ)
    (hc : ∀ s c, hl.blockSize (hl.update s c) = hl.blockSize s) :
    ∀ (fuel : Nat) (bs : Bytes) (s : σ),
      readLoop hl fuel bs s = (chunksAux (hl.blockSize s) fuel bs).foldl hl.update s := by
  intro fuel
  induction fuel with
  | zero => intro bs s; rfl
  | succ f ih =>
    intro bs s
    unfold readLoop chunksAux
    simp only
    split_ifs with he
    · rfl
    · rw [ih, hc, List.foldl_cons]

theorem readLoop_eq_hashChunks {σ : Type} (hl : HashLib σ)
    (hc : ∀ s c, hl.blockSize (hl.update s c) = hl.blockSize s) (bs : Bytes) (s : σ) :
    readLoop hl (bs.length + 1) bs s = hashChunks hl.update s (hl.blockSize s) bs :=
  readLoop_eq_hashChunksAux hl hc _ bs s

theorem hashsum_eq_oneShot {σ : Type} (hl : HashLib σ) (h : Streaming hl) (alg : Str)
    (ha : alg ∈ hashAlgs) (bs : Bytes) : hashsum hl bs alg = .ok (oneShot hl alg bs) := by
  unfold hashsum oneShot
  rw [if_pos ha]
  simp only
  rw [readLoop_eq hl h _ _ _ (Nat.lt_succ_self _)]

theorem hashsum_unsupported {σ : Type} (hl : HashLib σ) (alg : Str) (ha : alg ∉ hashAlgs)
    (bs : Bytes) : hashsum hl bs alg = .error .valueError := by
  unfold hashsum
  rw [if_neg ha]

theorem qualifiedHashsum_eq {σ : Type} (hl : HashLib σ) (h : Streaming hl) (alg : Str)
    (ha : alg ∈ hashAlgs) (bs : Bytes) :
    qualifiedHashsum hl bs alg = .ok (alg ++ ':' :: oneShot hl alg bs) := by
  unfold qualifiedHashsum
  rw [hashsum_eq_oneShot hl h alg ha]

end MetadorModel.Bytes
