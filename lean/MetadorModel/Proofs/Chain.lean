import MetadorModel.Model.Chain
import Mathlib.Data.List.Basic
import Mathlib.Data.List.Perm.Basic
import Mathlib.Tactic.Ring
/-! Helper lemmas for the record-opening model (C04, C11): the stable sort by `patch_index`,
`checkUB`/`checkRest` as conjunctions, uniqueness of the strictly sorted order. -/
namespace MetadorModel.Chain
open List

variable {P M : Type}

theorem insertByIdx_perm (f : File P M) (l : List (File P M)) : insertByIdx f l ~ f :: l := by
  induction l with
  | nil => simp [insertByIdx]
  | cons g rest ih =>
    simp only [insertByIdx]
    split_ifs
    · exact Perm.refl _
    · exact (Perm.cons g ih).trans (Perm.swap f g rest)

theorem foldl_insert_perm (fs acc : List (File P M)) :
    fs.foldl (fun acc f => insertByIdx f acc) acc ~ acc ++ fs := by
  induction fs generalizing acc with
  | nil => simp
  | cons f rest ih =>
    simp only [foldl_cons]
    refine (ih _).trans ?_
    refine ((insertByIdx_perm f acc).append_right rest).trans ?_
    simpa using (perm_middle (a := f) (l₁ := acc) (l₂ := rest)).symm

theorem sortByIdx_perm (fs : List (File P M)) : sortByIdx fs ~ fs := by
  simpa [sortByIdx] using foldl_insert_perm fs []

def SortedLe (l : List (File P M)) : Prop := l.Pairwise (fun a b => a.ub.idx ≤ b.ub.idx)
def SortedLt (l : List (File P M)) : Prop := l.Pairwise (fun a b => a.ub.idx < b.ub.idx)

theorem insertByIdx_sorted (f : File P M) (l : List (File P M)) (h : SortedLe l) :
    SortedLe (insertByIdx f l) := by
  induction l with
  | nil => simp [insertByIdx, SortedLe]
  | cons g rest ih =>
    simp only [insertByIdx]
    split_ifs with hfg
    · simp only [SortedLe, pairwise_cons] at h ⊢
      refine ⟨?_, h⟩
      intro x hx
      rcases mem_cons.mp hx with rfl | hx
      · omega
      · have := h.1 x hx; omega
    · simp only [SortedLe, pairwise_cons] at h ⊢
      refine ⟨?_, ih h.2⟩
      intro x hx
      have hx' := (insertByIdx_perm f rest).subset hx
      rcases mem_cons.mp hx' with rfl | hx'
      · omega
      · exact h.1 x hx'

theorem sortByIdx_sorted (fs : List (File P M)) : SortedLe (sortByIdx fs) := by
  have : ∀ acc : List (File P M), SortedLe acc →
      SortedLe (fs.foldl (fun acc f => insertByIdx f acc) acc) := by
    induction fs with
    | nil => intro acc h; simpa using h
    | cons f rest ih => intro acc h; exact ih _ (insertByIdx_sorted f acc h)
  exact this [] (by simp [SortedLe])

theorem sortedLt_unique {s t : List (File P M)} (hp : s ~ t) (hs : SortedLt s) (ht : SortedLt t) :
    s = t :=
  Perm.eq_of_pairwise (fun _ _ _ _ h1 h2 => absurd h1 (Nat.lt_asymm h2)) hs ht hp

theorem sortByIdx_eq_of_sortedLt {fs s : List (File P M)} (hp : s ~ fs) (hs : SortedLt s) :
    sortByIdx fs = s := by
  have hr := sortByIdx_sorted fs
  have hperm : sortByIdx fs ~ s := (sortByIdx_perm fs).trans hp.symm
  -- indices in `s` are pairwise different, hence also in the sorted list
  have hnd : (s.map (fun f => f.ub.idx)).Nodup := by
    rw [List.Nodup, pairwise_map]
    exact hs.imp (fun h => Nat.ne_of_lt h)
  have hnd' : ((sortByIdx fs).map (fun f => f.ub.idx)).Nodup := (hperm.map _).nodup_iff.mpr hnd
  have hlt : SortedLt (sortByIdx fs) := by
    rw [List.Nodup, pairwise_map] at hnd'
    exact (hr.and hnd').imp (fun ⟨h1, h2⟩ => Nat.lt_of_le_of_ne h1 h2)
  exact sortedLt_unique hperm hlt hs

theorem sortByIdx_perm_invariant {fs fs' : List (File P M)} (hp : fs ~ fs')
    (hs : SortedLt (sortByIdx fs)) : sortByIdx fs' = sortByIdx fs :=
  sortByIdx_eq_of_sortedLt ((sortByIdx_perm fs).trans hp) hs

theorem lastOf_eq_getLast (b : File P M) (rest : List (File P M)) :
    lastOf b rest = (b :: rest).getLast (cons_ne_nil _ _) := by
  induction rest generalizing b with
  | nil => rfl
  | cons f r ih => simp [lastOf, ih f]

theorem lastOf_mem (b : File P M) (rest : List (File P M)) : lastOf b rest ∈ b :: rest := by
  rw [lastOf_eq_getLast]; exact getLast_mem _

theorem lastOf_append (b : File P M) (l : List (File P M)) (x : File P M) :
    lastOf b (l ++ [x]) = x := by
  rw [lastOf_eq_getLast]; simp

theorem dropLast_append_lastOf (b : File P M) (rest : List (File P M)) :
    (b :: rest).dropLast ++ [lastOf b rest] = b :: rest := by
  rw [lastOf_eq_getLast]; exact dropLast_append_getLast _

theorem ChainFrom.sortedLt {b : File P M} {rest : List (File P M)} (h : ChainFrom b rest) :
    SortedLt (b :: rest) := by
  induction rest generalizing b with
  | nil => simp [SortedLt]
  | cons f r ih =>
    obtain ⟨h1, h2⟩ := h
    have := ih h2
    simp only [SortedLt, pairwise_cons] at this ⊢
    refine ⟨?_, this⟩
    intro x hx
    rcases mem_cons.mp hx with rfl | hx
    · exact h1.1
    · exact Nat.lt_trans h1.1 (this.1 x hx)

theorem chainFrom_append {b : File P M} {l₁ l₂ : List (File P M)} :
    ChainFrom b (l₁ ++ l₂) ↔ ChainFrom b l₁ ∧ ChainFrom (lastOf b l₁) l₂ := by
  induction l₁ generalizing b with
  | nil => simp [ChainFrom, lastOf]
  | cons f r ih => simp [ChainFrom, lastOf, ih, and_assoc]

section
variable (H : P → Digest) (HM : M → Digest)

/-- the conditions `_check_ublock` enforces -/
def CheckOK (mfAware : Bool) (rid0 : Uuid) (f : File P M) (prev : Option UB) (checkHash : Bool) : Prop :=
  f.ub.rid = rid0 ∧
  (if checkHash then HashOK H f else f.ub.hash = none ∨ HashOK H f) ∧
  (∀ p, prev = some p → p.idx < f.ub.idx ∧ f.ub.prev = some p.pid) ∧
  (mfAware = true → prev.isSome → ∀ e, f.ub.ext = some e → e.isStub = false)

/-- a statement `if c then raise e` of the source, followed by the rest `k` -/
theorem throwIf_ok_iff {ε : Type} (c : Prop) [Decidable c] (e : ε) (k : Unit → Except ε Unit) :
    (if c then (do let r ← throw e; k r) else k ()) = .ok () ↔ ¬ c ∧ k () = .ok () := by
  split_ifs with h <;> simp [h]
  rintro ⟨⟩

/-- One statement of `_check_ublock` after the other: `k4 … k1` are what follows the first … fourth
statement (the join points of the `do` block, kept as they are, so that nothing is duplicated). -/
theorem checkUB_ok_iff (mfAware : Bool) (rid0 : Uuid) (f : File P M) (prev : Option UB) (ch : Bool) :
    checkUB H mfAware rid0 f prev ch = .ok () ↔ CheckOK H mfAware rid0 f prev ch := by
  unfold CheckOK checkUB
  extract_lets k1 k2 k3 k4
  have h1 : k1 () = .ok () ↔
      (mfAware = true → prev.isSome → ∀ e, f.ub.ext = some e → e.isStub = false) := by
    simp only [k1]
    cases mfAware <;> cases prev <;> cases f.ub.ext <;>
      simp [pure, Except.pure, throw, throwThe, MonadExceptOf.throw]
  have h2 : k2 () = .ok () ↔
      (∀ p, prev = some p → p.idx < f.ub.idx ∧ f.ub.prev = some p.pid) ∧ k1 () = .ok () := by
    simp only [k2]
    cases prev with
    | none => simp
    | some p =>
      cases f.ub.prev <;> simp only [throwIf_ok_iff] <;>
        simp [bind, Except.bind, throw, throwThe, MonadExceptOf.throw, and_assoc]
  have h4 : k4 () = .ok () ↔
      (if ch then HashOK H f else f.ub.hash = none ∨ HashOK H f) ∧ k2 () = .ok () := by
    simp only [k4, k3, HashOK]
    cases ch <;> cases f.ub.hash <;> simp only [throwIf_ok_iff] <;> simp
  rw [throwIf_ok_iff, h4, h2, h1, not_not]

/-- `IH5MFRecord._check_ublock` is the check of the base class followed by the assertion that only
the first container may be a stub -/
theorem checkUB_mf (rid0 : Uuid) (f : File P M) (prev : Option UB) (ch : Bool) :
    checkUB H true rid0 f prev ch = (do
      checkUB H false rid0 f prev ch
      match prev, f.ub.ext with
      | some _, some e => if e.isStub then throw .stubPatch else pure ()
      | _, _ => pure ()) := by
  unfold checkUB
  -- `c4 … c1`: what follows a statement for the manifest-aware class, `a4 … a1` for the plain one;
  -- they differ in the last, and the last of the plain class does nothing
  extract_lets c1 c2 c3 c4 a1 a2 a3 a4
  have e2 : c2 () = a2 () >>= c1 := by
    simp only [c2, a2]
    cases prev with
    | none => rfl
    | some p =>
      cases f.ub.prev <;>
        simp [a1, bind, Except.bind, throw, throwThe, MonadExceptOf.throw, pure, Except.pure]
      all_goals (split_ifs <;> rfl)
  have e3 : c3 () = a3 () >>= c1 := by
    simp only [c3, a3, e2]
    cases f.ub.hash <;> simp [bind, Except.bind, throw, throwThe, MonadExceptOf.throw]
    split_ifs <;> rfl
  have e4 : c4 () = a4 () >>= c1 := by
    simp only [c4, a4, e3]
    split_ifs <;> rfl
  simp only [e4]
  split_ifs <;> rfl
theorem ite_error_ok_iff {ε α : Type} (c : Prop) [Decidable c] (e : ε) (x : Except ε α) (a : α) :
    (if c then .error e else x) = .ok a ↔ ¬ c ∧ x = .ok a := by
  split_ifs with h <;> simp [h]

theorem except_seq_ok_iff {ε : Type} (x y : Except ε Unit) :
    (do x; y) = .ok () ↔ x = .ok () ∧ y = .ok () := by
  rcases x with e | ⟨⟩ <;> simp [bind, Except.bind]

/-- the loop of `_open` over the containers behind `p`: each is checked against its predecessor,
with the hash required unless it is the newest -/
theorem checkRest_cons (mfAware : Bool) (rid0 : Uuid) (p f : File P M) (r : List (File P M)) :
    checkRest H mfAware rid0 p (f :: r) =
      (do checkUB H mfAware rid0 f (some p.ub) (!r.isEmpty); checkRest H mfAware rid0 f r) := by
  cases r with
  | nil => cases h : checkUB H mfAware rid0 f (some p.ub) false <;> simp [checkRest, h]
  | cons g r' => rfl

/-- The checks behind `p`, together with the hash requirement on `p` itself (required unless `p` is
the newest), say that `p :: rest` is a chain of the record `rid0` verified up to the newest. -/
theorem checkRest_ok_iff (mfAware : Bool) (rid0 : Uuid) (p : File P M) (rest : List (File P M)) :
    (if !rest.isEmpty then HashOK H p else p.ub.hash = none ∨ HashOK H p) ∧
        checkRest H mfAware rid0 p rest = .ok () ↔
      (∀ f ∈ rest, f.ub.rid = rid0) ∧ ChainFrom p rest ∧ (∀ f ∈ (p :: rest).dropLast, HashOK H f) ∧
      ((lastOf p rest).ub.hash = none ∨ HashOK H (lastOf p rest)) ∧
      (mfAware = true → ∀ f ∈ rest, ∀ e, f.ub.ext = some e → e.isStub = false) := by
  induction rest generalizing p with
  | nil => simp [checkRest, ChainFrom, lastOf, pure, Except.pure]
  | cons f r ih =>
    rw [checkRest_cons, except_seq_ok_iff, checkUB_ok_iff, dropLast_cons_cons]
    simp only [CheckOK, isEmpty_cons, Bool.not_false, ↓reduceIte]
    constructor
    · rintro ⟨hp, ⟨h1, h2, h3, h4⟩, hr⟩
      obtain ⟨k1, k2, k3, k4, k5⟩ := (ih f).mp ⟨h2, hr⟩
      exact ⟨forall_mem_cons.mpr ⟨h1, k1⟩, ⟨h3 _ rfl, k2⟩, forall_mem_cons.mpr ⟨hp, k3⟩, k4,
        fun hm => forall_mem_cons.mpr ⟨h4 hm rfl, k5 hm⟩⟩
    · rintro ⟨k1, ⟨hl, k2⟩, k3, k4, k5⟩
      obtain ⟨h2, hr⟩ := (ih f).mpr ⟨fun x hx => k1 x (mem_cons_of_mem _ hx), k2,
        fun x hx => k3 x (mem_cons_of_mem _ hx), k4, fun hm x hx => k5 hm x (mem_cons_of_mem _ hx)⟩
      exact ⟨k3 p mem_cons_self, ⟨k1 f mem_cons_self, h2, fun _ hq => Option.some.inj hq ▸ hl,
        fun hm _ => k5 hm f mem_cons_self⟩, hr⟩

theorem pidsDistinct_iff (l : List (File P M)) :
    pidsDistinct l = true ↔ (l.map (fun f => f.ub.pid)).Nodup := by
  induction l with
  | nil => simp [pidsDistinct]
  | cons f r ih =>
    simp only [pidsDistinct, Bool.and_eq_true, Bool.not_eq_true', ih, map_cons, nodup_cons, mem_map]
    constructor
    · rintro ⟨h1, h2⟩
      refine ⟨?_, h2⟩
      rintro ⟨g, hg, hgf⟩
      have : r.any (fun g => g.ub.pid == f.ub.pid) = true := any_eq_true.mpr ⟨g, hg, by simp [hgf]⟩
      simp [this] at h1
    · rintro ⟨h1, h2⟩
      refine ⟨?_, h2⟩
      cases hany : r.any (fun g => g.ub.pid == f.ub.pid)
      · rfl
      · obtain ⟨g, hg, hgf⟩ := any_eq_true.mp hany
        exact absurd ⟨g, hg, by simpa using hgf⟩ h1

theorem checkManifest_ok_iff (l : File P M) :
    checkManifest HM l = .ok () ↔ ∀ e, l.ub.ext = some e → ∃ m, l.mf = some m ∧ e.mhash = HM m := by
  unfold checkManifest
  rcases he : l.ub.ext with _ | e <;> rcases hm : l.mf with _ | m <;>
    simp [pure, Except.pure, throw, throwThe, MonadExceptOf.throw]

theorem checkSorted_ok_iff (mfAware ab : Bool) (b : File P M) (rest : List (File P M)) :
    checkSorted H HM mfAware ab b rest = .ok () ↔
      (ab = false → b.ub.prev = none) ∧
      (∀ f ∈ rest, f.ub.rid = b.ub.rid) ∧
      ChainFrom b rest ∧
      (∀ f ∈ (b :: rest).dropLast, HashOK H f) ∧
      ((lastOf b rest).ub.hash = none ∨ HashOK H (lastOf b rest)) ∧
      ((b :: rest).map (fun f => f.ub.pid)).Nodup ∧
      (mfAware = true →
        (∀ f ∈ rest, ∀ e, f.ub.ext = some e → e.isStub = false) ∧
        (∀ e, (lastOf b rest).ub.ext = some e →
          ∃ m, (lastOf b rest).mf = some m ∧ e.mhash = HM m)) := by
  unfold checkSorted
  have hg : ¬ (!ab && b.ub.prev.isSome) = true ↔ (ab = false → b.ub.prev = none) := by
    cases ab <;> cases b.ub.prev <;> simp
  have hp : ¬ (!pidsDistinct (b :: rest)) = true ↔ ((b :: rest).map (fun f => f.ub.pid)).Nodup := by
    rw [← pidsDistinct_iff]; simp
  have hm : (if mfAware = true then checkManifest HM (lastOf b rest) else pure ()) = .ok () ↔
      (mfAware = true → ∀ e, (lastOf b rest).ub.ext = some e →
        ∃ m, (lastOf b rest).mf = some m ∧ e.mhash = HM m) := by
    cases mfAware <;> simp [checkManifest_ok_iff, pure, Except.pure]
  have hcheck : CheckOK H mfAware b.ub.rid b none (!rest.isEmpty) ↔
      (if !rest.isEmpty then HashOK H b else b.ub.hash = none ∨ HashOK H b) := by
    simp [CheckOK]
  rw [ite_error_ok_iff, except_seq_ok_iff, except_seq_ok_iff, ite_error_ok_iff, checkUB_ok_iff, hg, hp, hm, hcheck]
  constructor
  · rintro ⟨hb, hc, hr, hn, hm⟩
    obtain ⟨k1, k2, k3, k4, k5⟩ := (checkRest_ok_iff H mfAware b.ub.rid b rest).mp ⟨hc, hr⟩
    exact ⟨hb, k1, k2, k3, k4, hn, fun hmf => ⟨k5 hmf, hm hmf⟩⟩
  · rintro ⟨hb, k1, k2, k3, k4, hn, hm⟩
    obtain ⟨hc, hr⟩ := (checkRest_ok_iff H mfAware b.ub.rid b rest).mpr ⟨k1, k2, k3, k4, fun hmf => (hm hmf).1⟩
    exact ⟨hb, hc, hr, hn, fun hmf => (hm hmf).2⟩

theorem Coherent.sortedLt {mfAware ab : Bool} {s : List (File P M)}
    (h : Coherent H HM mfAware ab s) : SortedLt s := by
  cases s with
  | nil => exact absurd h (by simp [Coherent])
  | cons b rest => exact h.2.2.2.1.sortedLt

theorem coherent_cons_iff (mfAware ab : Bool) (b : File P M) (rest : List (File P M)) :
    Coherent H HM mfAware ab (b :: rest) ↔
      (∀ f ∈ b :: rest, f.h5ok = true) ∧ checkSorted H HM mfAware ab b rest = .ok () := by
  rw [checkSorted_ok_iff]; rfl

/-- **Characterisation of `_open`**: a file list is accepted, with result `s`, exactly when `s`
is an arrangement of the files that is coherent. -/
theorem validate_ok_iff (mfAware ab : Bool) (fs s : List (File P M)) :
    validate H HM mfAware ab fs = .ok s ↔ s ~ fs ∧ Coherent H HM mfAware ab s := by
  unfold validate
  constructor
  · intro h
    split_ifs at h with he h5
    split at h
    · cases h
    · rename_i b rest hsort
      rcases hcs : checkSorted H HM mfAware ab b rest with e | ⟨⟩ <;> rw [hcs] at h <;> cases h
      have hsp := hsort ▸ sortByIdx_perm fs
      refine ⟨hsp, (coherent_cons_iff H HM mfAware ab b rest).mpr ⟨fun f hf => ?_, hcs⟩⟩
      cases hb : f.h5ok
      · exact absurd (any_eq_true.mpr ⟨f, hsp.subset hf, by simp [hb]⟩) h5
      · rfl
  · rintro ⟨hp, hc⟩
    have hs := sortByIdx_eq_of_sortedLt hp (hc.sortedLt H HM)
    cases s with
    | nil => exact absurd hc (by simp [Coherent])
    | cons b rest =>
      obtain ⟨h5, hcs⟩ := (coherent_cons_iff H HM mfAware ab b rest).mp hc
      have hne : fs.isEmpty = false := by cases fs <;> simp_all
      have hany : (fs.any fun f => !f.h5ok) = false :=
        any_eq_false.mpr fun f hf => by simp [h5 f (hp.symm.subset hf)]
      simp only [hne, hany, hs, hcs, Bool.false_eq_true, if_false]
      rfl

theorem mapM_id_cases {α : Type} (l : List (Option α)) :
    (none ∈ l ∧ l.mapM id = none) ∨ ∃ fs, l = fs.map some ∧ l.mapM id = some fs := by
  induction l with
  | nil => exact Or.inr ⟨[], rfl, rfl⟩
  | cons a r ih =>
    cases a with
    | none => exact Or.inl ⟨mem_cons_self, by simp⟩
    | some a =>
      rcases ih with ⟨h1, h2⟩ | ⟨fs, rfl, h2⟩
      · exact Or.inl ⟨mem_cons_of_mem _ h1, by simp [h2]⟩
      · exact Or.inr ⟨a :: fs, rfl, by simp [h2]⟩

theorem openFiles_map_some (mfAware ab : Bool) (fs : List (File P M)) :
    openFiles H HM mfAware ab (fs.map some) = validate H HM mfAware ab fs := by
  obtain ⟨h1, -⟩ | ⟨l, hl, h⟩ := mapM_id_cases (fs.map some)
  · exact absurd h1 (by simp)
  · cases map_injective_iff.mpr (Option.some_injective _) hl
    unfold openFiles
    rw [h]
    cases fs <;> rfl

theorem openFiles_ok {mfAware ab : Bool} {fs : List (Option (File P M))} {s : List (File P M)}
    (h : openFiles H HM mfAware ab fs = .ok s) :
    ∃ l, fs = l.map some ∧ validate H HM mfAware ab l = .ok s := by
  unfold openFiles at h
  split_ifs at h
  obtain ⟨-, hm⟩ | ⟨l, hl, hm⟩ := mapM_id_cases fs
  · rw [hm] at h; cases h
  · rw [hm] at h; exact ⟨l, hl, h⟩

end
end MetadorModel.Chain
