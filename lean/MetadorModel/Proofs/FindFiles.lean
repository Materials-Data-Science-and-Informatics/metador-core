import MetadorModel.Model.FindFiles
/-! Lemmas about container file names and the syntactic file discovery (`find_files`), C02 and C03. -/
namespace MetadorModel.FindFiles

/-- the record names of the property: non-empty words over `[A-Za-z0-9-]` -/
def ValidName (n : Name) : Prop := n ≠ [] ∧ ∀ c ∈ n, isNameChar c = true

theorem allNameChars_iff (n : Name) : allNameChars n = true ↔ ∀ c ∈ n, isNameChar c = true := by
  induction n with
  | nil => simp [allNameChars]
  | cons x r ih => simp [allNameChars, ih]

theorem strictName_iff (n : Name) : strictName n = true ↔ ValidName n := by
  unfold strictName ValidName
  rw [Bool.and_eq_true, allNameChars_iff]
  cases n <;> simp

theorem isValidName_of_valid {n : Name} (h : ValidName n) : isValidName n = true := by
  unfold isValidName
  rw [(strictName_iff n).mpr h]; rfl

theorem startsWith_iff : ∀ (s p : List Char), startsWith s p = true ↔ ∃ t, s = p ++ t
  | s, [] => by simp [startsWith]
  | [], d :: p => by simp [startsWith]
  | c :: s, d :: p => by
    simp only [startsWith, Bool.and_eq_true, beq_iff_eq, startsWith_iff s p, List.cons_append,
      List.cons.injEq]
    constructor
    · rintro ⟨rfl, t, rfl⟩; exact ⟨t, rfl, rfl⟩
    · rintro ⟨t, rfl, rfl⟩; exact ⟨rfl, t, rfl⟩

theorem startsWith_append (p t : List Char) : startsWith (p ++ t) p = true :=
  (startsWith_iff _ _).mpr ⟨t, rfl⟩

theorem endsWith_iff (s p : List Char) : endsWith s p = true ↔ ∃ t, s = t ++ p := by
  unfold endsWith
  rw [startsWith_iff]
  constructor
  · rintro ⟨t, h⟩
    refine ⟨t.reverse, ?_⟩
    have := congrArg List.reverse h
    simpa using this
  · rintro ⟨t, rfl⟩
    exact ⟨t.reverse, by simp⟩

/-- `belongs n f` spelled out: `f` is `n`, then a character outside the name alphabet, then
anything, and the part after `n` ends with `.ih5`. -/
theorem belongs_iff (n f : Name) :
    belongs n f = true ↔
      ∃ c rest, f = n ++ c :: rest ∧ isNameChar c = false ∧ endsWith (c :: rest) ext = true := by
  unfold belongs globMatch regexGuard
  constructor
  · intro h
    simp only [Bool.and_eq_true] at h
    obtain ⟨⟨h1, h2⟩, _, h4⟩ := h
    obtain ⟨t, rfl⟩ := (startsWith_iff _ _).mp h1
    rw [List.drop_left] at h2 h4
    cases t with
    | nil => simp at h4
    | cons c rest =>
      refine ⟨c, rest, rfl, ?_, h2⟩
      simpa using h4
  · rintro ⟨c, rest, rfl, hc, he⟩
    simp [startsWith_append, he, hc]

theorem findFiles_exact' (dir : List Name) (n : Name) (hn : ValidName n) :
    ∃ l, findFiles dir n = some l ∧
      ∀ f, f ∈ l ↔ (f ∈ dir ∧ ∃ c rest, f = n ++ c :: rest ∧ isNameChar c = false ∧
                      endsWith (c :: rest) ext = true) := by
  refine ⟨dir.filter (belongs n), by simp [findFiles, isValidName_of_valid hn], ?_⟩
  intro f
  rw [List.mem_filter, belongs_iff]

theorem name_prefix_unique : ∀ (n m : Name) (c d : Char) (t r : List Char),
    (∀ x ∈ n, isNameChar x = true) → (∀ x ∈ m, isNameChar x = true) →
    isNameChar c = false → isNameChar d = false → n ++ c :: t = m ++ d :: r → n = m
  | [], [], _, _, _, _, _, _, _, _, _ => rfl
  | [], y :: m, c, d, t, r, _, hm, hc, _, h => by
    simp only [List.nil_append, List.cons_append, List.cons.injEq] at h
    have := hm y (by simp)
    rw [← h.1, hc] at this; cases this
  | x :: n, [], c, d, t, r, hn, _, _, hd, h => by
    simp only [List.nil_append, List.cons_append, List.cons.injEq] at h
    have := hn x (by simp)
    rw [h.1, hd] at this; cases this
  | x :: n, y :: m, c, d, t, r, hn, hm, hc, hd, h => by
    simp only [List.cons_append, List.cons.injEq] at h
    rw [h.1, name_prefix_unique n m c d t r (fun z hz => hn z (by simp [hz]))
      (fun z hz => hm z (by simp [hz])) hc hd h.2]

/-- a file that canonically belongs to the record `m` is never attributed to another valid name -/
theorem belongs_other_false (n m : Name) (hn : ValidName n) (hm : ValidName m) (hne : n ≠ m)
    (c : Char) (rest : List Char) (hc : isNameChar c = false) : belongs n (m ++ c :: rest) = false := by
  cases hb : belongs n (m ++ c :: rest) with
  | false => rfl
  | true =>
    obtain ⟨c', rest', heq, hc', _⟩ := (belongs_iff _ _).mp hb
    exact absurd (name_prefix_unique n m c' c rest' rest hn.2 hm.2 hc' hc heq.symm) hne

theorem belongs_baseFile (n : Name) : belongs n (baseFile n) = true := by
  rw [belongs_iff]
  exact ⟨'.', ['i', 'h', '5'], rfl, by decide, by decide⟩

theorem belongs_patchFile (n : Name) (k : Nat) : belongs n (patchFile n k) = true := by
  rw [belongs_iff]
  refine ⟨'.', 'p' :: (decimal k ++ ext), by simp [patchFile, infix_], by decide, ?_⟩
  rw [endsWith_iff]
  exact ⟨'.' :: 'p' :: decimal k, by simp⟩

theorem baseFile_last (n : Name) : (baseFile n).getLast? = some '5' := by
  simp [baseFile, ext, List.getLast?_append]

theorem patchFile_last (n : Name) (k : Nat) : (patchFile n k).getLast? = some '5' := by
  simp [patchFile, ext, List.getLast?_append]

theorem manifestFile_last (f : Name) : (manifestFile f).getLast? = some 'n' := by
  simp [manifestFile, mfExt, List.getLast?_append]

theorem manifestFile_inj {f g : Name} (h : manifestFile f = manifestFile g) : f = g :=
  List.append_cancel_right h

theorem manifestFile_ne (f : Name) : manifestFile f ≠ f := fun h => by
  simpa [manifestFile, mfExt] using congrArg List.length h

theorem belongs_manifestFile (n f : Name) : belongs n (manifestFile f) = false := by
  cases hb : belongs n (manifestFile f) with
  | false => rfl
  | true =>
    obtain ⟨c, rest, heq, _, he⟩ := (belongs_iff _ _).mp hb
    obtain ⟨t, ht⟩ := (endsWith_iff _ _).mp he
    have h1 := manifestFile_last f
    rw [heq, ht] at h1
    simp [ext, List.getLast?_append] at h1

end MetadorModel.FindFiles
