import MetadorModel.Model.Container
/-!
# Association lists and list-sets of the container model (Python `dict` / `set`): lookups after an update

Rests on the model alone, so that the driver equivalence (C09) can use it too; the lemmas about distinct keys, which
need Mathlib's `Nodup`, are at the end of `ContainerTree`.
-/
namespace MetadorModel.Container
section AL
variable {α β : Type} [DecidableEq α]

@[simp] theorem alGet_nil (a : α) : alGet ([] : List (α × β)) a = none := rfl

theorem alGet_cons (k : α) (v : β) (t : List (α × β)) (a : α) :
    alGet ((k, v) :: t) a = if k = a then some v else alGet t a := rfl

theorem alGet_alSet (l : List (α × β)) (a : α) (b : β) (x : α) :
    alGet (alSet l a b) x = if x = a then some b else alGet l x := by
  induction l with
  | nil =>
    simp only [alSet, alGet_cons, alGet_nil]
    by_cases h : x = a
    · simp [h]
    · have h2 : ¬ a = x := fun h' => h h'.symm
      simp [h, h2]
  | cons e t ih =>
    obtain ⟨k, v⟩ := e
    simp only [alSet]
    by_cases hk : k = a
    · subst hk
      simp only [if_true, alGet_cons]
      by_cases hx : k = x
      · subst hx; simp
      · have h2 : ¬ x = k := fun h' => hx h'.symm
        simp [hx, h2]
    · simp only [hk, if_false, alGet_cons, ih]
      by_cases hx : k = x
      · subst hx; simp [hk]
      · simp [hx]

theorem alGet_alErase (l : List (α × β)) (a x : α) :
    alGet (alErase l a) x = if x = a then none else alGet l x := by
  induction l with
  | nil => simp [alErase]
  | cons e t ih =>
    obtain ⟨k, v⟩ := e
    simp only [alErase, List.filter_cons] at ih ⊢
    by_cases hk : k = a
    · subst hk
      simp only [ne_eq, not_true_eq_false, decide_false, Bool.false_eq_true, if_false, ih, alGet_cons]
      by_cases hx : x = k
      · simp [hx]
      · have h2 : ¬ k = x := fun h' => hx h'.symm
        simp [hx, h2]
    · simp only [ne_eq, hk, not_false_eq_true, decide_true, if_true, alGet_cons, ih]
      by_cases hx : k = x
      · subst hx; simp [hk]
      · simp [hx]

theorem mem_setAdd (l : List α) (a x : α) : x ∈ setAdd l a ↔ x ∈ l ∨ x = a := by
  unfold setAdd
  by_cases h : a ∈ l
  · rw [if_pos h]
    exact ⟨Or.inl, fun h' => h'.elim id fun e => e ▸ h⟩
  · rw [if_neg h]; simp

theorem mem_setRemove (l : List α) (a x : α) : x ∈ setRemove l a ↔ x ∈ l ∧ x ≠ a := by
  simp [setRemove]

def alKeys (l : List (α × β)) : List α := l.map Prod.fst

theorem alGet_isSome_iff (l : List (α × β)) (a : α) : (alGet l a).isSome ↔ a ∈ alKeys l := by
  induction l with
  | nil => simp [alKeys]
  | cons e t ih =>
    obtain ⟨k, v⟩ := e
    simp only [alGet_cons, alKeys, List.map_cons, List.mem_cons] at ih ⊢
    by_cases hk : k = a
    · simp [hk]
    · have h2 : ¬ a = k := fun h => hk h.symm
      simp [hk, ih, h2]

theorem mem_iff_alGet {l : List (α × β)} (hnd : (alKeys l).Nodup) (a : α) (b : β) :
    (a, b) ∈ l ↔ alGet l a = some b := by
  induction l with
  | nil => simp
  | cons x l ih =>
    obtain ⟨k, v⟩ := x
    simp only [alKeys, List.map_cons, List.nodup_cons] at hnd
    simp only [List.mem_cons, Prod.mk.injEq, alGet_cons]
    by_cases hk : k = a
    · subst hk
      simp only [true_and, if_true, Option.some.injEq]
      exact ⟨fun h => h.elim Eq.symm fun h => absurd (List.mem_map.mpr ⟨(k, b), h, rfl⟩) hnd.1,
        fun h => Or.inl h.symm⟩
    · have hk' : ¬ a = k := fun h => hk h.symm
      simp only [hk, hk', false_and, false_or, if_false]
      exact ih hnd.2

end AL

end MetadorModel.Container
