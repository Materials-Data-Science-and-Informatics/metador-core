import MetadorModel.Proofs.ContainerDrvDefs
import MetadorModel.Proofs.ContainerAssoc
/-!
# Cache equivalence: algebra (C09, reopen points)

The relations (`MemEq`, `OptRel`, `AlEq`, `AlRel`, `ExcRel`, `CRel`, `StRel`) and the congruence of
the pure cache-update functions (`addProviders`, `removeProviders`, `upcAdd`, `upcRemove`,
`Handle.query`, `findMissing`, …) with respect to extensional equality / same-members. No
invariant is used anywhere.
-/
namespace MetadorModel.Container

section Sets
variable {α : Type}

theorem MemEq.refl (l : List α) : MemEq l l := fun _ => Iff.rfl
theorem MemEq.symm {l l' : List α} (h : MemEq l l') : MemEq l' l := fun x => (h x).symm
theorem MemEq.trans {l l' l'' : List α} (h : MemEq l l') (h' : MemEq l' l'') : MemEq l l'' :=
  fun x => (h x).trans (h' x)

theorem MemEq.isEmpty {l l' : List α} (h : MemEq l l') : l.isEmpty = l'.isEmpty := by
  cases l with
  | nil =>
    cases l' with
    | nil => rfl
    | cons y t => exact absurd ((h y).2 (by simp)) (by simp)
  | cons x t =>
    cases l' with
    | nil => exact absurd ((h x).1 (by simp)) (by simp)
    | cons y t' => rfl

theorem MemEq.all {l l' : List α} (h : MemEq l l') {p p' : α → Bool} (hp : ∀ x, p x = p' x) :
    l.all p = l'.all p' := by
  rw [Bool.eq_iff_iff, List.all_eq_true, List.all_eq_true]
  constructor
  · intro hh x hx; rw [← hp]; exact hh x ((h x).2 hx)
  · intro hh x hx; rw [hp]; exact hh x ((h x).1 hx)

variable [DecidableEq α]

theorem MemEq.setAdd {l l' : List α} (h : MemEq l l') (a : α) : MemEq (setAdd l a) (setAdd l' a) := by
  intro x; rw [mem_setAdd, mem_setAdd, h x]

theorem MemEq.setRemove {l l' : List α} (h : MemEq l l') (a : α) :
    MemEq (setRemove l a) (setRemove l' a) := by
  intro x; rw [mem_setRemove, mem_setRemove, h x]

end Sets

section Opt
variable {α β : Type}

theorem OptRel.isNone {R : α → β → Prop} {o : Option α} {o' : Option β} (h : OptRel R o o') :
    o.isNone = o'.isNone := by cases h <;> rfl

theorem OptRel.isSome {R : α → β → Prop} {o : Option α} {o' : Option β} (h : OptRel R o o') :
    o.isSome = o'.isSome := by cases h <;> rfl

theorem OptRel.getD {R : α → β → Prop} {o : Option α} {o' : Option β} (h : OptRel R o o')
    {d : α} {d' : β} (hd : R d d') : R (o.getD d) (o'.getD d') := by
  cases h with
  | none => exact hd
  | some h => exact h

theorem OptRel.of_eq {R : α → α → Prop} (hr : ∀ a, R a a) {o o' : Option α} (h : o = o') :
    OptRel R o o' := by
  subst h
  cases o with
  | none => exact .none
  | some a => exact .some (hr a)

theorem OptRel.symm {R : α → α → Prop} (hs : ∀ {a b}, R a b → R b a) {o o' : Option α}
    (h : OptRel R o o') : OptRel R o' o := by
  cases h with
  | none => exact .none
  | some h => exact .some (hs h)

theorem OptRel.trans {R : α → α → Prop} {o o' o'' : Option α} (h : OptRel R o o') (h' : OptRel R o' o'')
    (ht : ∀ {a b c}, R a b → R b c → R a c) : OptRel R o o'' := by
  cases h with
  | none => cases h'; exact .none
  | some h => cases h' with | some h' => exact .some (ht h h')

end Opt

/-- related results of a pure computation that may fail: same error, or related values -/
inductive ExcRel {α : Type} (V : α → α → Prop) : Except Err α → Except Err α → Prop
  | ok {a a' : α} : V a a' → ExcRel V (.ok a) (.ok a')
  | err (e : Err) : ExcRel V (.error e) (.error e)

theorem ExcRel.ite {α : Type} {V : α → α → Prop} {c c' : Prop} [Decidable c] [Decidable c'] (hc : c ↔ c')
    {a b a' b' : Except Err α} (ha : ExcRel V a a') (hb : ExcRel V b b') :
    ExcRel V (if c then a else b) (if c' then a' else b') := by
  by_cases h : c
  · rwa [if_pos h, if_pos (hc.1 h)]
  · rwa [if_neg h, if_neg (mt hc.2 h)]

section AL
variable {α β : Type} [DecidableEq α]

/-- extensional equality of dictionaries -/
def AlEq (l l' : List (α × β)) : Prop := ∀ k, alGet l k = alGet l' k

/-- dictionaries with the same keys and related values -/
def AlRel (V : β → β → Prop) (l l' : List (α × β)) : Prop := ∀ k, OptRel V (alGet l k) (alGet l' k)

theorem AlEq.alSet {l l' : List (α × β)} (h : AlEq l l') (a : α) (b : β) :
    AlEq (alSet l a b) (alSet l' a b) := by
  intro k; rw [alGet_alSet, alGet_alSet, h k]

theorem AlEq.alErase {l l' : List (α × β)} (h : AlEq l l') (a : α) :
    AlEq (alErase l a) (alErase l' a) := by
  intro k; rw [alGet_alErase, alGet_alErase, h k]

theorem OptRel.alGet_alSet {V : β → β → Prop} {l l' : List (α × β)} (a : α) {b b' : β} (hb : V b b')
    {k : α} (h : k ≠ a → OptRel V (alGet l k) (alGet l' k)) :
    OptRel V (alGet (alSet l a b) k) (alGet (alSet l' a b') k) := by
  rw [Container.alGet_alSet, Container.alGet_alSet]
  split
  · exact .some hb
  · exact h ‹_›

theorem AlRel.alSet {V : β → β → Prop} {l l' : List (α × β)} (h : AlRel V l l') (a : α) {b b' : β}
    (hb : V b b') : AlRel V (alSet l a b) (alSet l' a b') :=
  fun k => OptRel.alGet_alSet a hb fun _ => h k

theorem AlRel.alErase {V : β → β → Prop} {l l' : List (α × β)} (h : AlRel V l l') (a : α) :
    AlRel V (alErase l a) (alErase l' a) := by
  intro k; rw [alGet_alErase, alGet_alErase]
  split
  · exact .none
  · exact h k

theorem AlRel.keys {V : β → β → Prop} {l l' : List (α × β)} (h : AlRel V l l') (k : α) :
    k ∈ l.map (·.1) ↔ k ∈ l'.map (·.1) :=
  (alGet_isSome_iff l k).symm.trans (by rw [(h k).isSome]; exact alGet_isSome_iff l' k)

end AL

theorem addProviders_congr {p p' : List (SRef × List PkgId)} (h : AlEq p p') (pkg : PkgId)
    (rs : List SRef) : AlEq (addProviders p pkg rs) (addProviders p' pkg rs) := by
  induction rs generalizing p p' with
  | nil => exact h
  | cons r rs ih =>
    simp only [addProviders]
    rw [h r]
    exact ih (h.alSet _ _)

theorem addProviders_mem {p : List (SRef × List PkgId)} {pkg : PkgId} {rs : List SRef} {r : SRef}
    {pk : PkgId} (h : pk ∈ (alGet (addProviders p pkg rs) r).getD []) :
    pk = pkg ∨ pk ∈ (alGet p r).getD [] := by
  induction rs generalizing p with
  | nil => exact Or.inr h
  | cons r0 rs ih =>
    simp only [addProviders] at h
    rcases ih h with h2 | h2
    · exact Or.inl h2
    · rw [alGet_alSet] at h2
      split at h2
      · subst_vars
        simp only [Option.getD_some, mem_setAdd] at h2
        rcases h2 with h3 | h3
        · exact Or.inr h3
        · exact Or.inl h3
      · exact Or.inr h2

theorem removeProviders_congr {p p' : List (SRef × List PkgId)} (h : AlEq p p') (pkg : PkgId)
    (rs : List SRef) : ExcRel AlEq (removeProviders p pkg rs) (removeProviders p' pkg rs) := by
  induction rs generalizing p p' with
  | nil => exact .ok h
  | cons r rs ih =>
    simp only [removeProviders]
    rw [← h r]
    cases alGet p r with
    | none => exact .err _
    | some ps =>
      refine ExcRel.ite Iff.rfl (.err _) (ih ?_)
      split
      · exact h.alErase _
      · exact h.alSet _ _

theorem removeProviders_sub {p p1 : List (SRef × List PkgId)} {pkg : PkgId} {rs : List SRef}
    (h : removeProviders p pkg rs = .ok p1) {r : SRef} {pk : PkgId}
    (hm : pk ∈ (alGet p1 r).getD []) : pk ∈ (alGet p r).getD [] := by
  induction rs generalizing p with
  | nil => simp only [removeProviders, Except.ok.injEq] at h; subst h; exact hm
  | cons r0 rs ih =>
    simp only [removeProviders] at h
    cases hg : alGet p r0 with
    | none => rw [hg] at h; cases h
    | some ps =>
      rw [hg] at h
      dsimp only at h
      split at h
      · cases h
      · have := ih h
        split at this
        · rw [alGet_alErase] at this
          split at this
          · simp at this
          · exact this
        · rw [alGet_alSet] at this
          split at this
          · subst_vars
            rw [hg]
            simp only [Option.getD_some, mem_setRemove] at this ⊢
            exact this.1
          · exact this

theorem upcAdd_congr (ref : SRef) {par par' chi chi' : List (SRef × List SRef)} (hp : AlEq par par')
    (hc : AlRel MemEq chi chi') (done rest : List SRef) :
    AlEq (upcAdd ref par chi done rest).1 (upcAdd ref par' chi' done rest).1 ∧
    AlRel MemEq (upcAdd ref par chi done rest).2 (upcAdd ref par' chi' done rest).2 := by
  induction rest generalizing par par' chi chi' done with
  | nil => exact ⟨hp, hc⟩
  | cons p rest ih =>
    -- the entry of `p` is created empty where it is missing, on both sides alike
    have h1 : AlRel MemEq (if (alGet chi p).isNone then alSet chi p [] else chi)
        (if (alGet chi' p).isNone then alSet chi' p [] else chi') := by
      rw [(hc p).isNone]
      split
      · exact hc.alSet _ (MemEq.refl _)
      · exact hc
    refine ih ?_ ?_ _
    · rw [hp p]
      split
      · exact hp.alSet _ _
      · exact hp
    · split
      · exact h1.alSet _ (((h1 p).getD (MemEq.refl _)).setAdd _)
      · exact h1
theorem upcRemove_congr (ref : SRef) {sch sch' : List SRef} (hs : MemEq sch sch')
    {par par' chi chi' : List (SRef × List SRef)} (hp : AlEq par par') (hc : AlRel MemEq chi chi')
    (ps : List SRef) :
    ExcRel (fun x x' => AlEq x.1 x'.1 ∧ AlRel MemEq x.2 x'.2)
      (upcRemove ref sch par chi ps) (upcRemove ref sch' par' chi' ps) := by
  induction ps generalizing par par' chi chi' with
  | nil => exact .ok ⟨hp, hc⟩
  | cons p rest ih =>
    simp only [upcRemove]
    have hcp := hc p
    generalize alGet chi p = o at hcp
    generalize alGet chi' p = o' at hcp
    cases hcp with
    | none => exact .err _
    | @some cs cs' hcs =>
      have hcs1 : MemEq (if p ≠ ref then setRemove cs ref else cs) (if p ≠ ref then setRemove cs' ref else cs') := by
        split
        · exact hcs.setRemove ref
        · exact hcs
      refine ExcRel.ite (hs p) (ih hp ?chi) (ExcRel.ite ?all
        (ExcRel.ite (by rw [hp p]) (.err _) (ih (hp.alErase p) (AlRel.alErase ?chi p))) (ih hp ?chi))
      case chi =>
        split
        · exact hc.alSet p (hcs.setRemove ref)
        · exact hc
      case all => rw [hcs1.all (p' := fun ch => decide (ch ∉ sch')) fun x => by simp only [hs x]]
/-- packages that provide some schema according to the cache -/
def Prov (c : Caches) (pk : PkgId) : Prop := ∃ r, pk ∈ (alGet c.providers r).getD []

/-- `CachesEqv` with the two roles of "currently providing packages" made explicit: the `used`
tables are related on `U`, the providing packages of the left cache lie in `P`. (`CachesEqv` is
the case `U = P = Prov c`; between `TOCPackages._register` and the initialisation of the `used`
entry the two differ.) -/
structure CRel (U P : PkgId → Prop) (c c' : Caches) : Prop where
  tocPath : AlEq c.tocPath c'.tocPath
  parents : AlEq c.parents c'.parents
  pkginfos : AlEq c.pkginfos c'.pkginfos
  providers : AlEq c.providers c'.providers
  schemas : MemEq c.schemas c'.schemas
  children : AlRel MemEq c.children c'.children
  used : ∀ pk, U pk → OptRel MemEq (alGet c.used pk) (alGet c'.used pk)
  prov : ∀ r pk, pk ∈ (alGet c.providers r).getD [] → P pk

structure StRel (U P : PkgId → Prop) (s s' : St) : Prop where
  raw : s.raw = s'.raw
  next : s.next = s'.next
  c : CRel U P s.c s'.c

theorem CachesEqv.toCRel {c c' : Caches} (h : CachesEqv c c') : CRel (Prov c) (Prov c) c c' :=
  ⟨h.tocPath, h.parents, h.pkginfos, h.providers, h.schemas, h.children,
   fun pk ⟨r, hr⟩ => h.used r pk hr, fun r _ hr => ⟨r, hr⟩⟩

theorem CRel.toEqv {U P : PkgId → Prop} (hPU : ∀ pk, P pk → U pk) {c c' : Caches} (h : CRel U P c c') :
    CachesEqv c c' :=
  ⟨h.tocPath, h.parents, h.pkginfos, h.providers, h.schemas, h.children,
   fun r pk hr => h.used pk (hPU pk (h.prov r pk hr))⟩

theorem ObsEq.toStRel {s s' : St} (h : ObsEq s s') : StRel (Prov s.c) (Prov s.c) s s' :=
  ⟨h.1, h.2.1, h.2.2.toCRel⟩

theorem StRel.toObsEq {U P : PkgId → Prop} (hPU : ∀ pk, P pk → U pk) {s s' : St} (h : StRel U P s s') :
    ObsEq s s' := ⟨h.raw, h.next, h.c.toEqv hPU⟩

theorem CachesEqv.refl (c : Caches) : CachesEqv c c :=
  ⟨fun _ => rfl, fun _ => rfl, fun _ => rfl, fun _ => rfl, fun _ => Iff.rfl,
   fun _ => OptRel.of_eq MemEq.refl rfl, fun _ _ _ => OptRel.of_eq MemEq.refl rfl⟩

theorem CachesEqv.symm {c c' : Caches} (h : CachesEqv c c') : CachesEqv c' c :=
  ⟨fun k => (h.tocPath k).symm, fun k => (h.parents k).symm, fun k => (h.pkginfos k).symm,
   fun k => (h.providers k).symm, fun r => (h.schemas r).symm,
   fun r => (h.children r).symm MemEq.symm,
   fun r pk hr => (h.used r pk (by rw [h.providers r]; exact hr)).symm MemEq.symm⟩

theorem CachesEqv.trans {c c' c'' : Caches} (h : CachesEqv c c') (h' : CachesEqv c' c'') :
    CachesEqv c c'' :=
  ⟨fun k => (h.tocPath k).trans (h'.tocPath k), fun k => (h.parents k).trans (h'.parents k),
   fun k => (h.pkginfos k).trans (h'.pkginfos k), fun k => (h.providers k).trans (h'.providers k),
   fun r => (h.schemas r).trans (h'.schemas r),
   fun r => (h.children r).trans (h'.children r) MemEq.trans,
   fun r pk hr => (h.used r pk hr).trans (h'.used r pk (by rw [← h.providers r]; exact hr)) MemEq.trans⟩

theorem ObsEq.refl (s : St) : ObsEq s s := ⟨rfl, rfl, CachesEqv.refl _⟩
theorem ObsEq.symm {s s' : St} (h : ObsEq s s') : ObsEq s' s := ⟨h.1.symm, h.2.1.symm, h.2.2.symm⟩
theorem ObsEq.trans {s s' s'' : St} (h : ObsEq s s') (h' : ObsEq s' s'') : ObsEq s s'' :=
  ⟨h.1.trans h'.1, h.2.1.trans h'.2.1, h.2.2.trans h'.2.2⟩

/-! ## Reads of the state that related states answer alike -/

theorem c9_nodeKind_congr {s s' : St} (h : ObsEq s s') (p : Path) : nodeKind s p = nodeKind s' p := by
  unfold nodeKind; rw [h.1]

theorem openHandle_congr {s s' : St} (h : ObsEq s s') (p : Path) (k : Bool) :
    openHandle s p k = openHandle s' p k := by
  unfold openHandle; rw [h.1]

theorem linkResolve_congr {s s' : St} (h : ObsEq s s') (u : Nat) : linkResolve s u = linkResolve s' u := by
  unfold linkResolve; rw [h.1, h.2.2.tocPath u]

theorem findMissing_congr {s s' : St} (h : ObsEq s s') (p : Path) : findMissing s p = findMissing s' p := by
  unfold findMissing
  rw [h.1]
  congr 1
  funext acc e
  simp only [h.2.2.tocPath, linkResolve_congr h]

theorem mem_compat_congr {c c' : Caches} (h : AlRel MemEq c.children c'.children) (name : String)
    (ver : Option Ver) (x : SRef) :
    x ∈ ((tocVersions c name ver).map (tocChildren c)).flatten ↔
    x ∈ ((tocVersions c' name ver).map (tocChildren c')).flatten := by
  have hv : ∀ r, r ∈ tocVersions c name ver ↔ r ∈ tocVersions c' name ver := by
    intro r
    unfold tocVersions
    cases ver <;> simp only [List.mem_filter, h.keys r]
  have hc : ∀ r, x ∈ tocChildren c r ↔ x ∈ tocChildren c' r := fun r =>
    (h r).getD (d := []) (d' := []) (MemEq.refl _) x
  simp only [← List.flatMap_def, List.mem_flatMap, hv, hc]

theorem query_congr {c c' : Caches} (h : AlRel MemEq c.children c'.children) (hd : Handle)
    (name : String) (ver : Option Ver) : hd.query c name ver = hd.query c' name ver := by
  unfold Handle.query
  dsimp only
  congr 1
  apply List.filter_congr
  intro x _
  simp only [mem_compat_congr h name ver x]

theorem handleGet_congr (e : Env) {s s' : St} (h : ObsEq s s') (hd : Handle) (name : String)
    (ver : Option Ver) : hd.get e s name ver = hd.get e s' name ver := by
  unfold Handle.get Handle.getAll
  rw [query_congr h.2.2.children, h.1]

end MetadorModel.Container
