import MetadorModel.Model.Paths
import Mathlib.Tactic.SplitIfs
import Mathlib.Tactic.Cases
/-! Helper lemmas for the reserved-namespace model (C08): Python string primitives,
`split`/`join` round trips, `is_internal_path` as a statement about segments, filtered listings,
raw operations against the user view. -/
namespace MetadorModel.Paths

@[simp] theorem pyStartswith_nil (s : Str) : pyStartswith s [] = true := by
  cases s <;> rfl

@[simp] theorem pyStartswith_nil_cons (d : Char) (p : Str) : pyStartswith [] (d :: p) = false := rfl

@[simp] theorem pyStartswith_cons_cons (c d : Char) (s p : Str) :
    pyStartswith (c :: s) (d :: p) = (c == d && pyStartswith s p) := rfl

theorem pyStartswith_append (p x : Str) : pyStartswith (p ++ x) p = true := by
  induction p with
  | nil => simp
  | cons c p ih => simp [ih]

theorem pyStartswith_append_left (p q x : Str) : pyStartswith (p ++ q ++ x) p = true := by
  rw [List.append_assoc]; exact pyStartswith_append p (q ++ x)

theorem pyStartswith_eq (s p : Str) : pyStartswith s p = p.isPrefixOf s := by
  induction s generalizing p with
  | nil => cases p <;> simp [pyStartswith, List.isPrefixOf]
  | cons c s ih =>
    cases p with
    | nil => simp [pyStartswith, List.isPrefixOf]
    | cons d p => simp only [pyStartswith, List.isPrefixOf, ih]; rw [Bool.beq_comm]

theorem pyFind_eq_zero (s p : Str) : (pyFind s p == 0) = p.isPrefixOf s := by
  cases s with
  | nil => cases p <;> simp [pyFind, List.isPrefixOf]
  | cons c s =>
    rw [pyFind, pyStartswith_eq]
    by_cases h : p.isPrefixOf (c :: s) = true
    · simp [h]
    · simp only [h, Bool.false_eq_true, if_false]
      split_ifs with h2
      · simp; omega
      · simp

/-- `sub` occurs in `s` (as a contiguous substring) -/
def occurs : Str → Str → Bool
  | [], sub => sub.isEmpty
  | c :: s, sub => pyStartswith (c :: s) sub || occurs s sub

theorem pyFind_nonneg_iff (s sub : Str) : 0 ≤ pyFind s sub ↔ occurs s sub = true := by
  induction s with
  | nil =>
    simp only [pyFind, occurs]
    cases sub.isEmpty <;> simp
  | cons c s ih =>
    by_cases h : pyStartswith (c :: s) sub = true
    · simp [pyFind, occurs, h]
    · have h1 : pyFind (c :: s) sub = if pyFind s sub ≥ 0 then pyFind s sub + 1 else -1 := by
        simp [pyFind, h]
      have h2 : occurs (c :: s) sub = occurs s sub := by simp [occurs, h]
      rw [h1, h2, ← ih]
      split_ifs <;> omega

@[simp] theorem splitAux_nil (sep : Char) : splitAux sep [] = ([], []) := rfl

theorem splitAux_cons_sep (sep : Char) (s : Str) :
    splitAux sep (sep :: s) = ([], (splitAux sep s).1 :: (splitAux sep s).2) := by
  simp [splitAux]

theorem splitAux_cons_ne {sep c : Char} (s : Str) (h : c ≠ sep) :
    splitAux sep (c :: s) = (c :: (splitAux sep s).1, (splitAux sep s).2) := by
  simp [splitAux, h]

theorem pySplit_nil (sep : Char) : pySplit [] sep = [[]] := rfl

theorem pySplit_ne_nil (s : Str) (sep : Char) : pySplit s sep ≠ [] := by simp [pySplit]

theorem pySplit_cons_sep (sep : Char) (s : Str) : pySplit (sep :: s) sep = [] :: pySplit s sep := by
  simp [pySplit, splitAux_cons_sep]

theorem pySplit_cons_ne (sep c : Char) (s : Str) (h : c ≠ sep) :
    pySplit (c :: s) sep = (c :: (splitAux sep s).1) :: (splitAux sep s).2 := by
  simp [pySplit, splitAux_cons_ne _ h]

theorem splitAux_no_sep (sep : Char) (s : Str) :
    sep ∉ (splitAux sep s).1 ∧ ∀ seg ∈ (splitAux sep s).2, sep ∉ seg := by
  induction s with
  | nil => simp
  | cons c s ih =>
    by_cases h : c = sep
    · subst h
      rw [splitAux_cons_sep]
      simpa using ih
    · rw [splitAux_cons_ne _ h]
      simpa [Ne.symm h] using ih

theorem pySplit_no_sep (s : Str) (sep : Char) : ∀ seg ∈ pySplit s sep, sep ∉ seg := by
  simpa [pySplit] using splitAux_no_sep sep s

theorem pyJoin_cons_cons (sep c : Char) (a : Str) (l : List Str) :
    pyJoin sep ((c :: a) :: l) = c :: pyJoin sep (a :: l) := by
  cases l <;> simp [pyJoin]

theorem join_split (s : Str) (sep : Char) : pyJoin sep (pySplit s sep) = s := by
  induction s with
  | nil => rfl
  | cons c s ih =>
    by_cases h : c = sep
    · subst h
      rw [pySplit_cons_sep]
      unfold pySplit at ih ⊢
      simp only [pyJoin, List.nil_append]
      rw [ih]
    · rw [pySplit_cons_ne _ _ _ h, pyJoin_cons_cons]
      unfold pySplit at ih
      rw [ih]

theorem split_append_sep (sep : Char) (a b : Str) :
    pySplit (a ++ sep :: b) sep = pySplit a sep ++ pySplit b sep := by
  have h : splitAux sep (a ++ sep :: b) =
      ((splitAux sep a).1, (splitAux sep a).2 ++ pySplit b sep) := by
    induction a with
    | nil => simp [splitAux_cons_sep, pySplit]
    | cons c a ih => by_cases hc : c = sep <;> simp [splitAux, hc, ih]
  simp [pySplit, h]

theorem pySplit_of_not_mem (sep : Char) (a : Str) (ha : sep ∉ a) : pySplit a sep = [a] := by
  induction a with
  | nil => rfl
  | cons c a ih =>
    simp only [List.mem_cons, not_or] at ha
    have := ih ha.2
    simp only [pySplit, List.cons.injEq] at this
    simp [pySplit, splitAux, Ne.symm ha.1, this]

theorem split_join (sep : Char) (l : List Str) (hne : l ≠ []) (hl : ∀ seg ∈ l, sep ∉ seg) :
    pySplit (pyJoin sep l) sep = l := by
  induction l with
  | nil => exact absurd rfl hne
  | cons a l ih =>
    have ha := pySplit_of_not_mem sep a (hl a List.mem_cons_self)
    cases l with
    | nil => exact ha
    | cons b l =>
      rw [pyJoin, split_append_sep, ha, ih (List.cons_ne_nil _ _) fun seg h => hl seg (List.mem_cons_of_mem _ h)]
      rfl

theorem pyLast_append_one (l : List Str) (x : Str) : pyLast (l ++ [x]) = x := by
  induction l with
  | nil => rfl
  | cons a l ih =>
    cases l with
    | nil => rfl
    | cons b l => simpa [pyLast] using ih

theorem pySetLast_append_one (l : List Str) (x y : Str) : pySetLast (l ++ [x]) y = l ++ [y] := by
  induction l with
  | nil => rfl
  | cons a l ih =>
    cases l with
    | nil => rfl
    | cons b l => simpa [pySetLast] using ih

theorem pyPop_append_one (l : List Str) (x : Str) : pyPop (l ++ [x]) = l := by
  induction l with
  | nil => rfl
  | cons a l ih =>
    cases l with
    | nil => rfl
    | cons b l => simpa [pyPop] using ih

theorem pyHead_append (l : List Str) (x : Str) (h : l ≠ []) : pyHead (l ++ [x]) = pyHead l := by
  cases l with
  | nil => exact absurd rfl h
  | cons a l => rfl

theorem exists_init_last (l : List Str) (h : l ≠ []) : ∃ i, l = i ++ [pyLast l] := by
  induction l with
  | nil => exact absurd rfl h
  | cons a l ih =>
    cases l with
    | nil => exact ⟨[], rfl⟩
    | cons b l =>
      obtain ⟨i, hi⟩ := ih (by simp)
      refine ⟨a :: i, ?_⟩
      simp only [pyLast, List.cons_append]
      rw [← hi]

theorem pyLast_mem (l : List Str) (h : l ≠ []) : pyLast l ∈ l := by
  obtain ⟨i, hi⟩ := exists_init_last l h
  rw [hi, pyLast_append_one]; simp

theorem startswith_first_seg (s pref : Str) (hp : '/' ∉ pref) :
    pyStartswith (splitAux '/' s).1 pref = pyStartswith s pref := by
  induction s generalizing pref with
  | nil => rfl
  | cons c s ih =>
    cases pref with
    | nil => simp
    | cons d p =>
      have hd : d ≠ '/' := fun h => hp (by simp [h])
      have hp' : '/' ∉ p := fun h => hp (List.mem_cons_of_mem _ h)
      by_cases h : c = '/'
      · subst h
        rw [splitAux_cons_sep]
        have : ('/' == d) = false := by
          simp only [beq_eq_false_iff_ne, ne_eq]; exact fun h => hd h.symm
        simp [this]
      · rw [splitAux_cons_ne _ h]
        simp [ih p hp']

theorem later_seg_iff (s pref : Str) (hp : '/' ∉ pref) :
    (∃ seg ∈ (splitAux '/' s).2, pyStartswith seg pref = true) ↔ occurs s ('/' :: pref) = true := by
  induction s with
  | nil => simp [occurs]
  | cons c s ih =>
    by_cases h : c = '/'
    · subst h
      rw [splitAux_cons_sep]
      simp only [List.mem_cons, exists_eq_or_imp, occurs, pyStartswith_cons_cons, beq_self_eq_true,
        Bool.true_and, Bool.or_eq_true]
      rw [startswith_first_seg s pref hp, ih]
    · rw [splitAux_cons_ne _ h]
      have : (c == '/') = false := by simpa using h
      simp only [occurs, pyStartswith_cons_cons, this, Bool.false_and, Bool.false_or]
      exact ih

theorem isInternalPathP_iff (p pref : Str) (hp : '/' ∉ pref) :
    isInternalPathP p pref = true ↔ ∃ seg ∈ pySplit p '/', pyStartswith seg pref = true := by
  unfold isInternalPathP pySplit
  simp only [Bool.or_eq_true, decide_eq_true_eq, ge_iff_le, List.mem_cons, exists_eq_or_imp]
  rw [pyFind_nonneg_iff, startswith_first_seg p pref hp, later_seg_iff p pref hp]

theorem metador_pref_no_slash : '/' ∉ METADOR_PREF := by decide

theorem meta_pref_no_slash : '/' ∉ METADOR_META_PREF := by decide

theorem isInternalPath_iff (p : Str) : isInternalPath p = true ↔ hasReservedSeg p :=
  isInternalPathP_iff p METADOR_PREF metador_pref_no_slash

theorem guardPath_reserved (loc : Bool) (p : Str) (h : isInternalPath p = true) :
    guardPath loc p = .error .internalPath := by
  simp [guardPath, h]

theorem stripPrefix_eq (pre s r : Str) (h : stripPrefix pre s = some r) : s = pre ++ r := by
  induction pre generalizing s with
  | nil => exact Option.some.inj h
  | cons c pre ih =>
    cases s with
    | nil => cases h
    | cons d s =>
      simp only [stripPrefix] at h
      split at h
      · next hcd => rw [ih s h, beq_iff_eq.1 hcd]; rfl
      · cases h

theorem relName_eq (g n r : Str) (h : relName g n = some r) :
    n = (if g == ['/'] then [] else g) ++ '/' :: r := by
  have hpre : (if g == ['/'] then ['/'] else g ++ ['/']) = (if g == ['/'] then [] else g) ++ ['/'] := by
    split <;> rfl
  simp only [relName, hpre] at h
  generalize (if g == ['/'] then [] else g) = q at h ⊢
  cases hs : stripPrefix (q ++ ['/']) n with
  | none => simp [hs] at h
  | some x =>
    cases x with
    | nil => simp [hs] at h
    | cons a x =>
      simp only [hs, Option.some.injEq] at h
      rw [stripPrefix_eq _ n _ hs, h, List.append_assoc]
      rfl

/-- is the part of a name below a node reserved? (`r` is `[]` or `"/…"`) -/
def relInt : Str → Bool
  | [] => false
  | _ :: r => isInternalPath r

theorem suffixBelow_eq (p n r : Str) (h : suffixBelow p n = some r) :
    n = p ++ r ∧ (r = [] ∨ ∃ r', r = '/' :: r') := by
  unfold suffixBelow at h
  split at h
  · next hs => cases h; exact ⟨stripPrefix_eq p n _ hs, Or.inl rfl⟩
  · next r' hs => cases h; exact ⟨stripPrefix_eq p n _ hs, Or.inr ⟨r', rfl⟩⟩
  · cases h

theorem hasReservedSeg_append_sep (a b : Str) :
    hasReservedSeg (a ++ '/' :: b) ↔ hasReservedSeg a ∨ hasReservedSeg b := by
  unfold hasReservedSeg
  rw [split_append_sep]
  simp only [List.mem_append, or_and_right, exists_or]

theorem reserved_rel_abs (q r : Str) (h : hasReservedSeg r) : hasReservedSeg (q ++ '/' :: r) :=
  (hasReservedSeg_append_sep q r).mpr (Or.inr h)

theorem internal_append (p r : Str) (h : r = [] ∨ ∃ r', r = '/' :: r') :
    isInternalPath (p ++ r) = (isInternalPath p || relInt r) := by
  rcases h with h | ⟨r', h⟩
  · subst h; simp [relInt]
  · subst h
    rw [Bool.eq_iff_iff]
    simp only [relInt, Bool.or_eq_true, isInternalPath_iff]
    exact hasReservedSeg_append_sep p r'

theorem filter_filterMap {α β : Type} (f : α → Option β) (p : α → Bool) (q : β → Bool) (l : List α)
    (h : ∀ x y, f x = some y → q y = p x) : (l.filterMap f).filter q = (l.filter p).filterMap f := by
  induction l with
  | nil => rfl
  | cons a l ih =>
    cases hf : f a with
    | none => cases hp : p a <;> simp [hf, hp, ih]
    | some y => cases hp : p a <;> simp [hf, hp, h a y hf, ih]

theorem userView_append (a b : Raw) : userView (a ++ b) = userView a ++ userView b := by
  simp [userView]

theorem userView_delete_comm (p : Str) (raw : Raw) :
    userView (rawDelete p raw) = rawDelete p (userView raw) := by
  simp only [userView, rawDelete, List.filter_filter]
  apply List.filter_congr
  intro nd _
  exact Bool.and_comm _ _

theorem userView_delete_internal (p : Str) (hp : isInternalPath p = true) (raw : Raw) :
    userView (rawDelete p raw) = userView raw := by
  simp only [userView, rawDelete, List.filter_filter]
  apply List.filter_congr
  intro nd _
  cases hs : suffixBelow p nd.name with
  | none => simp
  | some r =>
    obtain ⟨hn, hr⟩ := suffixBelow_eq p nd.name r hs
    have : isInternalPath nd.name = true := by rw [hn, internal_append p r hr, hp]; rfl
    simp [this]

/-- the nodes a copy adds -/
def copied (src dst : Str) (raw : Raw) : Raw :=
  raw.filterMap fun nd => (suffixBelow src nd.name).map fun r => ⟨dst ++ r, nd.isGroup⟩

theorem rawCopy_eq (src dst : Str) (raw : Raw) : rawCopy src dst raw = raw ++ copied src dst raw := rfl

theorem userView_copied_internal (src dst : Str) (hd : isInternalPath dst = true) (raw : Raw) :
    userView (copied src dst raw) = [] := by
  simp only [userView, copied, List.filter_eq_nil_iff, List.mem_filterMap, Option.map_eq_some_iff,
    Bool.not_eq_eq_eq_not, Bool.not_true, Bool.not_eq_false]
  rintro nd ⟨nd0, _, r, hs, rfl⟩
  obtain ⟨_, hr⟩ := suffixBelow_eq src nd0.name r hs
  simp [internal_append dst r hr, hd]

theorem userView_copied_user (src dst : Str) (hs : isInternalPath src = false)
    (hd : isInternalPath dst = false) (raw : Raw) :
    userView (copied src dst raw) = copied src dst (userView raw) := by
  unfold userView copied
  apply filter_filterMap
  intro nd y hy
  simp only [Option.map_eq_some_iff] at hy
  obtain ⟨r, hsuf, rfl⟩ := hy
  obtain ⟨hn, hr⟩ := suffixBelow_eq src nd.name r hsuf
  simp only
  rw [hn, internal_append dst r hr, internal_append src r hr, hs, hd]

end MetadorModel.Paths
