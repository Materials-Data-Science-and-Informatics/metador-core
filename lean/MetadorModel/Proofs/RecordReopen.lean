import MetadorModel.Proofs.RecordChain
import MetadorModel.Proofs.RecordModes
/-! Close and reopen: `close()` keeps the chain coherent, `_open` on any permutation of its
file names (or on what `find_files` returns) gives the chain back; `discard_patch` after any
number of writes undoes `create_patch` (C03). -/
namespace MetadorModel.Record
open MetadorModel.FindFiles

/-- the newest container's manifest extension (if any) points to an existing sidecar with
that hashsum -/
def ManifestOk (d : Disk) (files : List (Name × UB)) : Prop :=
  ∀ f ub u b, lastFile files = some (f, ub) → ub.ext = some (u, b) →
    ∃ u', getF d (manifestFile f) = some (.mf u' b)

/-- an open handle on a coherent chain -/
structure Good (s : State) : Prop where
  isOpen : s.h.closed = false
  coh : Coherent s.disk s.h.files
  inv : Inv s
  rwAllow : hasWritable s.h = true → s.h.allow = true

theorem loadManifest_ok {d : Disk} {files : List (Name × UB)} (h : ManifestOk d files) :
    ∃ man, loadManifest d files = .ok man := by
  unfold loadManifest
  cases hl : lastFile files with
  | none => exact ⟨none, rfl⟩
  | some y =>
    obtain ⟨f, ub⟩ := y
    simp only
    cases he : ub.ext with
    | some e =>
      obtain ⟨u, b⟩ := e
      obtain ⟨u', hu⟩ := h f ub u b hl he
      simp only [hu, if_true]
      exact ⟨_, rfl⟩
    | none =>
      simp only
      split
      · split
        · split
          · split <;> exact ⟨_, rfl⟩
          · exact ⟨_, rfl⟩
        · exact ⟨_, rfl⟩
      · exact ⟨_, rfl⟩

/-- `find_files` does not notice a write to an existing file or to a file that does not belong to the name -/
theorem filter_names_setF (n f : Name) (v : File) : ∀ (d : Disk), f ∈ names d ∨ belongs n f = false →
    (names (setF d f v)).filter (belongs n) = (names d).filter (belongs n)
  | [], h => by
    have hb := h.resolve_left (fun h => nomatch h)
    simp [setF, names, hb]
  | (k, w) :: r, h => by
    by_cases hk : k = f
    · simp [setF, names, hk]
    · have ih := filter_names_setF n f v r (h.imp_left fun h => (List.mem_cons.mp h).resolve_left (Ne.symm hk))
      simp only [names] at ih
      simp [setF, names, hk, List.filter_cons, ih]

/-- what `close()` leaves behind: the same chain (possibly with the last container now
committed), still coherent, same view, manifest link intact; no container name appears -/
structure Closed (s s1 : State) (files' : List (Name × UB)) : Prop where
  isClosed : s1.h.closed = true
  coh : Coherent s1.disk files'
  sameNames : files'.map Prod.fst = fileNames s.h
  sameIdx : files'.map (fun x => x.2.idx) = s.h.files.map (fun x => x.2.idx)
  sameView : viewFiles s1.disk files' = view s
  man : ManifestOk s.disk s.h.files → ManifestOk s1.disk files'
  fresh : ∀ g, g.getLast? = some '5' → getF s.disk g = none → getF s1.disk g = none
  found : ∀ n, (names s1.disk).filter (belongs n) = (names s.disk).filter (belongs n)
  inv : Inv s1

/-- what either commit leaves behind once the handle is closed: `side` is the manifest the manifest
class writes beside the container -/
theorem closed_of_commit {s s1 : State} (hg : Good s) {fl : Name} {ul ul' : UB} {p : List Nat}
    (hl : lastFile s.h.files = some (fl, ul)) (hp : getF s.disk fl = some (.cont ul p))
    (hs : SameLink ul ul') (hh : ul'.hash = some p) (hcl : s1.h.closed = true) (hi : Inv s1)
    (side : Option (Nat × Nat))
    (hd : s1.disk = match side with
      | none => setF s.disk fl (.cont ul' p)
      | some (u, b) => setF (setF s.disk fl (.cont ul' p)) (manifestFile fl) (.mf u b))
    (hext : match side with
      | none => ul'.ext = ul.ext
      | some (_, b) => ∃ u', ul'.ext = some (u', b)) :
    Closed s s1 (setLastUB s.h.files ul') := by
  have hc1 := coherent_commit_last hg.coh hl hs hh
  have hpay : payloadOf s.disk fl = some p := by simp [payloadOf, hp]
  have hD0 : ∀ g, g ≠ manifestFile fl → getF s1.disk g = getF (setF s.disk fl (.cont ul' p)) g := by
    intro g hg
    cases side with
    | none => rw [hd]
    | some ub => rw [hd]; exact getF_setF_ne _ _ _ _ hg
  -- no container of the chain has the name of the sidecar
  have hside : ∀ x ∈ setLastUB s.h.files ul', x.1 ≠ manifestFile fl := by
    intro x hx heq
    obtain ⟨q, hq⟩ := hc1.onDisk x.1 x.2 hx
    by_cases hx1 : x.1 = fl
    · exact manifestFile_ne fl (hx1 ▸ heq).symm
    · rw [getF_setF_ne _ _ _ _ hx1] at hq
      exact hg.inv.not_manifest (heq ▸ hq)
  refine ⟨hcl, coherent_congr (fun x hx => hD0 _ (hside x hx)) hc1, map_fst_setLastUB _ _,
    map_setLastUB (·.2.idx) _ _ (fun _ _ h => by cases hl.symm.trans h; exact hs.2.1), ?_, ?_, ?_, ?_, hi⟩
  · rw [viewFiles_congr _ _ _ (fun x hx => payloadOf_congr (hD0 _ (hside x hx)))]
    exact viewFiles_commit_last hpay
  · intro hman0 f ub u b hlf hext'
    rw [lastFile_setLastUB _ _ _ _ hl] at hlf
    cases hlf
    cases side with
    | none =>
      obtain ⟨u', hu'⟩ := hman0 fl ul u b hl (hext ▸ hext')
      exact ⟨u', by rw [hd, getF_setF_ne _ _ _ _ (manifestFile_ne fl)]; exact hu'⟩
    | some ub =>
      obtain ⟨u', hu'⟩ := hext
      cases hext'.symm.trans hu'
      exact ⟨ub.1, by rw [hd, getF_setF_eq]⟩
  · intro g hg5 hgn
    rw [hD0 g (fun h => by rw [h, manifestFile_last] at hg5; cases hg5),
      getF_setF_ne _ _ _ _ (fun h => by rw [h, hp] at hgn; cases hgn)]
    exact hgn
  · intro n
    have hmem : fl ∈ names s.disk := (getF_isSome_iff_mem_names _ _).mp (by simp [hp])
    cases side with
    | none => rw [hd, filter_names_setF _ _ _ _ (.inl hmem)]
    | some ub =>
      rw [hd, filter_names_setF _ _ _ _ (.inr (belongs_manifestFile _ _)), filter_names_setF _ _ _ _ (.inl hmem)]

theorem close_good (s : State) (hg : Good s) (c : Bool) :
    (close s c).out = .ok ∧ ∃ files', Closed s (close s c).st files' := by
  obtain ⟨f0, u0, rest, hfiles, _⟩ := hg.coh.checks
  cases hl : lastFile s.h.files with
  | none => rw [hfiles] at hl; exact absurd ((lastFile_eq_none _).mp hl) nofun
  | some y =>
    obtain ⟨fl, ul⟩ := y
    obtain ⟨p, hp⟩ := hg.coh.onDisk fl ul (lastFile_mem _ _ hl)
    have hpay : payloadOf s.disk fl = some p := by simp [payloadOf, hp]
    have hclosed : ∀ {s' : State}, Inv s' → Inv { s' with h := closedHandle s'.h } :=
      fun hi => ⟨hi.diskOk, fun h => nomatch h⟩
    rcases close_spec s c with ⟨h, _⟩ | ⟨_, hw, _, hbad, _⟩ | ⟨_, hw, _, hok, heq⟩ | ⟨_, _, heq⟩
    · rw [hg.isOpen] at h; cases h
    · -- commit cannot fail here
      refine absurd ?_ hbad
      unfold commitPatch
      split
      · exact commitMF_out_ok s hg.isOpen (hg.rwAllow hw) hw hl hpay
      · rw [commitPlain_eq s hg.isOpen (hg.rwAllow hw) hw hl hpay]
    · rw [heq]
      refine ⟨hok, ?_⟩
      by_cases hm : s.h.mfcls = true
      · rw [show commitPatch s = commitMF s by rw [commitPatch, if_pos hm]] at hok ⊢
        rcases commitMF_spec s with hf | ⟨f, ub, p', h1, _, _, _, h5, _, hd, _⟩
        · exact absurd hok hf.1.1
        · cases hl.symm.trans h1
          cases hpay.symm.trans h5
          exact ⟨_, closed_of_commit (ul' := mfCommitUB ul s.next p) hg hl hp ⟨rfl, rfl, rfl, rfl⟩ rfl rfl
            (hclosed ((commitMF_lawful s).2 hg.inv).2) (some (s.next, s.next + 1)) hd ⟨_, rfl⟩⟩
      · rw [show commitPatch s = commitPlain s by rw [commitPatch, if_neg hm]] at hok ⊢
        rcases commitPlain_spec s with hf | ⟨f, ub, p', h1, _, _, _, h5, heq2⟩
        · exact absurd hok hf.1.1
        · cases hl.symm.trans h1
          cases hpay.symm.trans h5
          have hi := ((commitPlain_lawful s).2 hg.inv).2
          rw [heq2] at hi ⊢
          exact ⟨_, closed_of_commit (ul' := { ul with hash := some p }) hg hl hp ⟨rfl, rfl, rfl, rfl⟩ rfl rfl
            (hclosed hi) none rfl rfl⟩
    · rw [heq]
      exact ⟨rfl, s.h.files, rfl, hg.coh, rfl, rfl, rfl, fun h => h, fun _ _ h => h, fun _ => rfl, hclosed hg.inv⟩

/-- the name the next patch container would get is unused (what mode `x` needs) -/
def NextPatchFree (s : State) : Prop :=
  ∀ f0 k, (fileNames s.h).head? = some f0 → (s.h.files.map (fun x => x.2.idx)).getLast? = some k →
    getF s.disk (patchFile (inferName f0) (k + 1)) = none

theorem lastFile_idx (l : List (Name × UB)) (fl : Name) (ul : UB) (h : lastFile l = some (fl, ul)) :
    (l.map (fun x => x.2.idx)).getLast? = some ul.idx := by
  obtain ⟨l', rfl⟩ := eq_append_of_lastFile h
  simp

theorem reopen_closed (s s1 : State) (files' : List (Name × UB)) (hcl : Closed s s1 files')
    (cls : Bool) (t : Target) (m : Mode) (paths : List Name) (hres : Resolves s1.disk t paths)
    (hperm : paths.Perm (files'.map Prod.fst)) (hm : m = .r ∨ m = .rp ∨ m = .a)
    (hmf : cls = true → ManifestOk s.disk s.h.files)
    (hfresh : m ≠ .r → NextPatchFree s) :
    (openRec s1 cls t m).out = .ok ∧ view (openRec s1 cls t m).st = viewFiles s1.disk files' := by
  have hman : ∃ man, (if cls then loadManifest s1.disk files' else .ok none) = .ok man := by
    by_cases h : cls
    · obtain ⟨man0, hman0⟩ := loadManifest_ok (hcl.man (hmf h))
      exact ⟨man0, by simp [h, hman0]⟩
    · exact ⟨none, by simp [h]⟩
  obtain ⟨man, hman⟩ := hman
  rcases hm with rfl | hm
  · -- read-only
    obtain ⟨fl, ul, hl, hopen⟩ := openFiles_of_coherent hcl.coh paths hperm false
    rw [openRec_resolved s1 cls t .r paths hcl.isClosed hres (Or.inl rfl)]
    unfold openExisting
    have h1 : (Mode.r != Mode.r) = false := rfl
    simp only [h1, hopen, hman, Bool.false_and, Bool.false_eq_true, if_false]
    exact ⟨trivial, rfl⟩
  · have hm' : m = .rp ∨ m = .a := hm
    have hmr : m ≠ .r := by rcases hm with rfl | rfl <;> decide
    obtain ⟨fl, ul, hl, hopen⟩ := openFiles_of_coherent hcl.coh paths hperm true
    cases hh : ul.hash.isNone with
    | true =>
      rw [hh] at hopen
      obtain ⟨f, ul2, _, _, heq, _⟩ := open_rplus_continues s1 cls t m paths files' man hcl.isClosed hres hm' hopen hman
      rw [heq]
      exact ⟨rfl, rfl⟩
    | false =>
      rw [hh] at hopen
      obtain ⟨f0, u0, rest, fl2, ul2, hfiles, hl2, _, hcase⟩ :=
        open_rplus_new_patch s1 cls t m paths files' man hcl.isClosed hres hm' hopen hman
      rw [hl] at hl2; cases hl2
      -- the next patch name is free in `s1`
      have hhead : (fileNames s.h).head? = some f0 := by rw [← hcl.sameNames, hfiles]; rfl
      have hidx : (s.h.files.map (fun x => x.2.idx)).getLast? = some ul.idx := by
        rw [← hcl.sameIdx]; exact lastFile_idx _ _ _ hl
      have hfree : getF s1.disk (patchFile (inferName f0) (ul.idx + 1)) = none :=
        hcl.fresh _ (patchFile_last _ _) (hfresh hmr f0 ul.idx hhead hidx)
      -- … and hence is not the name of a container of the chain
      have hne : ∀ x ∈ files', x.1 ≠ patchFile (inferName f0) (ul.idx + 1) := fun x hx h => by
        obtain ⟨q, hq⟩ := hcl.coh.onDisk x.1 x.2 hx
        rw [h, hfree] at hq; cases hq
      rcases hcase with ⟨_, _, heq⟩ | ⟨_, h | h⟩
      · rw [heq]
        refine ⟨rfl, ?_⟩
        simp only [view, viewFiles_append]
        rw [viewFiles_congr _ _ _ fun x hx => payloadOf_congr (getF_setF_ne _ _ _ _ (hne x hx))]
        simp [viewFiles, payloadOf, getF_setF_eq]
      · rw [hfree] at h; cases h
      · obtain ⟨x, hx, hx1⟩ := List.mem_map.mp (List.contains_iff_mem.mp h)
        exact absurd hx1 (hne x hx)

/-- a write never touches the handle, and on disk at most the handle's newest file -/
theorem write_keeps (s : State) (k : Nat) :
    (write s k).st.h = s.h ∧
    ∀ f u, lastFile s.h.files = some (f, u) → ∀ g, g ≠ f → getF (write s k).st.disk g = getF s.disk g := by
  rcases write_spec s k with hf | ⟨f, u, hl, _, _, ⟨ub, p, _, heq⟩ | ⟨_, heq⟩⟩
  · exact ⟨hf.1.2.2.1, fun _ _ _ _ _ => by rw [hf.1.2.1]⟩
  · rw [heq]
    exact ⟨rfl, fun f' u' hl' g hg => by cases hl.symm.trans hl'; exact getF_setF_ne _ _ _ _ hg⟩
  · rw [heq]
    exact ⟨rfl, fun _ _ _ _ _ => rfl⟩

theorem run_writes_keeps (ks : List Nat) : ∀ (s : State) (f : Name) (u : UB), lastFile s.h.files = some (f, u) →
    (run s (ks.map Op.write)).h = s.h ∧ ∀ g, g ≠ f → getF (run s (ks.map Op.write)).disk g = getF s.disk g := by
  induction ks with
  | nil => exact fun _ _ _ _ => ⟨rfl, fun _ _ => rfl⟩
  | cons k r ih =>
    intro s f u hl
    obtain ⟨h1, h2⟩ := write_keeps s k
    obtain ⟨h3, h4⟩ := ih (write s k).st f u (h1 ▸ hl)
    exact ⟨h3.trans h1, fun g hg => (h4 g hg).trans (h2 f u hl g hg)⟩

theorem discard_undoes_patch (s : State) (ks : List Nat) (hok : (createPatch s).out = .ok) :
    (discardPatch (run (createPatch s).st (ks.map Op.write))).out = .ok ∧
    (discardPatch (run (createPatch s).st (ks.map Op.write))).st.h.files = s.h.files ∧
    (∀ g, getF (discardPatch (run (createPatch s).st (ks.map Op.write))).st.disk g = getF s.disk g) ∧
    view (discardPatch (run (createPatch s).st (ks.map Op.write))).st = view s := by
  rcases createPatch_spec s with hf | ⟨f0, u0, rest, fl, ul, hfiles, hl, hcl, hal, hnw, hfresh, heq⟩
  · exact absurd hok hf.1.1
  generalize hpath : patchFile (inferName f0) (ul.idx + 1) = path at *
  generalize hub : newPatchUB ul s.next = ub at *
  obtain ⟨h1, h2⟩ := run_writes_keeps ks (createPatch s).st path ub (by rw [heq]; exact lastFile_append_single _ _)
  generalize run _ (ks.map Op.write) = s2 at h1 h2 ⊢
  rw [heq] at h1 h2
  have hl2 : lastFile s2.h.files = some (path, ub) := by rw [h1]; exact lastFile_append_single _ _
  have hdisc : discardPatch s2 =
      { st := { s2 with disk := eraseF s2.disk path,
                        h := { s2.h with files := dropLastF s2.h.files, lastRW := false } },
        out := .ok, removed := [path] } := by
    have hlen : (s2.h.files.length == 1) = false := by rw [h1, hfiles]; simp
    have hw2 : hasWritable s2.h = true := by rw [h1]; simp [hasWritable]
    simp [discardPatch, show s2.h.closed = false by rw [h1]; exact hcl,
      show s2.h.allow = true by rw [h1]; exact hal, hw2, hlen, hl2]
  rw [hdisc]
  have hfilesEq : dropLastF s2.h.files = s.h.files := by rw [h1]; exact dropLastF_append_single _ _
  have hdiskEq : ∀ g, getF (eraseF s2.disk path) g = getF s.disk g := fun g => by
    by_cases hg : g = path
    · rw [hg, getF_eraseF_eq, hfresh]
    · rw [getF_eraseF_ne _ _ _ hg, h2 g hg]; exact getF_setF_ne _ _ _ _ hg
  refine ⟨rfl, hfilesEq, hdiskEq, ?_⟩
  simp only [view, hfilesEq]
  exact viewFiles_congr _ _ _ (fun x _ => payloadOf_congr (hdiskEq x.1))

end MetadorModel.Record
