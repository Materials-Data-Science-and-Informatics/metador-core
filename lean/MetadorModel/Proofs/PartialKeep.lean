import MetadorModel.Proofs.PartialAssoc
/-! Helper lemmas for C14, part 3: no provided leaf is dropped by a merge. -/
namespace MetadorModel.Partial
open MetadorModel

def valAtO : Option PVal → List String → Option PVal
  | none, _ => none
  | some v, p => valAt v p

def wfOpt : Option PVal → Prop
  | none => True
  | some v => v.wf = true

/-- the field `k` of a (possibly missing, possibly non-model) value -/
def childO : Option PVal → String → Option PVal
  | some (.obj _ fs), k => AL.get fs k
  | _, _ => none

theorem valAtO_nil (x : Option PVal) : valAtO x [] = x := by
  cases x <;> simp [valAtO, valAt]

theorem valAtO_cons (x : Option PVal) (k : String) (p : List String) :
    valAtO x (k :: p) = valAtO (childO x k) p := by
  rcases x with _ | (_ | _ | _ | ⟨c, fs⟩) <;> try rfl
  show (match AL.get fs k with | none => none | some v => valAt v p) = valAtO (AL.get fs k) p
  cases AL.get fs k <;> rfl

theorem wfOpt_child {x : Option PVal} (h : wfOpt x) (k : String) : wfOpt (childO x k) := by
  rcases x with _ | (_ | _ | _ | ⟨c, fs⟩) <;> try trivial
  show wfOpt (AL.get fs k)
  cases hg : AL.get fs k with
  | none => trivial
  | some u => exact wfF_get ((wf_obj c fs).mp h).2 hg

/-- the provided leaf `v` is still there in `w`: the same atom; a list that contains the list
as a contiguous block; a set that contains every element -/
def Keeps : PVal → PVal → Prop
  | .atom a, w => w = .atom a
  | .list xs, w => ∃ pre post, w = .list (pre ++ xs ++ post)
  | .set xs, w => ∃ ws, w = .set ws ∧ ∀ x ∈ xs, x ∈ ws
  | .obj _ _, _ => True

theorem Keeps_refl (v : PVal) : Keeps v v := by
  cases v with
  | atom a => rfl
  | list xs => exact ⟨[], [], by simp⟩
  | set xs => exact ⟨xs, rfl, fun _ h => h⟩
  | obj c fs => trivial

theorem mem_unionA (xs ys : List Atom) (a : Atom) : a ∈ unionA xs ys ↔ a ∈ xs ∨ a ∈ ys := by
  simp only [unionA, List.mem_append, List.mem_filter, List.contains_eq_mem, Bool.not_eq_true',
    decide_eq_false_iff_not]
  constructor
  · rintro (h | ⟨h, _⟩)
    · exact Or.inl h
    · exact Or.inr h
  · rintro (h | h)
    · exact Or.inl h
    · by_cases hx : a ∈ xs
      · exact Or.inl hx
      · exact Or.inr ⟨h, hx⟩

theorem asOpaque_ok {ow : Bool} {n m : PVal} (h : asOpaque ow n = .ok m) : ow = true ∧ m = n := by
  cases ow <;> cases h
  exact ⟨rfl, rfl⟩

theorem merge_ok_cases {ow : Bool} {o n m : PVal} (h : merge ow o n = .ok m) :
    (∃ xs ys, o = .list xs ∧ n = .list ys ∧ m = .list (xs ++ ys)) ∨
    (∃ xs ys, o = .set xs ∧ n = .set ys ∧ m = .set (unionA xs ys)) ∨
    (∃ c1 f1 c2 f2 r, o = .obj c1 f1 ∧ n = .obj c2 f2 ∧ mergeFields ow f1 f2 = .ok r ∧ m = .obj c1 r) ∨
    (ow = true ∧ m = n) := by
  cases o with
  | atom a => exact Or.inr (Or.inr (Or.inr (asOpaque_ok (merge_atom ow a n ▸ h))))
  | list xs =>
    rw [merge_list] at h
    cases n <;> cases h
    exact Or.inl ⟨_, _, rfl, rfl, rfl⟩
  | set xs =>
    rw [merge_set] at h
    cases n <;> cases h
    exact Or.inr (Or.inl ⟨_, _, rfl, rfl, rfl⟩)
  | obj c1 f1 =>
    cases n with
    | obj c2 f2 =>
      rw [merge_obj_obj] at h
      split at h
      · cases hm : mergeFields ow f1 f2 with
        | ok r => rw [hm] at h; cases h; exact Or.inr (Or.inr (Or.inl ⟨_, _, _, _, r, rfl, rfl, hm, rfl⟩))
        | error e => rw [hm] at h; cases h
      · exact Or.inr (Or.inr (Or.inr (asOpaque_ok h)))
    | atom b => exact Or.inr (Or.inr (Or.inr (asOpaque_ok h)))
    | list ys => exact Or.inr (Or.inr (Or.inr (asOpaque_ok h)))
    | set ys => exact Or.inr (Or.inr (Or.inr (asOpaque_ok h)))

theorem updO_ok_cases {ow : Bool} {x y z : Option PVal} (h : updO ow x y = .ok z) :
    (x = none ∧ z = y) ∨ (y = none ∧ z = x) ∨
      ∃ o n m, x = some o ∧ y = some n ∧ z = some m ∧ merge ow o n = .ok m := by
  cases x with
  | none => simp at h; exact Or.inl ⟨rfl, h.symm⟩
  | some o =>
    cases y with
    | none => simp at h; exact Or.inr (Or.inl ⟨rfl, h.symm⟩)
    | some n =>
      rw [updO_some] at h
      cases hm : merge ow o n with
      | error e => rw [hm] at h; cases h
      | ok m => rw [hm] at h; cases h; exact Or.inr (Or.inr ⟨o, n, m, rfl, rfl, rfl, hm⟩)

/-- no provided leaf is dropped: a leaf of the later operand `y` is kept in the result; a leaf of
the earlier operand `x` is kept, or — only with overwrite — the later operand's value `n` sits in
the result at that path or above it (it replaced what `x` had there) -/
theorem keep (ow : Bool) (x y z : Option PVal) (wy : wfOpt y) (h : updO ow x y = .ok z)
    (v : PVal) (hv : v.isObj = false) (p : List String) :
    (valAtO y p = some v → ∃ w, valAtO z p = some w ∧ Keeps v w) ∧
    (valAtO x p = some v → (∃ w, valAtO z p = some w ∧ Keeps v w) ∨
      (ow = true ∧ ∃ q n, q <+: p ∧ valAtO y q = some n ∧ valAtO z q = some n)) := by
  rcases updO_ok_cases h with ⟨rfl, rfl⟩ | ⟨rfl, rfl⟩ | ⟨o, n, m, rfl, rfl, rfl, hm⟩
  · exact ⟨fun h => ⟨v, h, Keeps_refl v⟩, nofun⟩
  · exact ⟨nofun, fun h => Or.inl ⟨v, h, Keeps_refl v⟩⟩
  rcases merge_ok_cases hm with ⟨xs, ys, rfl, rfl, rfl⟩ | ⟨xs, ys, rfl, rfl, rfl⟩ |
    ⟨c1, f1, c2, f2, r, rfl, rfl, hr, rfl⟩ | ⟨how, rfl⟩
  · -- lists: both are blocks of the concatenation; there is nothing below a list
    cases p with
    | nil =>
      simp only [valAtO_nil, Option.some.injEq]
      exact ⟨fun h => ⟨_, rfl, h ▸ ⟨xs, [], by simp⟩⟩, fun h => .inl ⟨_, rfl, h ▸ ⟨[], ys, by simp⟩⟩⟩
    | cons k rest => exact ⟨nofun, nofun⟩
  · -- sets: both are contained in the union
    cases p with
    | nil =>
      simp only [valAtO_nil, Option.some.injEq]
      exact ⟨fun h => ⟨_, rfl, h ▸ ⟨_, rfl, fun x hx => (mem_unionA xs ys x).mpr (.inr hx)⟩⟩,
        fun h => .inl ⟨_, rfl, h ▸ ⟨_, rfl, fun x hx => (mem_unionA xs ys x).mpr (.inl hx)⟩⟩⟩
    | cons k rest => exact ⟨nofun, nofun⟩
  · -- model values: no leaves themselves; below the key `k` the field loop did an update
    cases p with
    | nil =>
      simp only [valAtO_nil, Option.some.injEq]
      exact ⟨fun h => (by cases h; cases hv), fun h => (by cases h; cases hv)⟩
    | cons k rest =>
      have hp := mergeFields_keyWise ow ((wf_obj c2 f2).mp wy).1 f1
      rw [hr] at hp
      have := keep ow (AL.get f1 k) (AL.get f2 k) (AL.get r k) (wfOpt_child (x := some (.obj c2 f2)) wy k)
        (hp k) v hv rest
      simp only [valAtO_cons, childO]
      refine ⟨this.1, fun hx => (this.2 hx).imp_right fun ⟨how, q, n', hq, h2, h3⟩ => ?_⟩
      exact ⟨how, k :: q, n', List.cons_prefix_cons.mpr ⟨rfl, hq⟩, valAtO_cons .. ▸ h2, valAtO_cons .. ▸ h3⟩
  · -- overwritten: the result is the later value as a whole
    exact ⟨fun h => ⟨v, h, Keeps_refl v⟩,
      fun _ => .inr ⟨how, [], m, List.nil_prefix, valAtO_nil _, valAtO_nil _⟩⟩
