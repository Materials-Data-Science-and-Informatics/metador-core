import MetadorModel.Model.Partial
import MetadorModel.Proofs.DiffMap
/-! Helper lemmas for the partial-merge model (C14), part 1: the field loop of `merge_with`
computes, key by key, `_update_field` of the two values. -/
namespace MetadorModel.Partial
open MetadorModel

theorem wf_obj (c : Cls) (fs : Fields) : (PVal.obj c fs).wf = true ↔ AL.sorted fs = true ∧ wfF fs = true := by
  simp [PVal.wf]

theorem wfF_get {fs : Fields} (h : wfF fs = true) {k : String} {v : PVal}
    (hg : AL.get fs k = some v) : v.wf = true := by
  induction fs with
  | nil => simp at hg
  | cons a r ih =>
    obtain ⟨k', v'⟩ := a
    simp only [wfF, Bool.and_eq_true] at h
    rw [AL.get_cons] at hg
    split_ifs at hg with h1
    · cases hg; exact h.1
    · exact ih h.2 hg

@[simp] theorem updO_none_left (ow : Bool) (y : Option PVal) : updO ow none y = .ok y := by
  cases y <;> rfl

@[simp] theorem updO_none_right (ow : Bool) (x : Option PVal) : updO ow x none = .ok x := by
  cases x <;> rfl

theorem updO_some (ow : Bool) (o n : PVal) : updO ow (some o) (some n) = (merge ow o n).map some := by
  rw [updO]
  cases merge ow o n <;> rfl

/-! ## `merge` by the kind of the old value, the order in which `_update_field` tests -/

theorem merge_atom (ow : Bool) (a : Atom) (n : PVal) : merge ow (.atom a) n = asOpaque ow n := by
  cases n <;> rfl

theorem merge_list (ow : Bool) (xs : List PVal) (n : PVal) :
    merge ow (.list xs) n = match n with
      | .list ys => .ok (.list (xs ++ ys))
      | _ => .error .shape := by
  cases n <;> rfl

theorem merge_set (ow : Bool) (xs : List Atom) (n : PVal) :
    merge ow (.set xs) n = match n with
      | .set ys => .ok (.set (unionA xs ys))
      | _ => .error .shape := by
  cases n <;> rfl

theorem merge_obj_obj (ow : Bool) (c1 c2 : Cls) (f1 f2 : Fields) :
    merge ow (.obj c1 f1) (.obj c2 f2) =
      if related c2 c1 = true then (mergeFields ow f1 f2).map (.obj c1) else asOpaque ow (.obj c2 f2) := by
  rw [merge]
  split_ifs with h
  · cases mergeFields ow f1 f2 <;> rfl
  · rfl

theorem mergeWith_obj (ow : Bool) (c1 c2 : Cls) (f1 f2 : Fields) :
    mergeWith ow (.obj c1 f1) (.obj c2 f2) = (mergeFields ow f1 f2).map (.obj c1) := by
  rw [mergeWith]
  cases mergeFields ow f1 f2 <;> rfl

theorem mergeFields_nil (ow : Bool) (acc : Fields) : mergeFields ow acc [] = .ok acc := by
  simp [mergeFields]

theorem mergeFields_cons (ow : Bool) (acc : Fields) (k : String) (v : PVal) (r : Fields) :
    mergeFields ow acc ((k, v) :: r) =
      match updO ow (AL.get acc k) (some v) with
      | .ok (some m) => mergeFields ow (AL.ins k m acc) r
      | .ok none => .error .shape
      | .error e => .error e := by
  rw [mergeFields]
  cases AL.get acc k with
  | none => rfl
  | some o =>
    simp only [updO_some]
    cases merge ow o v <;> rfl

theorem updO_some_right_ok {ow : Bool} {x : Option PVal} {v : PVal} {z : Option PVal}
    (h : updO ow x (some v) = .ok z) : ∃ m, z = some m := by
  cases x with
  | none => simp at h; exact ⟨v, h.symm⟩
  | some o =>
    rw [updO_some] at h
    cases hm : merge ow o v with
    | ok m => rw [hm] at h; cases h; exact ⟨m, rfl⟩
    | error e => rw [hm] at h; cases h

/-- `x` is the outcome of a loop that computes `g k` at every key `k`: a result that holds `g k` at
`k`, or an error because some `g k` is one -/
def KeyWise (x : Except Err Fields) (g : String → Except Err (Option PVal)) : Prop :=
  match x with
  | .ok r => ∀ k, g k = .ok (AL.get r k)
  | .error _ => ∃ k e, g k = .error e

theorem mergeFields_keyWise (ow : Bool) {f2 : Fields} (h2 : AL.sorted f2 = true) (acc : Fields) :
    KeyWise (mergeFields ow acc f2) fun k => updO ow (AL.get acc k) (AL.get f2 k) := by
  induction f2 generalizing acc with
  | nil => exact fun k => updO_none_right ow _
  | cons a rest ih =>
    obtain ⟨k0, v⟩ := a
    rw [mergeFields_cons]
    cases hu : updO ow (AL.get acc k0) (some v) with
    | error e => exact ⟨k0, e, by simp only [AL.get_cons, if_pos, hu]⟩
    | ok z =>
      obtain ⟨m, rfl⟩ := updO_some_right_ok hu
      -- after the first field the loop has the same thing to do at every key
      have e : (fun k => updO ow (AL.get (AL.ins k0 m acc) k) (AL.get rest k)) =
          fun k => updO ow (AL.get acc k) (AL.get ((k0, v) :: rest) k) := by
        funext k
        rw [AL.get_cons]
        by_cases hk : k0 = k
        · subst hk
          rw [if_pos rfl, hu, AL.get_ins_self, AL.get_tail_head h2, updO_none_right]
        · rw [if_neg hk, AL.get_ins_ne (Ne.symm hk)]
      exact e ▸ ih (AL.sorted_tail h2) _

theorem mergeFields_sorted {ow : Bool} {f2 acc r : Fields} (ha : AL.sorted acc = true)
    (h : mergeFields ow acc f2 = .ok r) : AL.sorted r = true := by
  induction f2 generalizing acc with
  | nil => cases h; exact ha
  | cons a rest ih =>
    obtain ⟨k0, v⟩ := a
    rw [mergeFields_cons] at h
    split at h
    · exact ih (AL.sorted_ins k0 _ ha) h
    · cases h
    · cases h
