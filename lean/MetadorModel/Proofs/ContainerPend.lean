import MetadorModel.Proofs.ContainerQuery
/-!
# The effect of re-rooting a subtree (`raw.copy` / `raw.move`) on the tree part of the invariant
-/
namespace MetadorModel.Container

/-- an existing node, or a group created on the way to a new node -/
def orGrp (o : Option Node) (b : Bool) : Option Node :=
  match o with
  | some x => some x
  | none => if b then some .grp else none

@[simp] theorem orGrp_some (x : Node) (b : Bool) : orGrp (some x) b = some x := rfl
@[simp] theorem orGrp_none_true : orGrp none true = some .grp := rfl
@[simp] theorem orGrp_none_false : orGrp none false = none := rfl

theorem orGrp_eq_some {o : Option Node} {b : Bool} {n : Node} (h : orGrp o b = some n) :
    o = some n ∨ (b = true ∧ n = .grp) := by
  cases o <;> cases b <;> simp_all

/-- point-wise description of the tree after `raw.copy` (`mv = false`) / `raw.move` (`mv = true`) -/
def Rebased (t t' : Tree) (src dst : Path) (mv : Bool) : Prop :=
  ∀ q, q ≠ [] → get? t' q = if dst <+: q then get? t (src ++ q.drop dst.length) else
    if mv = true ∧ src <+: q then none else orGrp (get? t q) (isMid [] dst q)

theorem rebased_of_copy {t t' : Tree} {src dst : Path} (h : rawCopy t src dst = .ok t') (hc : PClosed t) :
    Rebased t t' src dst false := by
  intro q hq
  rw [rawCopy_get? h hc q hq]
  by_cases h1 : dst <+: q
  · simp [h1]
  · simp only [h1, if_false, Bool.false_eq_true, false_and]
    cases get? t q <;> cases isMid [] dst q <;> rfl

theorem rebased_of_move {t t' : Tree} {src dst : Path} (h : rawMove t src dst = .ok t') (hc : PClosed t) :
    Rebased t t' src dst true := by
  intro q hq
  rw [rawMove_get? h hc q hq]
  by_cases h1 : dst <+: q
  · simp [h1]
  · by_cases h2 : src <+: q
    · simp [h1, h2]
    · simp only [h1, h2, if_false, and_false]
      cases get? t q <;> cases isMid [] dst q <;> rfl

theorem drop_append_self (a c : Path) : (a ++ c).drop a.length = c := by simp

theorem Rebased.below {t t' : Tree} {src dst : Path} {mv : Bool} (h : Rebased t t' src dst mv) (hd0 : dst ≠ [])
    (c : Path) : get? t' (dst ++ c) = get? t (src ++ c) := by
  rw [h _ (by simp [hd0]), if_pos (List.prefix_append _ _), drop_append_self]

theorem Rebased.keep {t t' : Tree} {src dst : Path} {mv : Bool} (h : Rebased t t' src dst mv) (hc : PClosed t)
    (hfree : get? t dst = none) {q : Path} {n : Node} (hq : get? t q = some n) (hns : ¬ (mv = true ∧ src <+: q)) :
    get? t' q = some n := by
  by_cases hq0 : q = []
  · subst hq0; simpa using hq
  · have hnd : ¬ dst <+: q := fun hp => by rw [none_below_free hc hfree hp] at hq; cases hq
    rw [h q hq0, if_neg hnd, if_neg hns, hq]; rfl

/-- how metadata directories below `dst` correspond to directories below `src` -/
structure DirCorr (src dst : Path) : Prop where
  fwd : ∀ c base m tail, isInternal base = false → dst ++ c = base ++ .metaDir m :: tail →
    ∃ bs ms, isInternal bs = false ∧ src ++ c = bs ++ .metaDir ms :: tail
  bwd : ∀ c bs ms tail, isInternal bs = false → src ++ c = bs ++ .metaDir ms :: tail →
    ∃ base m, isInternal base = false ∧ dst ++ c = base ++ .metaDir m :: tail

theorem snoc2_eq (a : Path) (k1 k2 : Key) : a ++ [k1, k2] = a ++ k1 :: [k2] := rfl

/-- the tree part of the invariant after re-rooting, and the attached objects of the new tree -/
theorem treeOK_rebase {e : Env} {t t' : Tree} {src dst : Path} {mv : Bool} {ex ex' : Path → Prop}
    (ht : TreeOKx e t ex) (hk' : KeysOK t') (hc' : PClosed t') (hreb : Rebased t t' src dst mv)
    (hd0 : dst ≠ []) (hfree : get? t dst = none)
    (hmid : ∀ q, isMid [] dst q = true → isInternal q = false)
    (hsobj : ∀ P r u, src ≠ P ++ [Key.obj r u]) (hdobj : ∀ P r u, dst ≠ P ++ [Key.obj r u])
    (hU : ∀ c n, get? t (src ++ c) = some n → UShape (dst ++ c) n)
    (hK : DirCorr src dst)
    (hD : ∀ base m, isInternal base = false → dst <+: base ++ [.metaDir m] →
      get? t' (base ++ [.metaDir m]) ≠ none → ¬ ex' (base ++ [.metaDir m]) →
      (m = "" ∨ ∃ v, get? t' (base ++ [.user m]) = some (.ds v)))
    (hS : ∀ base m, isInternal base = false → get? t (base ++ [.metaDir m]) ≠ none →
      ¬ dst <+: base ++ [.metaDir m] → ¬ (mv = true ∧ src <+: base ++ [.metaDir m]) →
      ¬ ex' (base ++ [.metaDir m]) →
      ¬ ex (base ++ [.metaDir m]) ∧ (m = "" ∨ ¬ (mv = true ∧ src <+: base ++ [.user m]))) :
    TreeOKx e t' ex' ∧
    (∀ p r u, ObjAt t' p r u ↔ ((dst <+: p ∧ ObjAt t (src ++ p.drop dst.length) r u) ∨
      (¬ dst <+: p ∧ ¬ (mv = true ∧ src <+: p) ∧ ObjAt t p r u))) := by
  have gd := hreb.below hd0
  -- lookups of reserved names elsewhere
  have go : ∀ q, isInternal q = true → ¬ dst <+: q → get? t' q = if mv = true ∧ src <+: q then none else get? t q := by
    intro q hq hnd
    have hq0 : q ≠ [] := by rintro rfl; simp [isInternal] at hq
    have hm : isMid [] dst q = false := by
      cases hm : isMid [] dst q
      · rfl
      · rw [hmid q hm] at hq; cases hq
    rw [hreb q hq0, if_neg hnd, hm]
    cases get? t q <;> rfl
  -- an object path is below `dst` (`src`) iff its directory is
  have hpre_obj : ∀ a : Path, (∀ P r u, a ≠ P ++ [Key.obj r u]) → ∀ P r u, a <+: P ++ [Key.obj r u] ↔ a <+: P :=
    fun a ha P r u => prefix_snoc_iff.trans ⟨fun h => h.resolve_left (ha P r u), Or.inr⟩
  have hobjpre := hpre_obj dst hdobj
  have hsrcpre := hpre_obj src hsobj
  have hobj : ∀ p r u, ObjAt t' p r u ↔ ((dst <+: p ∧ ObjAt t (src ++ p.drop dst.length) r u) ∨
      (¬ dst <+: p ∧ ¬ (mv = true ∧ src <+: p) ∧ ObjAt t p r u)) := by
    intro p r u
    constructor
    · rintro ⟨base, m, hb, rfl, hg⟩
      by_cases hpre : dst <+: base ++ [.metaDir m, .obj r u]
      · left
        refine ⟨hpre, ?_⟩
        obtain ⟨c, hc⟩ := hpre
        rw [← hc, drop_append_self]
        obtain ⟨bs, ms, hbs, hsc⟩ := hK.fwd c base m [.obj r u] hb hc
        rw [← hc, gd] at hg
        exact ⟨bs, ms, hbs, hsc, hg⟩
      · right
        rw [go _ (isInternal_metaDir base m _) hpre] at hg
        split_ifs at hg with hrm
        · exact absurd rfl hg
        · exact ⟨hpre, hrm, base, m, hb, rfl, hg⟩
    · rintro (⟨⟨c, rfl⟩, ho⟩ | ⟨hnd, hnr, base, m, hb, rfl, hg⟩)
      · rw [drop_append_self] at ho
        obtain ⟨bs, ms, hbs, hsc, hg⟩ := ho
        obtain ⟨base, m, hb, hdc⟩ := hK.bwd c bs ms [.obj r u] hbs hsc
        exact ⟨base, m, hb, hdc, by rw [gd]; exact hg⟩
      · exact ⟨base, m, hb, rfl, by rw [go _ (isInternal_metaDir base m _) hnd, if_neg hnr]; exact hg⟩
  -- every directory of the new tree shows the objects of a directory of the old one
  have hsrcdir : ∀ base m, isInternal base = false → get? t' (base ++ [.metaDir m]) ≠ none →
      ∃ bs ms, isInternal bs = false ∧ get? t (bs ++ [.metaDir ms]) ≠ none ∧
        ∀ r u, get? t' (base ++ [.metaDir m, .obj r u]) = get? t (bs ++ [.metaDir ms, .obj r u]) := by
    intro base m hb hg
    by_cases hpre : dst <+: base ++ [.metaDir m]
    · obtain ⟨c, hc⟩ := hpre
      obtain ⟨bs, ms, hbs, hsc⟩ := hK.fwd c base m [] hb hc
      refine ⟨bs, ms, hbs, by rw [← hsc, ← gd, hc]; exact hg, fun r u => ?_⟩
      rw [snoc2_assoc, ← hc, List.append_assoc, gd, ← List.append_assoc, hsc, ← snoc2_assoc]
    · rw [go _ (isInternal_metaDir base m []) hpre] at hg
      split_ifs at hg with hrm
      · exact absurd rfl hg
      · refine ⟨base, m, hb, hg, fun r u => ?_⟩
        rw [go _ (isInternal_metaDir base m _) (by rw [snoc2_assoc, hobjpre]; exact hpre),
          if_neg (by rw [snoc2_assoc, hsrcpre]; exact hrm)]
  refine ⟨⟨hk', hc', ?_, ?_, ?_, ?_, ?_⟩, hobj⟩
  · intro q n hq hqt hg
    by_cases hpre : dst <+: q
    · obtain ⟨c, rfl⟩ := hpre
      rw [gd] at hg
      exact hU c n hg
    · rw [hreb q hq, if_neg hpre] at hg
      split_ifs at hg
      rcases orGrp_eq_some hg with hx | ⟨hm, rfl⟩
      · exact ht.ushape q n hq hqt hx
      · exact .user q _ (hmid q hm) (Or.inl rfl)
  · -- owning dataset
    intro base m hb hg hne
    by_cases hpre : dst <+: base ++ [.metaDir m]
    · exact hD base m hb hpre hg hne
    · rw [go _ (isInternal_metaDir base m []) hpre] at hg
      split_ifs at hg with hrm
      · exact absurd rfl hg
      · obtain ⟨hnex, hkeep⟩ := hS base m hb hg hpre hrm hne
        rcases ht.host_ds base m hb hg hnex with h | ⟨v, hv⟩
        · exact Or.inl h
        · rcases hkeep with h | hkeep
          · exact Or.inl h
          · exact Or.inr ⟨v, hreb.keep ht.pclosed hfree hv hkeep⟩
  · -- directories are not empty
    intro base m hb hg
    obtain ⟨bs, ms, hbs, hgs, tr⟩ := hsrcdir base m hb hg
    obtain ⟨r, u, hru⟩ := ht.host_obj bs ms hbs hgs
    exact ⟨r, u, by rw [tr]; exact hru⟩
  · intro p r u ho
    rcases (hobj p r u).mp ho with ⟨-, h⟩ | ⟨-, -, h⟩ <;> exact ht.objenv _ r u h
  · -- one object per schema name and directory
    intro base m r u r' u' hb hg1 hg2 hn
    have hdir := hc' (base ++ [.metaDir m]) (.obj r u) (by simpa using hg1)
    obtain ⟨bs, ms, hbs, -, tr⟩ := hsrcdir base m hb (by rw [hdir]; simp)
    rw [tr] at hg1 hg2
    exact ht.onename bs ms r u r' u' hbs hg1 hg2 hn

end MetadorModel.Container
