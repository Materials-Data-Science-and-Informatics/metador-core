import MetadorModel.Model.Hashsums
import Mathlib.Data.List.Infix
/-!
Helper lemmas for `Model/Hashsums.lean`, part 1: Python string order, laws of the canonical
dict representation (`dget`/`dset`), commutation of the dict-building tail `put`.
-/
namespace MetadorModel.Hashsums
open MetadorModel.Bytes

/-- `strLt` is the lexicographic order of lists of characters -/
theorem strLt_iff : ∀ a b : Str, strLt a b = true ↔ a < b
  | [], [] => by simp [strLt]
  | [], _ :: _ => by simp [strLt]
  | _ :: _, [] => by simp [strLt]
  | x :: a, y :: b => by
    rw [List.cons_lt_cons_iff, ← strLt_iff a b, strLt]
    split_ifs with h1 h2
    · simp [h1]
    · subst h2; simp
    · simp [h1, h2]

theorem strLt_irrefl (a : Str) : strLt a a = false :=
  Bool.eq_false_iff.mpr fun h => List.lt_irrefl a ((strLt_iff a a).mp h)

theorem strLt_trans (a b c : Str) (h1 : strLt a b = true) (h2 : strLt b c = true) : strLt a c = true :=
  (strLt_iff a c).mpr (List.lt_trans ((strLt_iff a b).mp h1) ((strLt_iff b c).mp h2))

theorem strLt_total (a b : Str) (h : a ≠ b) : strLt a b = true ∨ strLt b a = true := by
  rw [strLt_iff, strLt_iff]
  by_contra hc
  rw [not_or] at hc
  exact h (List.le_antisymm hc.2 hc.1)

theorem strLt_asymm (a b : Str) (h : strLt a b = true) : strLt b a = false :=
  Bool.eq_false_iff.mpr fun h' => List.lt_asymm ((strLt_iff a b).mp h) ((strLt_iff b a).mp h')

theorem strLt_ne (a b : Str) (h : strLt a b = true) : a ≠ b := by
  intro e; subst e; rw [strLt_irrefl] at h; cases h

theorem dget_dset_same (k : Name) (v : HT) : ∀ d, dget k (dset k v d) = some v
  | [] => by simp [dset, dget]
  | (k', v') :: r => by
    unfold dset
    split_ifs <;> simp [dget, *, dget_dset_same k v r]

theorem dget_dset_ne (k k' : Name) (v : HT) (hne : k ≠ k') : ∀ d, dget k' (dset k v d) = dget k' d
  | [] => by simp [dset, dget, Ne.symm hne]
  | (k'', v'') :: r => by
    unfold dset
    split_ifs with h1 h2
    · simp [dget, Ne.symm hne]
    · subst h2; simp [dget, Ne.symm hne]
    · simp [dget, dget_dset_ne k k' v hne r]

theorem dset_dset_same (k : Name) (v₁ v₂ : HT) : ∀ d, dset k v₂ (dset k v₁ d) = dset k v₂ d
  | [] => by simp [dset, strLt_irrefl]
  | (k', v') :: r => by
    simp only [dset]
    split_ifs with h1 h2
    · simp [dset, strLt_irrefl]
    · simp [dset, strLt_irrefl]
    · simp only [dset, if_neg h1, if_neg h2]; rw [dset_dset_same k v₁ v₂ r]

/-- stores under two keys commute; by symmetry it is enough to look at keys in order -/
theorem dset_comm_lt {k₁ k₂ : Name} (v₁ v₂ : HT) (h : strLt k₁ k₂ = true) :
    ∀ d, dset k₁ v₁ (dset k₂ v₂ d) = dset k₂ v₂ (dset k₁ v₁ d)
  | [] => by simp [dset, h, strLt_asymm _ _ h, (strLt_ne _ _ h).symm]
  | (k', v') :: r => by
    have hne := (strLt_ne _ _ h).symm
    by_cases h2 : strLt k₂ k' = true
    · simp [dset, strLt_trans _ _ _ h h2, h2, h, strLt_asymm _ _ h, hne]
    · by_cases e2 : k₂ = k'
      · subst e2; simp [dset, h, strLt_irrefl, strLt_asymm _ _ h, hne]
      · by_cases h1 : strLt k₁ k' = true
        · simp [dset, h1, h2, e2, strLt_asymm _ _ h, hne]
        · by_cases e1 : k₁ = k'
          · subst e1; simp [dset, h2, e2, strLt_irrefl]
          · simp [dset, h1, h2, e1, e2, dset_comm_lt v₁ v₂ h r]

theorem dset_comm (k₁ k₂ : Name) (v₁ v₂ : HT) (hne : k₁ ≠ k₂) (d : List (Name × HT)) :
    dset k₁ v₁ (dset k₂ v₂ d) = dset k₂ v₂ (dset k₁ v₁ d) :=
  (strLt_total k₁ k₂ hne).elim (fun h => dset_comm_lt v₁ v₂ h d) fun h => (dset_comm_lt v₂ v₁ h d).symm

/-- arguments of `put` for one entry: the directory segments and the optional leaf -/
abbrev Item := List Name × Option (Name × Str)

/-- the path an item touches last -/
def Item.full (i : Item) : Path :=
  match i.2 with
  | none => i.1
  | some kv => i.1 ++ [kv.1]

/-- the leaf of `i` (if any) does not lie on the path of `j` -/
def NoClash (i j : Item) : Prop := ∀ kv, i.2 = some kv → ¬ (i.1 ++ [kv.1]) <+: j.full

def Compat (i j : Item) : Prop := NoClash i j ∧ NoClash j i

theorem Compat.symm {i j : Item} (h : Compat i j) : Compat j i := ⟨h.2, h.1⟩

theorem ok_bind (t : HT) (f : HT → Except Err HT) : (Except.ok t >>= f) = f t := rfl

/-- two steps that can fail in one way only may be swapped -/
theorem bind_comm {x y : Except Err HT} {e₀ : Err} (hx : ∀ e, x = .error e → e = e₀)
    (hy : ∀ e, y = .error e → e = e₀) (F : HT → HT → Except Err HT) :
    (x >>= fun a => y >>= fun b => F a b) = y >>= fun b => x >>= fun a => F a b := by
  cases x with
  | ok a => rfl
  | error e =>
    cases y with
    | ok b => rfl
    | error e' => rw [hx e rfl, hy e' rfl]; rfl

theorem put_nil_none (t : HT) : put t [] none = .ok t := by
  cases t <;> rfl

theorem bind_put_nil (x : Except Err HT) : (x >>= fun t => put t [] none) = x := by
  cases x with
  | error e => rfl
  | ok t => exact put_nil_none t

theorem put_nil_some (d : List (Name × HT)) (k : Name) (v : Str) :
    put (.node d) [] (some (k, v)) = .ok (.node (dset k (.leaf v) d)) := rfl

theorem put_cons_node (d : List (Name × HT)) (s : Name) (r : List Name) (lf : Option (Name × Str)) :
    put (.node d) (s :: r) lf =
      put ((dget s d).getD (.node [])) r lf >>= fun c => .ok (.node (dset s c d)) := by
  simp only [put]
  cases put ((dget s d).getD (.node [])) r lf <;> rfl

theorem put_cons_leaf (x : Str) (s : Name) (r : List Name) (lf : Option (Name × Str)) :
    put (.leaf x) (s :: r) lf = .error .typeError := rfl

theorem put_err : ∀ {segs : List Name} {t : HT} {lf : Option (Name × Str)} (e : Err),
    put t segs lf = .error e → e = .typeError
  | [], t, none, e, h => by rw [put_nil_none] at h; cases h
  | [], .leaf _, some _, e, h => by cases h; rfl
  | [], .node d, some (k, v), e, h => by cases h
  | _ :: _, .leaf _, _, e, h => by cases h; rfl
  | s :: r, .node d, lf, e, h => by
    rw [put_cons_node] at h
    cases h1 : put ((dget s d).getD (.node [])) r lf with
    | error e' => rw [h1] at h; cases h; exact put_err e h1
    | ok c => rw [h1] at h; cases h

theorem compat_tail {s : Name} {ra rb : List Name} {la lb : Option (Name × Str)}
    (h : Compat (s :: ra, la) (s :: rb, lb)) : Compat (ra, la) (rb, lb) := by
  constructor
  · intro kv hkv hp
    refine h.1 kv hkv ?_
    cases lb <;> simp_all [Item.full, List.cons_prefix_cons]
  · intro kv hkv hp
    refine h.2 kv hkv ?_
    cases la <;> simp_all [Item.full, List.cons_prefix_cons]

theorem put_comm_nil (k : Name) (v : Str) (b : List Name) (lb : Option (Name × Str))
    (h : Compat ([], some (k, v)) (b, lb)) (t : HT) :
    (put t [] (some (k, v)) >>= fun t' => put t' b lb) =
    put t b lb >>= fun t' => put t' [] (some (k, v)) := by
  cases t with
  | leaf x =>
    cases b with
    | nil => cases lb <;> rfl
    | cons s r => rfl
  | node d =>
    cases b with
    | nil =>
      cases lb with
      | none => rfl
      | some kv' =>
        obtain ⟨k', v'⟩ := kv'
        have hne : k ≠ k' := fun e => h.1 (k, v) rfl (by simp [Item.full, e])
        exact congrArg (fun d => Except.ok (HT.node d)) (dset_comm k' k _ _ (Ne.symm hne) d)
    | cons s r =>
      have hne : k ≠ s := fun e => h.1 (k, v) rfl (by cases lb <;> simp [Item.full, List.cons_prefix_cons, e])
      simp only [put_nil_some, ok_bind, put_cons_node, bind_assoc, dget_dset_ne k s _ hne, dset_comm k s _ _ hne]

theorem put_comm : ∀ (a : List Name) (la : Option (Name × Str)) (b : List Name)
    (lb : Option (Name × Str)), Compat (a, la) (b, lb) → ∀ t : HT,
    (put t a la >>= fun t' => put t' b lb) = put t b lb >>= fun t' => put t' a la
  | [], none, b, lb, _, t => by
    rw [put_nil_none, ok_bind, bind_put_nil]
  | [], some (k, v), b, lb, h, t => put_comm_nil k v b lb h t
  | s :: ra, la, [], none, _, t => by
    rw [put_nil_none, ok_bind, bind_put_nil]
  | s :: ra, la, [], some (k, v), h, t => (put_comm_nil k v (s :: ra) la h.symm t).symm
  | s :: ra, la, s' :: rb, lb, h, .leaf x => rfl
  | s :: ra, la, s' :: rb, lb, h, .node d => by
    rw [put_cons_node, put_cons_node, bind_assoc, bind_assoc]
    by_cases hs : s = s'
    · -- the same child: both orders store what the two steps make of it
      subst hs
      simp only [ok_bind, put_cons_node, dget_dset_same, Option.getD_some, dset_dset_same]
      rw [← bind_assoc, ← bind_assoc, put_comm ra la rb lb (compat_tail h)]
    · -- different children: the stores commute
      simp only [ok_bind, put_cons_node, dget_dset_ne s s' _ hs, dget_dset_ne s' s _ (Ne.symm hs)]
      rw [bind_comm (fun e => put_err e) (fun e => put_err e)]
      simp only [dset_comm s s' _ _ hs]

end MetadorModel.Hashsums
