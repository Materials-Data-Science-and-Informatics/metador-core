import MetadorModel.Model.RecordKw
import MetadorModel.Proofs.RecordDisk
/-! The calls with optional keyword arguments (`Model/RecordKw.lean`) called with the default
values are the calls of the base model. The lemmas about `_open` and the constructors are
therefore stated for the keyworded calls, for every value of the keywords, and reach the plain
calls through these equations. -/
namespace MetadorModel.Record
open MetadorModel.FindFiles

theorem openFilesK_false (d : Disk) (paths : List Name) (rw : Bool) :
    openFilesK d paths rw false = openFiles d paths rw := by
  simp only [openFilesK, openFiles, Bool.not_false, Bool.true_and]
  rfl

theorem loadManifestK_none (d : Disk) (files : List (Name × UB)) :
    loadManifestK d files none = loadManifest d files := by
  simp only [loadManifestK, loadManifest, Option.getD_none]
  rfl

theorem openExistingK_default (s : State) (c : Bool) (paths : List Name) (m : Mode) :
    openExistingK s c paths m {} = openExisting s c paths m := by
  simp only [openExistingK, openExisting, openFilesK_false, loadManifestK_none]
  rfl

theorem openRecK_default (s : State) (c : Bool) (t : Target) (m : Mode) :
    openRecK s c t m {} = openRec s c t m := by
  simp only [openRecK, openRec, openExistingK_default]
  rfl

/-- the plain class never looks at `manifest_file=` -/
theorem openRecK_plain_ignores_mfile (s : State) (t : Target) (m : Mode) (kw : OpenKw) :
    openRecK s false t m kw = openRecK s false t m { kw with mfile := none } := by
  simp [openRecK, openExistingK]

/-- for the manifest class the keyword changes nothing the file-level model can see -/
theorem commitPatchExts_mf (s : State) (h : s.h.mfcls = true) : commitPatchExts s = commitPatch s := by
  simp [commitPatchExts, commitPatch, h]

theorem runK_base (ops : List Op) (s : State) : runK s (ops.map OpK.base) = run s ops := by
  induction ops generalizing s with
  | nil => rfl
  | cons o r ih => exact ih _

end MetadorModel.Record
