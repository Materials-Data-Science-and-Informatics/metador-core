import MetadorModel.Proofs.ContainerPend
/-!
# `TOCLinks.find_missing` and the renaming of an unlinked copy (`repair_missing`, `update=False`)
-/
namespace MetadorModel.Container

/-- path of a metadata object: inside a metadata directory, not the directory itself -/
def isObjPath (q : Path) : Bool := inMeta q && !isMetaBase q

/-- the metadata objects strictly below `p`, in listing order -/
def objsBelow (t : Tree) (p : Path) : List Path := ((descendants t p).map Prod.fst).filter isObjPath

theorem foldlM_missing (f : List Path → Path × Node → Except Err (List Path)) :
    ∀ (l : List (Path × Node)),
      (∀ x ∈ l, ∀ acc, f acc x = .ok (if isObjPath x.1 then acc ++ [x.1] else acc)) →
      ∀ acc, l.foldlM f acc = .ok (acc ++ (l.map Prod.fst).filter isObjPath)
  | [], _, acc => by simp [pure, Except.pure]
  | x :: l, h, acc => by
    rw [List.foldlM_cons, h x (by simp) acc]
    show l.foldlM f _ = _
    rw [foldlM_missing f l (fun y hy => h y (List.mem_cons_of_mem _ hy))]
    by_cases hx : isObjPath x.1 = true
    · simp [hx]
    · simp [hx]

theorem inMeta_internal {q : Path} (h : inMeta q = true) : isInternal q = true := by
  simp only [inMeta, isInternal, List.any_eq_true] at h ⊢
  obtain ⟨k, hk, hm⟩ := h
  refine ⟨k, hk, ?_⟩
  cases k <;> simp_all [Key.isMetaDir, Key.internal]

theorem objPath_isObjPath (base : Path) (m : String) (r : SRef) (u : Nat) :
    isObjPath (base ++ [.metaDir m, .obj r u]) = true := by
  simp [isObjPath, inMeta, isMetaBase, Key.isMetaDir]

theorem objOfPath_obj (base : Path) (m : String) (r : SRef) (u : Nat) :
    objOfPath (base ++ [.metaDir m, .obj r u]) = some (r, u) := by
  simp [objOfPath]

theorem objAt_of_isObjPath {e : Env} {t : Tree} {ex : Path → Prop} (ht : TreeOKx e t ex) {q : Path} {n : Node}
    (hq0 : q ≠ []) (hqt : q.head? ≠ some .toc) (hg : get? t q = some n) (ho : isObjPath q = true) :
    ∃ r u, ObjAt t q r u := by
  simp only [isObjPath, Bool.and_eq_true, Bool.not_eq_true'] at ho
  have := ht.ushape q n hq0 hqt hg
  cases this with
  | user q n hi _ => rw [inMeta_internal ho.1] at hi; cases hi
  | metaDir base m hb => simp [isMetaBase, Key.isMetaDir] at ho
  | obj base m r u tok hb => exact ⟨r, u, base, m, hb, rfl, by rw [hg]; simp⟩

theorem mem_objsBelow {e : Env} {t : Tree} {ex : Path → Prop} (ht : TreeOKx e t ex) {p : Path} (hp0 : p ≠ [])
    (hpt : p.head? ≠ some .toc) (q : Path) :
    q ∈ objsBelow t p ↔ ((∃ r u, ObjAt t q r u) ∧ p <+: q ∧ q ≠ p) := by
  simp only [objsBelow, List.mem_filter, List.mem_map]
  constructor
  · rintro ⟨⟨⟨q', n⟩, hm, rfl⟩, ho⟩
    obtain ⟨hg, hpre, hne⟩ := (mem_descendants ht.keys).mp hm
    obtain ⟨hq0, hqt⟩ := ne_toc_of_prefix hp0 hpt hpre
    exact ⟨objAt_of_isObjPath ht hq0 hqt hg ho, hpre, hne⟩
  · rintro ⟨⟨r, u, base, m, hb, rfl, hg⟩, hpre, hne⟩
    cases hx : get? t (base ++ [.metaDir m, .obj r u]) with
    | none => exact absurd hx hg
    | some n => exact ⟨⟨(_, n), (mem_descendants ht.keys).mpr ⟨hx, hpre, hne⟩, rfl⟩, objPath_isObjPath base m r u⟩

theorem objsBelow_nodup {t : Tree} (hk : KeysOK t) (p : Path) : (objsBelow t p).Nodup := by
  unfold objsBelow descendants
  exact (hk.nodup.sublist ((List.filter_sublist).map Prod.fst)).sublist List.filter_sublist

/-- `find_missing(p)` when none of the objects below `p` is linked from the TOC under its own path:
all of them are reported -/
theorem findMissing_all {e : Env} {s : St} {ex : Path → Prop} {L : Path → SRef → Nat → Prop}
    (ht : TreeOKx e s.raw ex) (hc : TocOK e s L) {p : Path} (hp0 : p ≠ []) (hpt : p.head? ≠ some .toc)
    (hunl : ∀ q r u, ObjAt s.raw q r u → p <+: q → ∀ p0 r0, L p0 r0 u → p0 ≠ q) :
    findMissing s p = .ok (objsBelow s.raw p) := by
  unfold findMissing
  refine (foldlM_missing _ (descendants s.raw p) ?_ []).trans (by simp [objsBelow])
  · rintro ⟨q, n⟩ hx acc
    obtain ⟨hg, hpre, hne⟩ := (mem_descendants ht.keys).mp hx
    simp only
    by_cases h1 : inMeta q = true
    · by_cases h2 : isMetaBase q = true
      · simp [h1, h2, isObjPath]
      · have ho : isObjPath q = true := by simp [isObjPath, h1, h2]
        obtain ⟨hq0, hqt⟩ := ne_toc_of_prefix hp0 hpt hpre
        obtain ⟨r, u, hobj⟩ := objAt_of_isObjPath ht hq0 hqt hg ho
        have hobj' := hobj
        obtain ⟨base, m, hb, rfl, -⟩ := hobj'
        simp only [h1, Bool.not_true, Bool.false_eq_true, if_false, h2, objOfPath_obj, ho, if_true]
        cases htp : alGet s.c.tocPath u with
        | none => simp
        | some tp =>
          obtain ⟨p0, r0, hL, rfl⟩ := (hc.lcache u tp).mp htp
          have hres : linkResolve s u = .ok p0 := by
            simp [linkResolve, htp, hc.toc.link_some p0 r0 u hL]
          have hne' := hunl _ r u hobj hpre p0 r0 hL
          simp [hres, hne']
    · simp [h1, isObjPath]

/-- `raw.move` of the object `(r, u)` to the free name `(r, u')` in the same directory -/
theorem renameObj_spec {e : Env} {t : Tree} (ht : TreeOK e t) {base : Path} {m : String} {r : SRef} {u u' : Nat}
    (hb : isInternal base = false) (hex : get? t (base ++ [.metaDir m, .obj r u]) ≠ none)
    (hfree : get? t (base ++ [.metaDir m, .obj r u']) = none) :
    ∃ t', rawMove t (base ++ [.metaDir m, .obj r u]) (base ++ [.metaDir m, .obj r u']) = .ok t' ∧ TreeOK e t' ∧
      (∀ q, q.head? = some .toc → get? t' q = get? t q) ∧
      (∀ p r' u'', ObjAt t' p r' u'' ↔ ((ObjAt t p r' u'' ∧ p ≠ base ++ [.metaDir m, .obj r u]) ∨
        (p = base ++ [.metaDir m, .obj r u'] ∧ r' = r ∧ u'' = u'))) ∧
      (∀ q, q ≠ base ++ [.metaDir m, .obj r u] → q ≠ base ++ [.metaDir m, .obj r u'] → get? t' q = get? t q) := by
  obtain ⟨tok, htok⟩ := ht.obj_data hb hex
  have hdirg : get? t (base ++ [.metaDir m]) = some .grp :=
    ht.pclosed (base ++ [.metaDir m]) (.obj r u) (by simpa using hex)
  -- nothing lives below an object
  have hleaf : ∀ c, c ≠ [] → get? t (base ++ [.metaDir m] ++ [.obj r u] ++ c) = none := by
    intro c hc
    by_contra hg
    cases c with
    | nil => exact hc rfl
    | cons x c =>
      have := (below_metaDir ht hb (k := .obj r u) (rest := x :: c) (by simpa using hg)).1
      simp at this
  obtain ⟨t', hmv, g⟩ := rawMove_sibling ht.pclosed (d := base ++ [.metaDir m]) (k := .obj r u) (k' := .obj r u')
    (by rw [← snoc2_assoc]; exact hex) (by rw [← snoc2_assoc]; exact hfree) hleaf
  simp only [← snoc2_assoc] at hmv g
  set p := base ++ [.metaDir m, .obj r u] with hp
  set new := base ++ [.metaDir m, .obj r u'] with hnew
  have hframe : ∀ q, q ≠ p → q ≠ new → get? t' q = get? t q := fun q h1 h2 => by
    rw [g, if_neg h2, if_neg h1]
  have htoc : ∀ q, q.head? = some .toc → get? t' q = get? t q := fun q hq =>
    hframe q (by rintro rfl; exact objPath_head hb hq) (by rintro rfl; exact objPath_head hb hq)
  have hobj : ∀ q r' u'', ObjAt t' q r' u'' ↔ ((ObjAt t q r' u'' ∧ q ≠ p) ∨ (q = new ∧ r' = r ∧ u'' = u')) := by
    intro q r' u''
    constructor
    · rintro ⟨b', m', hb', rfl, hg⟩
      rw [g] at hg
      split_ifs at hg with h1 h2
      · right
        have := (snoc2_inj (h1.trans hnew)).2.2
        simp at this
        exact ⟨h1, this.1, this.2⟩
      · exact absurd rfl hg
      · exact Or.inl ⟨⟨b', m', hb', rfl, hg⟩, h2⟩
    · rintro (⟨⟨b', m', hb', rfl, hg⟩, hqp⟩ | ⟨rfl, rfl, rfl⟩)
      · refine ⟨b', m', hb', rfl, ?_⟩
        have e1 : b' ++ [Key.metaDir m', Key.obj r' u''] ≠ new := by
          intro h; rw [h, hfree] at hg; exact hg rfl
        rw [g, if_neg e1, if_neg hqp]; exact hg
      · exact ⟨base, m, hb, rfl, by rw [g, if_pos rfl]; exact hex⟩
  -- the change is confined to the directory, which keeps its owner and is not empty
  have hbelow : ∀ r' u'', base ++ [.metaDir m] <+: base ++ [.metaDir m, .obj r' u''] := fun r' u'' =>
    ⟨[.obj r' u''], by simp⟩
  refine ⟨t', hmv, treeOK_dir ht (rawMove_keys hmv ht.keys ht.pclosed) (rawMove_pclosed hmv ht.pclosed) hb
    (fun q _ hq => hframe q (fun h => hq (h ▸ hbelow r u)) (fun h => hq (h ▸ hbelow r u')))
    (fun k rest n hg => ?_) (fun h => ht.host_ds base m hb (by rw [hdirg]; simp) h)
    (fun _ => ⟨r, u', by rw [g, if_pos rfl]; exact hex⟩) (fun r1 u1 r2 u2 hg1 hg2 hn => ?_), htoc, hobj, hframe⟩
  · rw [g] at hg
    split_ifs at hg with h1 h2
    · obtain ⟨i, hi⟩ := ht.objenv p r u ⟨base, m, hb, rfl, hex⟩
      have := List.append_cancel_left (h1.trans hnew)
      simp only [List.cons.injEq] at this
      exact Or.inr ⟨r, u', tok, i, this.2.1, this.2.2, Option.some.inj (hg.symm.trans htok), hi⟩
    · exact Or.inl hg
  · -- an old object with the schema name of the renamed one is the renamed one
    have o1 : ObjAt t' (base ++ [.metaDir m, .obj r1 u1]) r1 u1 := ⟨base, m, hb, rfl, hg1⟩
    have o2 : ObjAt t' (base ++ [.metaDir m, .obj r2 u2]) r2 u2 := ⟨base, m, hb, rfl, hg2⟩
    rcases (hobj _ _ _).mp o1 with ⟨⟨_, _, _, _, h1⟩, hp1⟩ | ⟨-, rfl, rfl⟩ <;>
      rcases (hobj _ _ _).mp o2 with ⟨⟨_, _, _, _, h2⟩, hp2⟩ | ⟨-, rfl, rfl⟩
    · exact ht.onename base m r1 u1 r2 u2 hb h1 h2 hn
    · obtain ⟨rfl, rfl⟩ := ht.onename base m r1 u1 r2 u hb h1 hex hn
      exact absurd rfl hp1
    · obtain ⟨rfl, rfl⟩ := ht.onename base m r2 u2 r1 u hb h2 hex hn.symm
      exact absurd rfl hp2
    · exact ⟨rfl, rfl⟩

end MetadorModel.Container
