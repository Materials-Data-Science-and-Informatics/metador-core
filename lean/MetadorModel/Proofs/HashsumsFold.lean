import MetadorModel.Proofs.HashsumsDict
import Mathlib.Data.List.Perm.Basic
/-!
Helper lemmas for `Model/Hashsums.lean`, part 2: the sequence of dict-building tails
(`putAll`) is invariant under permutation of compatible items; what a reader finds in the
result (`putAll_spec`).
-/
namespace MetadorModel.Hashsums
open MetadorModel.Bytes

/-- the dict-building tails of all entries, one after the other -/
def putAll : HT → List Item → Except Err HT
  | t, [] => .ok t
  | t, i :: r => put t i.1 i.2 >>= fun t' => putAll t' r

theorem putAll_perm {l₁ l₂ : List Item} (hp : l₁.Perm l₂) :
    l₁.Pairwise Compat → ∀ t, putAll t l₁ = putAll t l₂ := by
  induction hp with
  | nil => intro _ t; rfl
  | cons x _ ih =>
    intro hw t
    simp only [putAll]
    exact bind_congr fun t' => ih (List.pairwise_cons.mp hw).2 t'
  | swap x y l =>
    intro hw t
    have hxy : Compat y x := by
      have := (List.pairwise_cons.mp hw).1 x (by simp)
      exact this
    simp only [putAll]
    rw [← bind_assoc, ← bind_assoc, put_comm y.1 y.2 x.1 x.2 hxy t]
  | trans h₁ _ ih₁ ih₂ =>
    intro hw t
    rw [ih₁ hw t, ih₂ ((h₁.pairwise_iff (fun {_ _} h => Compat.symm h)).mp hw) t]

theorem putAll_append (l : List Item) (i : Item) : ∀ t,
    putAll t (l ++ [i]) = putAll t l >>= fun t' => put t' i.1 i.2 := by
  induction l with
  | nil =>
    intro t
    simp only [List.nil_append, putAll, ok_bind]
    cases put t i.1 i.2 <;> rfl
  | cons j r ih =>
    intro t
    simp only [List.cons_append, putAll]
    rw [bind_assoc]
    exact bind_congr fun t' => ih t'

@[simp] theorem obsAt_nil_node (d : List (Name × HT)) : (HT.node d).obsAt [] = some .dict := rfl
@[simp] theorem obsAt_nil_leaf (x : Str) : (HT.leaf x).obsAt [] = some (.str x) := rfl
@[simp] theorem obsAt_cons_leaf (x : Str) (s : Name) (r : Path) : (HT.leaf x).obsAt (s :: r) = none := rfl

theorem obsAt_cons_node (d : List (Name × HT)) (s : Name) (r : Path) :
    (HT.node d).obsAt (s :: r) = match dget s d with
      | none => none
      | some c => c.obsAt r := by
  simp only [HT.obsAt, HT.get]
  cases dget s d <;> rfl

/-- the observation at `p` after `put _ segs lf`, given the observation before -/
def afterPut (old : Option Obs) (segs : List Name) (lf : Option (Name × Str)) (p : Path) :
    Option Obs :=
  if p <+: segs then some .dict
  else match lf with
    | none => old
    | some (k, v) =>
      if p = segs ++ [k] then some (.str v)
      else if (segs ++ [k]) <+: p then none else old

theorem afterPut_dir {old : Option Obs} {segs : List Name} {lf : Option (Name × Str)} {p : Path}
    (h : p <+: segs) : afterPut old segs lf p = some .dict :=
  if_pos h

theorem obsAt_dset (s : Name) (c : HT) (d : List (Name × HT)) (a : Name) (r : Path) :
    (HT.node (dset s c d)).obsAt (a :: r) = if a = s then c.obsAt r else (HT.node d).obsAt (a :: r) := by
  rw [obsAt_cons_node, obsAt_cons_node]
  split_ifs with h
  · rw [h, dget_dset_same]
  · rw [dget_dset_ne s a c (Ne.symm h)]

/-- below a key, what is there — or, for a key that is new, the empty dict with nothing in it -/
theorem obsAt_getD (d : List (Name × HT)) (a : Name) (r : Path) :
    ((dget a d).getD (.node [])).obsAt r =
      if r = [] ∧ dget a d = none then some .dict else (HT.node d).obsAt (a :: r) := by
  rw [obsAt_cons_node]
  cases dget a d with
  | some c => simp
  | none => cases r <;> simp [HT.obsAt, HT.get, HT.obs, dget]

theorem afterPut_cons (old : Option Obs) (s a : Name) (rest r : Path) (lf : Option (Name × Str)) :
    afterPut old (s :: rest) lf (a :: r) = if a = s then afterPut old rest lf r else old := by
  split_ifs with h
  · subst h
    simp only [afterPut, List.cons_prefix_cons, true_and, List.cons_append, List.cons.injEq]
  · simp only [afterPut, List.cons_prefix_cons, h, false_and, List.cons_append, List.cons.injEq, if_false,
      Ne.symm h]
    cases lf <;> rfl

theorem afterPut_nil_cons (old : Option Obs) (k : Name) (v : Str) (a : Name) (r : Path) :
    afterPut old [] (some (k, v)) (a :: r) = if a = k then (HT.leaf v).obsAt r else old := by
  split_ifs with h
  · subst h
    cases r <;> simp [afterPut, List.cons_prefix_cons]
  · simp [afterPut, h, List.cons_prefix_cons, Ne.symm h]

theorem put_obs : ∀ (segs : List Name) (t : HT) (lf : Option (Name × Str)),
    (∀ q x, q <+: segs → t.obsAt q ≠ some (.str x)) →
    ∃ t', put t segs lf = .ok t' ∧ ∀ p, t'.obsAt p = afterPut (t.obsAt p) segs lf p
  | [], .leaf x, lf, h => absurd rfl (h [] x (List.prefix_refl _))
  | [], .node d, none, _ => ⟨.node d, rfl, fun p => by cases p <;> simp [afterPut]⟩
  | [], .node d, some (k, v), _ =>
    ⟨.node (dset k (.leaf v) d), rfl, fun p => by
      cases p with
      | nil => rfl
      | cons a r => rw [obsAt_dset, afterPut_nil_cons]⟩
  | s :: rest, .leaf x, lf, h => absurd rfl (h [] x List.nil_prefix)
  | s :: rest, .node d, lf, h => by
    have hc : ∀ q x, q <+: rest → ((dget s d).getD (.node [])).obsAt q ≠ some (.str x) := by
      intro q x hq
      rw [obsAt_getD]
      split_ifs
      · nofun
      · exact h (s :: q) x (List.cons_prefix_cons.mpr ⟨rfl, hq⟩)
    obtain ⟨c', hput, hobs⟩ := put_obs rest ((dget s d).getD (.node [])) lf hc
    refine ⟨.node (dset s c' d), by rw [put_cons_node, hput]; rfl, fun p => ?_⟩
    cases p with
    | nil => rfl
    | cons a r =>
      rw [obsAt_dset, afterPut_cons]
      split_ifs with ha
      · subst ha
        rw [hobs r]
        by_cases hr : r <+: rest
        · rw [afterPut_dir hr, afterPut_dir hr]
        · rw [obsAt_getD, if_neg fun e : r = [] ∧ _ => hr (e.1 ▸ List.nil_prefix)]
      · rfl

theorem prefix_full_iff (i : Item) (p : Path) :
    p <+: i.full ↔ p <+: i.1 ∨ ∃ kv, i.2 = some kv ∧ p = i.1 ++ [kv.1] := by
  obtain ⟨a, la⟩ := i
  cases la with
  | none => simp [Item.full]
  | some kv =>
    simp only [Item.full, Option.some.injEq, exists_eq_left']
    rw [List.prefix_concat_iff]
    tauto

theorem full_of_some {i : Item} {kv : Name × Str} (h : i.2 = some kv) : i.full = i.1 ++ [kv.1] := by
  simp only [Item.full, h]

theorem prefix_full_of_dir {i : Item} {p : Path} (h : p <+: i.1) : p <+: i.full :=
  (prefix_full_iff i p).mpr (Or.inl h)

/-- away from the item nothing changes, provided nothing was there or the place is not below the
item's leaf -/
theorem afterPut_old {old : Option Obs} {segs : List Name} {lf : Option (Name × Str)} {p : Path}
    (h1 : ¬ p <+: Item.full (segs, lf))
    (h2 : old = none ∨ ∀ kv, lf = some kv → ¬ (segs ++ [kv.1]) <+: p) :
    afterPut old segs lf p = old := by
  rw [prefix_full_iff] at h1
  rw [afterPut.eq_def, if_neg fun h => h1 (Or.inl h)]
  cases lf with
  | none => rfl
  | some kv =>
    refine (if_neg fun h => h1 (Or.inr ⟨kv, rfl, h⟩)).trans ?_
    split_ifs with h
    · exact (h2.resolve_right fun h2 => h2 kv rfl h).symm
    · rfl

/-- What the result of all `put`s holds, for pairwise compatible items:
the leaf values at the leaf paths, dicts at every prefix of an item's directory path, nothing
anywhere else. -/
structure Spec (is : List Item) (t : HT) : Prop where
  leaf : ∀ i ∈ is, ∀ kv, i.2 = some kv → t.obsAt (i.1 ++ [kv.1]) = some (.str kv.2)
  dir : ∀ i ∈ is, ∀ p, p <+: i.1 → t.obsAt p = some .dict
  none : ∀ p, (∀ i ∈ is, ¬ p <+: i.full) → p ≠ [] → t.obsAt p = none
  root : t.obsAt [] = some .dict

theorem putAll_spec (is : List Item) : is.Pairwise Compat →
    ∃ t, putAll (.node []) is = .ok t ∧ Spec is t := by
  induction is using List.reverseRecOn with
  | nil =>
    intro _
    refine ⟨.node [], rfl, ⟨by simp, by simp, ?_, rfl⟩⟩
    intro p _ hp
    cases p with
    | nil => exact absurd rfl hp
    | cons a r => rfl
  | append_singleton l i ih =>
    intro hw
    rw [List.pairwise_append] at hw
    obtain ⟨hl, _, hli⟩ := hw
    obtain ⟨t, ht, sp⟩ := ih hl
    have hli' : ∀ j ∈ l, Compat j i := fun j hj => hli j hj i (by simp)
    -- no leaf of t lies on the directory path of i
    have hfree : ∀ q x, q <+: i.1 → t.obsAt q ≠ some (.str x) := by
      intro q x hq hx
      by_cases hex : ∃ j ∈ l, q <+: j.full
      · obtain ⟨j, hj, hqj⟩ := hex
        rcases (prefix_full_iff j q).mp hqj with h1 | ⟨kv, hkv, h1⟩
        · rw [sp.dir j hj q h1] at hx; cases hx
        · exact (hli' j hj).1 kv hkv (h1 ▸ prefix_full_of_dir hq)
      · have hq0 : q ≠ [] := by
          intro e; subst e; rw [sp.root] at hx; cases hx
        rw [sp.none q (fun j hj hqj => hex ⟨j, hj, hqj⟩) hq0] at hx
        cases hx
    obtain ⟨t', hput, hobs⟩ := put_obs i.1 t i.2 hfree
    refine ⟨t', by rw [putAll_append, ht]; exact hput, ?_, ?_, ?_, ?_⟩
    · intro j hj kv hkv
      rw [hobs]
      rcases List.mem_append.mp hj with hj | hj
      · have hc := hli' j hj
        rw [afterPut_old (hc.1 kv hkv) (.inr fun kv' hi => full_of_some hkv ▸ hc.2 kv' hi)]
        exact sp.leaf j hj kv hkv
      · cases List.mem_singleton.mp hj
        obtain ⟨k, v⟩ := kv
        have : ¬ (i.1 ++ [k]) <+: i.1 := fun h => by have := h.length_le; simp at this; omega
        rw [hkv]
        simp only [afterPut, if_neg this, if_true]
    · intro j hj p hp
      rw [hobs]
      by_cases h1 : p <+: i.1
      · exact afterPut_dir h1
      · rcases List.mem_append.mp hj with hj | hj
        · have hc := hli' j hj
          have hpj := prefix_full_of_dir hp
          rw [afterPut_old (fun h => ?_) (.inr fun kv' hi h => hc.2 kv' hi (h.trans hpj))]
          · exact sp.dir j hj p hp
          · rcases (prefix_full_iff i p).mp h with h | ⟨kv', hi, h⟩
            · exact h1 h
            · exact hc.2 kv' hi (h ▸ hpj)
        · cases List.mem_singleton.mp hj
          exact absurd hp h1
    · intro p hp hp0
      rw [hobs, sp.none p (fun j hj => hp j (by simp [hj])) hp0]
      exact afterPut_old (hp i (by simp)) (.inl rfl)
    · rw [hobs]
      exact afterPut_dir List.nil_prefix

end MetadorModel.Hashsums
