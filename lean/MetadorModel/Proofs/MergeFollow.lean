import MetadorModel.Proofs.Listing
import MetadorModel.Proofs.OverlayWriteLook
/-!
# Follow-up patches on top of a merged container / a stub (helper lemmas for C05 and C10)

The record invariant `Inv (p :: r)` talks about the older containers `r` only through

* what `r` shows (`viewKind r`), and
* which paths no container of `r` mentions at all.

Hence a patch container that is a valid continuation of a record `r₁` is a valid continuation
of every record `r₂` that shows the same skeleton (`SameSkel`) and mentions no additional path
(`MentionSub`), and by `view_cons` it is read in the same way on top of both. The merged
container of `r` (property C05) and the stub of `r` (C10) are such records.
-/
namespace MetadorModel.Follow
open MetadorModel.Tree MetadorModel.Overlay MetadorModel.Merge

variable {V : Type}

/-- kind tag of a visible node: group or dataset -/
def kindTag : NKind V → Bool
  | .group => true
  | .data _ => false

/-- the two records show the same paths, node kinds (group / dataset) and attribute names -/
def SameSkel (r₁ r₂ : Rec V) : Prop :=
  ∀ q, (viewKind r₁ q).map kindTag = (viewKind r₂ q).map kindTag ∧
    ∀ k, (viewAttr r₁ q k).isSome = (viewAttr r₂ q k).isSome

/-- a path (other than the root) that no container of `r₁` mentions is not mentioned in `r₂` -/
def MentionSub (r₁ r₂ : Rec V) : Prop :=
  ∀ x, x ≠ [] → (∀ c ∈ r₁, aget x c = none) → ∀ c ∈ r₂, aget x c = none

theorem SameSkel.symm {r₁ r₂ : Rec V} (h : SameSkel r₁ r₂) : SameSkel r₂ r₁ :=
  fun q => ⟨(h q).1.symm, fun k => ((h q).2 k).symm⟩

theorem SameSkel.group {r₁ r₂ : Rec V} (h : SameSkel r₁ r₂) (q : Path)
    (hq : viewKind r₁ q = some .group) : viewKind r₂ q = some .group := by
  have := (h q).1
  rw [hq] at this
  cases hk : viewKind r₂ q with
  | none => simp [hk] at this
  | some kd => cases kd <;> simp_all [kindTag]

theorem SameSkel.data {r₁ r₂ : Rec V} (h : SameSkel r₁ r₂) (q : Path) (v : V)
    (hq : viewKind r₁ q = some (.data v)) : ∃ w, viewKind r₂ q = some (.data w) := by
  have := (h q).1
  rw [hq] at this
  cases hk : viewKind r₂ q with
  | none => simp [hk] at this
  | some kd =>
    cases kd with
    | group => simp [hk, kindTag] at this
    | data w => exact ⟨w, rfl⟩

theorem SameSkel.none {r₁ r₂ : Rec V} (h : SameSkel r₁ r₂) (q : Path)
    (hq : viewKind r₁ q = none) : viewKind r₂ q = none := by
  have := (h q).1
  rw [hq] at this
  cases hk : viewKind r₂ q with
  | none => rfl
  | some kd => simp [hk] at this

/-! ## the invariant of the newest container only depends on skeleton and mentioned paths -/

theorem invLast_transfer (p : Cont V) (r₁ r₂ : Rec V) (hs : SameSkel r₁ r₂) (hm : MentionSub r₁ r₂)
    (h : InvLast p r₁) : InvLast p r₂ := by
  intro x n hx hn hnv
  rcases h x n hx hn hnv with h1 | ⟨⟨v, hv⟩, hch⟩ | h3
  · exact Or.inl (hs.group x h1)
  · exact Or.inr (Or.inl ⟨hs.data x v hv, hch⟩)
  · exact Or.inr (Or.inr (hm x hx h3))

theorem mentionSub_append (ps r₁ r₂ : Rec V) (h : MentionSub r₁ r₂) : MentionSub (ps ++ r₁) (ps ++ r₂) := by
  intro x hx hnone c hc
  rcases List.mem_append.1 hc with hc | hc
  · exact hnone c (List.mem_append_left _ hc)
  · exact h x hx (fun c' hc' => hnone c' (List.mem_append_right _ hc')) c hc

/-! ## the closed form of `view_cons` respects skeletons -/

theorem applyKind_tag (p : Cont V) (t₁ t₂ : Path → Option (NKind V)) (q : Path)
    (h : (t₁ q).map kindTag = (t₂ q).map kindTag) :
    (applyKind p t₁ q).map kindTag = (applyKind p t₂ q).map kindTag := by
  unfold applyKind
  by_cases hnv : nvPrefix p q = true
  · simp [hnv]
  · simp only [hnv, Bool.false_eq_true, ↓reduceIte]
    cases aget q p with
    | none => exact h
    | some n =>
      cases h1 : t₁ q <;> cases h2 : t₂ q <;> simp_all [kindTag]

theorem applyAttr_isSome (p : Cont V) (ta₁ ta₂ : Path → Key → Option V) (q : Path) (k : Key)
    (h : (ta₁ q k).isSome = (ta₂ q k).isSome) :
    (applyAttr p ta₁ q k).isSome = (applyAttr p ta₂ q k).isSome := by
  unfold applyAttr
  by_cases hnv : nvPrefix p q = true
  · simp [hnv]
  · simp only [hnv, Bool.false_eq_true, ↓reduceIte]
    cases aget q p with
    | none => exact h
    | some n =>
      dsimp only
      cases aget k n.attrs with
      | none => exact h
      | some v => rfl

theorem sameSkel_cons (p : Cont V) (r₁ r₂ : Rec V) (hwf : WF p) (h1 : InvLast p r₁) (h2 : InvLast p r₂)
    (hs : SameSkel r₁ r₂) : SameSkel (p :: r₁) (p :: r₂) := by
  intro q
  obtain ⟨a1, a2⟩ := view_cons p r₁ hwf h1 q
  obtain ⟨b1, b2⟩ := view_cons p r₂ hwf h2 q
  refine ⟨?_, fun k => ?_⟩
  · rw [a1, b1]; exact applyKind_tag p _ _ q (hs q).1
  · rw [a2, b2]; exact applyAttr_isSome p _ _ q k ((hs q).2 k)

/-- the patches `ps` (newest first) are valid continuations of `r`; nothing is asked of `r` -/
def InvOver : List (Cont V) → Rec V → Prop
  | [], _ => True
  | p :: ps, r => WF p ∧ InvLast p (ps ++ r) ∧ InvOver ps r

theorem invOver_of_inv (ps r : Rec V) (h : Inv (ps ++ r)) : InvOver ps r := by
  induction ps with
  | nil => trivial
  | cons p ps ih => exact ⟨h.1, h.2.1, ih h.2.2⟩

theorem inv_append (ps r : Rec V) (h : InvOver ps r) (hr : Inv r) : Inv (ps ++ r) := by
  induction ps with
  | nil => exact hr
  | cons p ps ih => exact ⟨h.1, h.2.1, ih h.2.2⟩

/-- reading `ps ++ r` is applying the patches `ps`, oldest first, to what `r` shows -/
theorem view_fold_over (ps r : Rec V) (h : InvOver ps r) :
    viewKind (ps ++ r) = ps.foldr applyKind (viewKind r) ∧
    viewAttr (ps ++ r) = ps.foldr applyAttr (viewAttr r) := by
  induction ps with
  | nil => exact ⟨rfl, rfl⟩
  | cons p ps ih =>
    obtain ⟨ih1, ih2⟩ := ih h.2.2
    refine ⟨funext fun q => ?_, funext fun q => funext fun k => ?_⟩
    · rw [List.cons_append, (view_cons p (ps ++ r) h.1 h.2.1 q).1, List.foldr_cons, ih1]
    · rw [List.cons_append, (view_cons p (ps ++ r) h.1 h.2.1 q).2 k, List.foldr_cons, ih2]

theorem follow_same_skel (r₁ r₂ : Rec V) (hs : SameSkel r₁ r₂) (hm : MentionSub r₁ r₂) :
    ∀ ps : List (Cont V), InvOver ps r₁ → InvOver ps r₂ ∧ SameSkel (ps ++ r₁) (ps ++ r₂) := by
  intro ps
  induction ps with
  | nil => intro _; exact ⟨trivial, hs⟩
  | cons p ps ih =>
    intro h
    obtain ⟨ih1, ih2⟩ := ih h.2.2
    have hl : InvLast p (ps ++ r₂) := invLast_transfer p _ _ ih2 (mentionSub_append ps _ _ hm) h.2.1
    exact ⟨⟨h.1, hl, ih1⟩, sameSkel_cons p _ _ h.1 h.2.1 hl ih2⟩

/-- both extended views are the patches applied to the same tree (`view_fold_over`) -/
theorem follow_same_view (r₁ r₂ : Rec V) (hk : viewKind r₁ = viewKind r₂) (ha : viewAttr r₁ = viewAttr r₂)
    (hm : MentionSub r₁ r₂) (ps : List (Cont V)) (h : InvOver ps r₁) :
    InvOver ps r₂ ∧ viewKind (ps ++ r₁) = viewKind (ps ++ r₂) ∧ viewAttr (ps ++ r₁) = viewAttr (ps ++ r₂) := by
  obtain ⟨o2, _⟩ := follow_same_skel r₁ r₂ (fun q => ⟨by rw [hk], fun k => by rw [ha]⟩) hm ps h
  obtain ⟨a1, a2⟩ := view_fold_over ps r₁ h
  obtain ⟨b1, b2⟩ := view_fold_over ps r₂ o2
  exact ⟨o2, by rw [a1, b1, hk], by rw [a2, b2, ha]⟩

open MetadorModel.Single in
theorem mentionSub_single (c : Cont V) (g : Good c) (r : Rec V)
    (h : ∀ q, q ≠ [] → viewKind [c] q ≠ none → viewKind r q ≠ none) : MentionSub r [c] := by
  intro x hx hnone c' hc'
  obtain rfl := List.mem_singleton.1 hc'
  cases hxc : aget x c' with
  | none => rfl
  | some n =>
    have hv : viewKind [c'] x ≠ none := by
      rw [(view_single g.wf x).1, hxc]
      exact plainKind_ne_none_of_notDel (g.nodel x n hxc)
    exact absurd (viewKind_none_of_unmentioned r x hx hnone) (h x hx hv)

/-! ## a decidable check of the record invariant (used for the concrete examples) -/

def isGroupK : Option (NKind V) → Bool
  | some .group => true
  | _ => false

def isDataK : Option (NKind V) → Bool
  | some (.data _) => true
  | _ => false

def wfB (p : Cont V) : Bool :=
  (match aget [] p with
    | some n => n.kind.isVirtual
    | none => false) &&
  p.all (fun e => decide (e.1 = []) ||
    match aget e.1.dropLast p with
    | some m => m.kind.isGroup
    | none => false)

def invLastB (p : Cont V) (r : Rec V) : Bool :=
  p.all (fun e => decide (e.1 = []) || nvPrefix p e.1 || isGroupK (viewKind r e.1) ||
    (isDataK (viewKind r e.1) && p.all (fun e' => !(isPre e.1 e'.1) || decide (e'.1 = e.1))) ||
    r.all (fun c => (aget e.1 c).isNone))

def invB : Rec V → Bool
  | [] => true
  | p :: r => wfB p && invLastB p r && invB r

theorem wfB_sound (p : Cont V) (h : wfB p = true) : WF p := by
  simp only [wfB, Bool.and_eq_true] at h
  obtain ⟨h1, h2⟩ := h
  refine ⟨?_, ?_⟩
  · cases hr : aget [] p with
    | none => simp [hr] at h1
    | some n =>
      simp only [hr] at h1
      obtain ⟨kd, a⟩ := n
      have := (isVirtual_iff kd).1 h1
      subst this
      exact ⟨a, rfl⟩
  · intro x k hne
    cases hx : aget (x ++ [k]) p with
    | none => exact absurd hx hne
    | some n =>
      have := List.all_eq_true.1 h2 (x ++ [k], n) (Single.aget_mem p _ n hx)
      simp only [List.append_eq_nil_iff, List.cons_ne_self, and_false, decide_false, Bool.false_or,
        List.dropLast_concat] at this
      cases hp : aget x p with
      | none => simp [hp] at this
      | some m => exact ⟨m, rfl, by simpa [hp] using this⟩

theorem invLastB_sound (p : Cont V) (r : Rec V) (h : invLastB p r = true) : InvLast p r := by
  intro x n hx hn hnv
  have := List.all_eq_true.1 h (x, n) (Single.aget_mem p x n hn)
  simp only [hx, decide_false, hnv, Bool.false_or, Bool.or_eq_true, Bool.and_eq_true] at this
  rcases this with (hg | ⟨hd, hall⟩) | hnone
  · left
    cases hv : viewKind r x with
    | none => simp [hv, isGroupK] at hg
    | some kd => cases kd <;> simp_all [isGroupK]
  · right; left
    refine ⟨?_, ?_⟩
    · cases hv : viewKind r x with
      | none => simp [hv, isDataK] at hd
      | some kd =>
        cases kd with
        | group => simp [hv, isDataK] at hd
        | data v => exact ⟨v, rfl⟩
    · intro y hy
      cases hxy : aget (x ++ y) p with
      | none => rfl
      | some n' =>
        exfalso
        have := List.all_eq_true.1 hall (x ++ y, n') (Single.aget_mem p _ n' hxy)
        simp [isPre_append, hy] at this
  · right; right
    intro c hc
    have := List.all_eq_true.1 hnone c hc
    simpa using this

theorem invB_sound : ∀ (r : Rec V), invB r = true → Inv r
  | [], _ => trivial
  | p :: r, h => by
    simp only [invB, Bool.and_eq_true] at h
    exact ⟨wfB_sound p h.1.1, invLastB_sound p r h.1.2, invB_sound r h.2⟩

end MetadorModel.Follow
