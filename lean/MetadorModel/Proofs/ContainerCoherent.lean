import MetadorModel.Proofs.ContainerDrvDefs
import MetadorModel.Proofs.ContainerMove
import MetadorModel.Proofs.ContainerReload
/-!
# Cache coherence in the form used by C09 (`CachesEqv`, including the private `_used` table for
packages that currently provide a schema), for every state reachable by well-formed operations
-/
namespace MetadorModel.Container

theorem optRel_memEq_of {α : Type} {o o' : Option (List α)} (hd : o.isSome = o'.isSome)
    (hm : ∀ l l', o = some l → o' = some l' → ∀ x, x ∈ l ↔ x ∈ l') : OptRel MemEq o o' :=
  match o, o', hd, hm with
  | none, none, _, _ => .none
  | some l, some l', _, hm => .some (hm l l' rfl rfl)

/-- the cache specification determines the caches up to `CachesEqv` -/
theorem cachesEqv_of_spec {e : Env} {L : Path → SRef → Nat → Prop} {U : SRef → Prop} {c c' : Caches}
    (h1 : SchemaCache e U c) (l1 : LinkCache L c) (h2 : SchemaCache e U c') (l2 : LinkCache L c') :
    CachesEqv c c' := by
  have hq := cachesEq_of_spec h1 l1 h2 l2
  refine ⟨hq.tocPath, hq.parents, hq.pkginfos, hq.providers, hq.schemas, fun r => ?_, fun r pk hpk => ?_⟩
  · refine optRel_memEq_of (hq.children_dom r) ?_
    intro l l' hl hl' x
    have := hq.children r x
    rw [hl, hl'] at this
    simpa using this
  · -- `pk` provides `r`, hence is registered: both tables have an entry with the schemas in use
    have hreg : RegP e U pk := by
      cases hg : alGet c.providers r with
      | none => rw [hg] at hpk; simp at hpk
      | some ps =>
        obtain ⟨pk', rfl, hreg, -⟩ := (h1.providers r ps).mp hg
        rw [hg] at hpk
        simp at hpk
        rw [hpk]; exact hreg
    refine optRel_memEq_of ?_ ?_
    · rw [Option.isSome_iff_exists.mpr (alGet_some_of_isSome (h1.used_dom pk hreg)),
        Option.isSome_iff_exists.mpr (alGet_some_of_isSome (h2.used_dom pk hreg))]
    · intro l l' hl hl' x
      rw [(h1.used_val pk l hl).2 x, (h2.used_val pk l' hl').2 x]

/-- cache coherence (C09's `CacheCoherentOn`) for all histories of operations that satisfy `OpOK` (no `move` to a
destination ending in the empty name): the rebuilt and the maintained caches both satisfy the cache specification -/
theorem cacheCoherent_ok {e : Env} (he : WFEnv e) : CacheCoherentOn OpOK e := by
  rintro s ⟨h, hok, rfl⟩
  have hi := run_inv he h initSt (init_inv e) hok
  have hr := reload_inv he hi
  exact cachesEqv_of_spec hr.scache hr.lcache hi.scache hi.lcache

end MetadorModel.Container
