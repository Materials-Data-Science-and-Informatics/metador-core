import MetadorModel.Proofs.MergeFollow
import MetadorModel.Proofs.OverlayWriteStep
/-!
# The existence-based write paths only look at the skeleton of the older containers (C10)

`create_group`, `create_dataset`, `__delitem__`, `attrs[k] = v`, `del attrs[k]` of
`ih5/overlay.py` consult the record only through

* `o.base`        — is the newest container the base container (`older.isEmpty`);
* `o.shape q`     — the *outcome* of `_node_seq` at a path: found / deepest existing prefix and the
                    missing rest / "inside a value" (never the creation index or the node);
* `o.attrHit q k` — is attribute `k` visible at `q`, and if so, does its newest sighting lie in
                    the newest container (`del attrs[k]` removes it there for real);

and otherwise only read and write the newest container. `T.*` are the write paths written as
functions of these observations and of the newest container alone; `*_top` are the (hypothesis
free) refactoring lemmas `W.f (p :: r) … = onTop r (T.f (obsOf p r) p …)`.

`obsOf_congr`: two records with the same skeleton (`SameSkel`) under the same newest container
(which satisfies the invariant on top of both) give the same observations. Hence one operation has
the same effect on both (`step_same`), a history creates the same patch containers
(`run_same_patches`), and — the write paths keep the record invariant — `update_same`: the theorem
behind C05's `merge_same_update` (merged container in place of the source) and C10's
`stub_patch_same_result` (stub in place of the real record).
-/
namespace MetadorModel.Follow
open MetadorModel.Tree MetadorModel.Overlay MetadorModel.Merge

variable {V : Type}

/-! ## the outcome of `_node_seq` as a function of the visible skeleton -/

inductive Shape where
  | found
  | part (pre rest : Path)
  | inside
deriving DecidableEq, Repr

def lookShape : Look V → Shape
  | .found _ _ => .found
  | .part pre rest => .part pre rest
  | .insideValue => .inside

theorem look_inside_of_view (r : Rec V) (x s : Path) (v : V) (hs : s ≠ [])
    (hx : viewKind r x = some (.data v)) : look r (x ++ s) = .insideValue := by
  obtain ⟨c, n, hl⟩ := found_of_viewKind r x (by rw [hx]; exact Option.some_ne_none _)
  have hg : n.kind.isGroup = false := by
    have := (view_of_found hl).1.symm.trans hx
    cases hk : n.kind <;> simp_all [plainKind, RKind.isGroup]
  rw [look_append, hl]
  cases s with
  | nil => exact absurd rfl hs
  | cons k t => simp [lookFrom, hg]

/-- records with the same skeleton resolve every path with the same outcome: the outcome of the
walk is determined by which prefixes are visible groups, datasets or absent -/
theorem shape_congr (r₁ r₂ : Rec V) (h : SameSkel r₁ r₂) (q : Path) :
    lookShape (look r₁ q) = lookShape (look r₂ q) := by
  cases h1 : look r₁ q with
  | found c n =>
    have hne : viewKind r₂ q ≠ none := fun hn => viewKind_ne_none_of_found h1 (h.symm.none q hn)
    obtain ⟨c', n', h2⟩ := found_of_viewKind r₂ q hne
    rw [h2]; rfl
  | part x y =>
    obtain ⟨k, y', rfl, rfl, hg, hn⟩ := look_part_props r₁ _ x y h1
    have h2 := look_append r₂ (x ++ [k]) y'
    rw [look_missing_child r₂ x k (h.group x hg) (h.none _ hn), List.append_assoc] at h2
    rw [show x ++ k :: y' = x ++ ([k] ++ y') from rfl, h2]; rfl
  | insideValue =>
    obtain ⟨x, s, v, rfl, hs, hv⟩ := look_inside_props r₁ q h1
    obtain ⟨w, hw⟩ := h.data x v hv
    rw [look_inside_of_view r₂ x s w hs hw]

/-! ## what the write paths observe -/

structure Obs where
  base : Bool
  shape : Path → Shape
  attrHit : Path → Key → Option Bool

def obsOf (p : Cont V) (r : Rec V) : Obs where
  base := r.isEmpty
  shape := fun q => lookShape (look (p :: r) q)
  attrHit := fun q k =>
    match look (p :: r) q with
    | .found c _ =>
      match attrFind q k c (p :: r) with
      | some (i, some _) => some (i == r.length)
      | _ => none
    | _ => none

/-- is attribute `k` stored (value or deletion marker) at `q` in the container `p` -/
def attrIn (p : Cont V) (q : Path) (k : Key) : Bool :=
  ((aget q p).bind (fun n => aget k n.attrs)).isSome

/-- the newest sighting of an attribute lies in the newest container exactly when that container
stores the attribute -/
theorem attrFind_top (p : Cont V) (r : Rec V) (q : Path) (k : Key) (c i : Nat) (w : Option V)
    (h : attrFind q k c (p :: r) = some (i, w)) : (i == r.length) = attrIn p q k := by
  have older : ∀ {i w}, attrFind q k c r = some (i, w) → (i == r.length) = false := fun h' => by
    have := attrFind_idx_lt q k c r _ _ h'
    simp only [beq_eq_false_iff_ne, ne_eq]; omega
  simp only [attrFind] at h
  unfold attrIn
  split at h
  · cases h
  · cases hp : aget q p with
    | none => rw [hp] at h; exact older h
    | some n =>
      rw [hp] at h
      cases hk : aget k n.attrs with
      | none => simp only [hk] at h; simpa [hk] using older h
      | some v =>
        simp only [hk, Option.some.injEq, Prod.mk.injEq] at h
        simp [hk, h.1]

theorem attrHit_eq (p : Cont V) (r : Rec V) (q : Path) (k : Key) :
    (obsOf p r).attrHit q k =
      if (viewAttr (p :: r) q k).isSome then some (attrIn p q k) else none := by
  cases hl : look (p :: r) q with
  | part _ _ => simp [obsOf, viewAttr, hl]
  | insideValue => simp [obsOf, viewAttr, hl]
  | found c n =>
    simp only [obsOf, viewAttr, hl, attrOf]
    cases hf : attrFind q k c (p :: r) with
    | none => rfl
    | some x =>
      obtain ⟨i, _ | v⟩ := x
      · rfl
      · simp [attrFind_top p r q k c i _ hf]

/-- **the observations only depend on the skeleton of the older containers** -/
theorem obsOf_congr (p : Cont V) (r₁ r₂ : Rec V) (hwf : WF p) (h1 : InvLast p r₁) (h2 : InvLast p r₂)
    (hs : SameSkel r₁ r₂) (he : r₁.isEmpty = r₂.isEmpty) : obsOf p r₁ = obsOf p r₂ := by
  have hs' := sameSkel_cons p r₁ r₂ hwf h1 h2 hs
  have hattr : (obsOf p r₁).attrHit = (obsOf p r₂).attrHit := by
    funext q k
    rw [attrHit_eq, attrHit_eq, (hs' q).2 k]
  unfold obsOf at hattr ⊢
  congr 1
  exact funext fun q => shape_congr _ _ hs' q

/-! ## the write paths as functions of the observations and the newest container -/

namespace T

def createGroupAt (base : Bool) (top : Cont V) (path : Path) : Except Err (Cont V) := do
  let top1 := if isDelAt top path then removeSub path top else top
  let top2 ← Raw.createGroup top1 path
  if base then pure top2 else Raw.markSubst top2 path

def createGroup (o : Obs) (top : Cont V) (path : Path) : Except Err (Cont V) :=
  match o.shape path with
  | .inside => .error .insideValue
  | .found => .error .exists_
  | .part _ [] => .error .raw
  | .part pre (k :: more) =>
    if more = [] then createGroupAt o.base top path
    else do
      let t1 ← createGroupAt o.base top (pre ++ [k])
      createGroupAt o.base t1 path

def createVirtual (o : Obs) (top : Cont V) (path : Path) : Except Err (Cont V) :=
  match o.shape path with
  | .inside => .error .insideValue
  | .found => .ok top
  | .part _ [] => .error .raw
  | .part pre (k :: more) => do
    let t1 ← createGroup o top (pre ++ [k])
    if more = [] then pure t1 else Raw.createGroup t1 path

def createDataset (o : Obs) (top : Cont V) (path : Path) (v : V) : Except Err (Cont V) :=
  match o.shape path with
  | .inside => .error .insideValue
  | .found => .error .exists_
  | .part _ _ => do
    let t1 ← (if isDelAt top path then pure (removeSub path top)
      else if (aget path top).isNone then do
        let t' ← createVirtual o top path
        if (aget path t').isNone then .error .raw else pure (removeSub path t')
      else pure top)
    Raw.createNode t1 path ⟨.data v, []⟩

def delete (o : Obs) (top : Cont V) (path : Path) : Except Err (Cont V) :=
  if path = [] then .error .root
  else match o.shape path with
    | .found => do
      let t1 := if (aget path top).isSome then removeSub path top else top
      if o.base then pure t1 else Raw.createNode t1 path ⟨.del, []⟩
    | _ => .error .missing

def setAttrRaw (top : Cont V) (path : Path) (k : Key) (v : Option V) : Except Err (Cont V) := do
  let t1 ← if (aget path top).isNone then Raw.createGroup top path else pure top
  Raw.setAttr t1 path k v

def setAttr (o : Obs) (top : Cont V) (path : Path) (k : Key) (v : V) : Except Err (Cont V) :=
  match o.shape path with
  | .found => setAttrRaw top path k (some v)
  | _ => .error .missing

def delAttr (o : Obs) (top : Cont V) (path : Path) (k : Key) : Except Err (Cont V) :=
  match o.attrHit path k with
  | some inTop => do
    let t1 ← if inTop then Raw.delAttr top path k else pure top
    if o.base then pure t1 else setAttrRaw t1 path k none
  | none => .error .missing

/-- the existence-based operations; everything else is refused here (`copy`/`move` read values,
`patch` adds a container) -/
def step (o : Obs) (top : Cont V) : Op V → Except Err (Cont V)
  | .set p v => createDataset o top p v
  | .grp p => createGroup o top p
  | .del p => delete o top p
  | .sattr p k v => setAttr o top p k v
  | .dattr p k => delAttr o top p k
  | _ => .error .raw

end T

/-- the operations whose effect is determined by which nodes / attributes exist -/
def isEx : Op V → Bool
  | .set _ _ => true
  | .grp _ => true
  | .del _ => true
  | .sattr _ _ _ => true
  | .dattr _ _ => true
  | _ => false

/-- put a new newest container on top of the unchanged older ones -/
def onTop (r : Rec V) (x : Except Err (Cont V)) : Except Err (Rec V) :=
  match x with
  | .ok t => .ok (t :: r)
  | .error e => .error e

theorem onTop_eq (r : Rec V) (x : Except Err (Cont V)) : onTop r x = x >>= fun t => pure (t :: r) := by
  cases x <;> rfl

theorem ite_bind {α β : Type} (c : Prop) [Decidable c] (a b : Except Err α) (f : α → Except Err β) :
    (if c then a else b) >>= f = if c then a >>= f else b >>= f := by
  split <;> rfl

theorem error_bind {α β : Type} (e : Err) (f : α → Except Err β) : (Except.error e >>= f) = .error e := rfl

theorem obsOf_base (p : Cont V) (r : Rec V) : (obsOf p r).base = r.isEmpty := rfl

theorem obsOf_shape (p : Cont V) (r : Rec V) (q : Path) :
    (obsOf p r).shape q = lookShape (look (p :: r) q) := rfl

theorem createGroupAt_top (p : Cont V) (r : Rec V) (path : Path) :
    W.createGroupAt (p :: r) path = onTop r (T.createGroupAt r.isEmpty p path) := by
  simp only [W.createGroupAt, T.createGroupAt, onTop_eq, bind_assoc, ite_bind]

theorem createGroup_top (p : Cont V) (r : Rec V) (path : Path) :
    W.createGroup (p :: r) path = onTop r (T.createGroup (obsOf p r) p path) := by
  unfold W.createGroup T.createGroup
  rw [obsOf_shape]
  cases look (p :: r) path with
  | insideValue => rfl
  | found c n => rfl
  | part pre rest =>
    cases rest with
    | nil => rfl
    | cons k more =>
      simp only [lookShape, createGroupAt_top, obsOf_base, onTop_eq, bind_assoc, pure_bind, ite_bind]

theorem createVirtual_top (p : Cont V) (r : Rec V) (path : Path) :
    W.createVirtual (p :: r) path = onTop r (T.createVirtual (obsOf p r) p path) := by
  unfold W.createVirtual T.createVirtual
  rw [obsOf_shape]
  cases look (p :: r) path with
  | insideValue => rfl
  | found c n => rfl
  | part pre rest =>
    cases rest with
    | nil => rfl
    | cons k more =>
      simp only [lookShape, createGroup_top, onTop_eq, bind_assoc, pure_bind, ite_bind]

theorem createDataset_top (p : Cont V) (r : Rec V) (path : Path) (v : V) :
    W.createDataset (p :: r) path v = onTop r (T.createDataset (obsOf p r) p path v) := by
  simp only [W.createDataset, T.createDataset, obsOf_shape]
  cases look (p :: r) path with
  | insideValue => rfl
  | found c n => rfl
  | part pre rest =>
    simp only [lookShape, createVirtual_top, onTop_eq, bind_assoc, pure_bind, ite_bind, error_bind]

theorem delete_top (p : Cont V) (r : Rec V) (path : Path) :
    W.delete (p :: r) path = onTop r (T.delete (obsOf p r) p path) := by
  by_cases h0 : path = []
  · simp only [W.delete, T.delete, h0, ↓reduceIte]; rfl
  · simp only [W.delete, T.delete, h0, ↓reduceIte, obsOf_shape]
    cases look (p :: r) path with
    | found c n =>
      -- `o.base` is the condition of an `if`: rewriting it by the `rfl` lemma `obsOf_base` alone leaves the old
      -- `Decidable` instance behind, on which `ite_bind` does not fire; hence the split on `r.isEmpty`
      cases hb : r.isEmpty <;>
        simp only [lookShape, obsOf_base, hb, Bool.false_eq_true, ↓reduceIte, onTop_eq, pure_bind]
    | insideValue => rfl
    | part _ _ => rfl

theorem setAttrRaw_top (p : Cont V) (r : Rec V) (path : Path) (k : Key) (v : Option V) :
    W.setAttrRaw (p :: r) path k v = onTop r (T.setAttrRaw p path k v) := by
  simp only [W.setAttrRaw, T.setAttrRaw, onTop_eq, bind_assoc, ite_bind]

theorem setAttr_top (p : Cont V) (r : Rec V) (path : Path) (k : Key) (v : V) :
    W.setAttr (p :: r) path k v = onTop r (T.setAttr (obsOf p r) p path k v) := by
  unfold W.setAttr T.setAttr
  rw [obsOf_shape]
  cases look (p :: r) path with
  | found c n => exact setAttrRaw_top p r path k (some v)
  | insideValue => rfl
  | part _ _ => rfl

theorem delAttr_top (p : Cont V) (r : Rec V) (path : Path) (k : Key) :
    W.delAttr (p :: r) path k = onTop r (T.delAttr (obsOf p r) p path k) := by
  simp only [W.delAttr, T.delAttr, obsOf]
  cases look (p :: r) path with
  | insideValue => rfl
  | part _ _ => rfl
  | found c n =>
    simp only
    cases attrFind path k c (p :: r) with
    | none => rfl
    | some x =>
      obtain ⟨i, _ | w⟩ := x
      · rfl
      · by_cases hb : r.isEmpty = true <;>
          simp only [beq_iff_eq, hb, Bool.false_eq_true, ↓reduceIte, setAttrRaw_top, onTop_eq, bind_assoc,
            pure_bind, ite_bind]

/-- every existence-based operation reads the older containers only through `obsOf` and writes
only the newest container -/
theorem step_top (p : Cont V) (r : Rec V) (op : Op V) (hop : isEx op = true) :
    W.step (p :: r) op = onTop r (T.step (obsOf p r) p op) := by
  cases op with
  | set q v => exact createDataset_top p r q v
  | grp q => exact createGroup_top p r q
  | del q => exact delete_top p r q
  | sattr q k v => exact setAttr_top p r q k v
  | dattr q k => exact delAttr_top p r q k
  | copy _ _ => cases hop
  | move _ _ => cases hop
  | patch => cases hop

theorem step_same (p : Cont V) (r₁ r₂ : Rec V) (op : Op V) (hop : isEx op = true)
    (hwf : WF p) (h1 : InvLast p r₁) (h2 : InvLast p r₂) (hs : SameSkel r₁ r₂)
    (he : r₁.isEmpty = r₂.isEmpty) :
    ∃ res : Except Err (Cont V),
      W.step (p :: r₁) op = onTop r₁ res ∧ W.step (p :: r₂) op = onTop r₂ res :=
  ⟨T.step (obsOf p r₁) p op, step_top p r₁ op hop,
    by rw [obsOf_congr p r₁ r₂ hwf h1 h2 hs he]; exact step_top p r₂ op hop⟩

/-- the record invariant holds before every operation of the history and at its end -/
def InvAlong : Rec V → List (Op V) → Prop
  | r, [] => Inv r
  | r, op :: ops => Inv r ∧
    match W.step r op with
    | .ok r' => InvAlong r' ops
    | .error _ => InvAlong r ops

/-- decidable check of `InvAlong` (for the concrete examples) -/
def invAlongB : Rec V → List (Op V) → Bool
  | r, [] => invB r
  | r, op :: ops => invB r &&
    match W.step r op with
    | .ok r' => invAlongB r' ops
    | .error _ => invAlongB r ops

theorem invAlongB_sound : ∀ (ops : List (Op V)) (r : Rec V), invAlongB r ops = true → InvAlong r ops
  | [], r, h => invB_sound r h
  | op :: ops, r, h => by
    simp only [invAlongB, Bool.and_eq_true] at h
    refine ⟨invB_sound r h.1, ?_⟩
    cases hs : W.step r op with
    | ok r' => simp only [hs] at h ⊢; exact invAlongB_sound ops r' h.2
    | error e => simp only [hs] at h ⊢; exact invAlongB_sound ops r h.2

/-- the newest container after an attempted write -/
def topAfter (p : Cont V) : Except Err (Cont V) → Cont V
  | .ok t => t
  | .error _ => p

theorem run_cons_onTop (p : Cont V) (r : Rec V) (op : Op V) (ops : List (Op V))
    (res : Except Err (Cont V)) (hop : isEx op = true) (h : W.step (p :: r) op = onTop r res) :
    W.run (p :: r) (op :: ops) =
      ((W.run (topAfter p res :: r) ops).1, res.toBool :: (W.run (topAfter p res :: r) ops).2) := by
  cases op <;> first | (simp only [W.run, h]; cases res <;> rfl) | cases hop

theorem InvAlong.tail {p : Cont V} {r : Rec V} {op : Op V} {ops : List (Op V)}
    {res : Except Err (Cont V)} (h : W.step (p :: r) op = onTop r res)
    (hinv : InvAlong (p :: r) (op :: ops)) : InvAlong (topAfter p res :: r) ops := by
  have := hinv.2
  rw [h] at this
  cases res <;> exact this

/-- **same history, same patch**: a history of existence-based operations run in one patch
container on top of two records with the same skeleton gives the same outcomes and the same
patch container, and leaves the older containers alone. -/
theorem run_same_patch (r₁ r₂ : Rec V) (hs : SameSkel r₁ r₂) (hm : MentionSub r₁ r₂)
    (he : r₁.isEmpty = r₂.isEmpty) :
    ∀ (ops : List (Op V)) (p : Cont V), (∀ op ∈ ops, isEx op = true) → InvAlong (p :: r₁) ops →
      ∃ p' outs, W.run (p :: r₁) ops = (p' :: r₁, outs) ∧ W.run (p :: r₂) ops = (p' :: r₂, outs) ∧
        Inv (p' :: r₁) ∧ InvLast p' r₂ := by
  intro ops
  induction ops with
  | nil =>
    intro p _ hinv
    exact ⟨p, [], rfl, rfl, hinv, invLast_transfer p r₁ r₂ hs hm hinv.2.1⟩
  | cons op ops ih =>
    intro p hex hinv
    have hop := hex op List.mem_cons_self
    obtain ⟨res, e1, e2⟩ := step_same p r₁ r₂ op hop hinv.1.1 hinv.1.2.1
      (invLast_transfer p r₁ r₂ hs hm hinv.1.2.1) hs he
    obtain ⟨p', outs, h1, h2, h3⟩ :=
      ih (topAfter p res) (fun o ho => hex o (List.mem_cons_of_mem _ ho)) (hinv.tail e1)
    exact ⟨p', res.toBool :: outs, by rw [run_cons_onTop p r₁ op ops res hop e1, h1],
      by rw [run_cons_onTop p r₂ op ops res hop e2, h2], h3⟩

/-- existence-based operation or patch boundary (`commit_patch; create_patch`) -/
def isExP : Op V → Bool
  | .patch => true
  | op => isEx op

theorem isEx_of_isExP {op : Op V} (h : isExP op = true) (hp : op ≠ .patch) : isEx op = true := by
  cases op <;> first | rfl | exact absurd rfl hp | cases h

/-- **same history, same patches**: a history of existence-based operations with any number of
patch boundaries, run on top of two records with the same skeleton, gives the same outcomes and
the same list of new patch containers `ps` (newest first), and leaves the older containers
alone. -/
theorem run_same_patches : ∀ (ops : List (Op V)) (r₁ r₂ : Rec V) (p : Cont V),
    SameSkel r₁ r₂ → MentionSub r₁ r₂ → r₁.isEmpty = r₂.isEmpty →
    (∀ op ∈ ops, isExP op = true) → InvAlong (p :: r₁) ops →
      ∃ ps outs, W.run (p :: r₁) ops = (ps ++ r₁, outs) ∧ W.run (p :: r₂) ops = (ps ++ r₂, outs) ∧
        ps ≠ [] ∧ Inv (ps ++ r₁) := by
  intro ops
  induction ops with
  | nil =>
    intro r₁ r₂ p _ _ _ _ hinv
    exact ⟨[p], [], rfl, rfl, List.cons_ne_nil _ _, hinv⟩
  | cons op ops ih =>
    intro r₁ r₂ p hs hm he hex hinv
    have hl2 : InvLast p r₂ := invLast_transfer p r₁ r₂ hs hm hinv.1.2.1
    have hex' : ∀ o ∈ ops, isExP o = true := fun o ho => hex o (List.mem_cons_of_mem _ ho)
    by_cases hp : op = .patch
    · subst hp
      obtain ⟨ps, outs, h1, h2, _, h4⟩ := ih (p :: r₁) (p :: r₂) Cont.init
        (sameSkel_cons p r₁ r₂ hinv.1.1 hinv.1.2.1 hl2 hs) (mentionSub_append [p] r₁ r₂ hm) rfl hex' hinv.2
      refine ⟨ps ++ [p], outs, ?_, ?_, by simp, by simpa using h4⟩
      · simpa [W.run, W.step, newPatch] using h1
      · simpa [W.run, W.step, newPatch] using h2
    · have hop := isEx_of_isExP (hex op List.mem_cons_self) hp
      obtain ⟨res, e1, e2⟩ := step_same p r₁ r₂ op hop hinv.1.1 hinv.1.2.1 hl2 hs he
      obtain ⟨ps, outs, h1, h2, h3⟩ := ih r₁ r₂ (topAfter p res) hs hm he hex' (hinv.tail e1)
      exact ⟨ps, res.toBool :: outs, by rw [run_cons_onTop p r₁ op ops res hop e1, h1],
        by rw [run_cons_onTop p r₂ op ops res hop e2, h2], h3⟩

theorem isExP_eq_isBasic (op : Op V) : isExP op = op.isBasic := by
  cases op <;> rfl

/-- the write paths keep the record invariant (`step_inv_basic`), so it holds along every
history that starts from a record satisfying it -/
theorem invAlong_of_inv : ∀ (ops : List (Op V)) (R : Rec V), (∀ op ∈ ops, isExP op = true) →
    Inv R → InvAlong R ops
  | [], _, _, h => h
  | op :: ops, R, hex, h => by
    have hex' : ∀ o ∈ ops, isExP o = true := fun o ho => hex o (List.mem_cons_of_mem _ ho)
    refine ⟨h, ?_⟩
    cases hs : W.step R op with
    | ok R' =>
      exact invAlong_of_inv ops R' hex'
        (step_inv_basic R R' op (isExP_eq_isBasic op ▸ hex op List.mem_cons_self) h hs).1
    | error e => exact invAlong_of_inv ops R hex' h

/-- **same skeleton, same update**: `r₁` and `r₂` satisfy the record invariant, show the same
paths, node kinds and attribute names (not necessarily the same values), and `r₂` mentions no
path that `r₁` does not. Then every update made of existence-based operations and patch
boundaries, performed in fresh patch containers on top of either, reports the same outcomes and
creates the same patch containers `ps` (newest first); both patched records satisfy the
invariant and again have the same skeleton. -/
theorem update_same (r₁ r₂ : Rec V) (hs : SameSkel r₁ r₂) (hm : MentionSub r₁ r₂)
    (he : r₁.isEmpty = r₂.isEmpty) (i1 : Inv r₁) (i2 : Inv r₂) (ops : List (Op V))
    (hex : ∀ op ∈ ops, isExP op = true) :
    ∃ ps outs, ps ≠ [] ∧
      W.run (newPatch r₁) ops = (ps ++ r₁, outs) ∧ W.run (newPatch r₂) ops = (ps ++ r₂, outs) ∧
      Inv (ps ++ r₁) ∧ Inv (ps ++ r₂) ∧ SameSkel (ps ++ r₁) (ps ++ r₂) := by
  obtain ⟨ps, outs, e1, e2, hne, h1⟩ := run_same_patches ops r₁ r₂ Cont.init hs hm he hex
    (invAlong_of_inv ops _ hex ⟨wf_init, invLast_init r₁, i1⟩)
  obtain ⟨o2, hs'⟩ := follow_same_skel r₁ r₂ hs hm ps (invOver_of_inv ps r₁ h1)
  exact ⟨ps, outs, hne, e1, e2, h1, inv_append ps r₂ o2 i2, hs'⟩

end MetadorModel.Follow
