import MetadorModel.Proofs.Partial
/-! Helper lemmas for C14, part 2: associativity of the merge where the values met at one
position have one shape and, for model values, classes related by inheritance (`Sim`). -/
namespace MetadorModel.Partial
open MetadorModel

def bindE {α β : Type} (x : Except Err α) (f : α → Except Err β) : Except Err β :=
  match x with
  | .ok a => f a
  | .error e => .error e

/-- "both outcomes are equal values, or both raise" -/
def sameOutcome {α : Type} (x y : Except Err α) : Prop :=
  match x, y with
  | .ok a, .ok b => a = b
  | .error _, .error _ => True
  | _, _ => False

theorem sameOutcome_refl {α : Type} (x : Except Err α) : sameOutcome x x := by
  cases x <;> simp [sameOutcome]

theorem sameOutcome_of_eq {α : Type} {x y : Except Err α} (h : x = y) : sameOutcome x y :=
  h ▸ sameOutcome_refl x

theorem related_comm (c d : Cls) : related c d = related d c := by
  simp [related, Bool.or_comm]

mutual
/-- the two values have one shape; two model values have related classes and, field by field,
values of one shape again (lists and sets are not looked into: they are concatenated / united) -/
def Sim : PVal → PVal → Prop
  | .atom _, w => match w with
    | .atom _ => True
    | _ => False
  | .list _, w => match w with
    | .list _ => True
    | _ => False
  | .set _, w => match w with
    | .set _ => True
    | _ => False
  | .obj c1 f1, w => match w with
    | .obj c2 f2 => related c1 c2 = true ∧ SimF f1 f2
    | _ => False
def SimF : Fields → Fields → Prop
  | [], _ => True
  | (k, v) :: r, f2 =>
    (match AL.get f2 k with
      | some v2 => Sim v v2
      | none => True) ∧ SimF r f2
end

theorem SimF_get {f1 f2 : Fields} (h : SimF f1 f2) {k : String} {v1 v2 : PVal}
    (h1 : AL.get f1 k = some v1) (h2 : AL.get f2 k = some v2) : Sim v1 v2 := by
  induction f1 with
  | nil => simp at h1
  | cons a r ih =>
    obtain ⟨k0, v0⟩ := a
    simp only [SimF] at h
    rw [AL.get_cons] at h1
    split_ifs at h1 with hk
    · subst hk
      cases h1
      have := h.1
      rw [h2] at this
      exact this
    · exact ih h.2 h1

theorem unionA_assoc (xs ys zs : List Atom) : unionA (unionA xs ys) zs = unionA xs (unionA ys zs) := by
  simp only [unionA, List.filter_append, List.append_assoc, List.filter_filter]
  congr 2
  apply List.filter_congr
  intro z _
  simp only [List.contains_eq_mem, List.mem_append, List.mem_filter, Bool.not_eq_true', decide_eq_false_iff_not,
    Bool.decide_or, Bool.decide_and, Bool.not_or, Bool.not_and, Bool.not_not, decide_not]
  cases decide (z ∈ xs) <;> cases decide (z ∈ ys) <;> rfl

theorem bindE_map {α β γ : Type} (x : Except Err α) (f : α → β) (g : β → Except Err γ) :
    bindE (x.map f) g = bindE x fun a => g (f a) := by
  cases x <;> rfl

theorem map_bindE {α β γ : Type} (x : Except Err α) (g : α → Except Err β) (f : β → γ) :
    (bindE x fun a => (g a).map f) = (bindE x g).map f := by
  cases x <;> rfl

theorem bindE_eq_ok {α β : Type} {x : Except Err α} {f : α → Except Err β} {b : β} (h : bindE x f = .ok b) :
    ∃ a, x = .ok a ∧ f a = .ok b := by
  cases x with
  | ok a => exact ⟨a, rfl, h⟩
  | error e => cases h

theorem sameOutcome_map {α β : Type} (f : α → β) {x y : Except Err α} (h : sameOutcome x y) :
    sameOutcome (x.map f) (y.map f) := by
  cases x <;> cases y <;> first | exact congrArg f h | exact h

/-- a second loop, whose work at a key depends on what the first left there -/
theorem KeyWise.bind {x : Except Err Fields} {g : String → Except Err (Option PVal)} (hx : KeyWise x g)
    {F : Fields → Except Err Fields} (h : Option PVal → String → Except Err (Option PVal))
    (hF : ∀ r, x = .ok r → KeyWise (F r) fun k => h (AL.get r k) k) :
    KeyWise (bindE x F) fun k => bindE (g k) fun m => h m k := by
  cases x with
  | error e =>
    obtain ⟨k, e', he⟩ := hx
    exact ⟨k, e', by simp only [he, bindE]⟩
  | ok r =>
    have e : (fun k => bindE (g k) fun m => h m k) = fun k => h (AL.get r k) k :=
      funext fun k => by rw [hx k]; rfl
    exact e ▸ hF r rfl

theorem KeyWise.sameOutcome {x y : Except Err Fields} {g g' : String → Except Err (Option PVal)}
    (hx : KeyWise x g) (hy : KeyWise y g')
    (hs : ∀ r r', x = .ok r → y = .ok r' → AL.sorted r = true ∧ AL.sorted r' = true)
    (key : ∀ k, sameOutcome (g k) (g' k)) : sameOutcome x y := by
  cases x with
  | error e =>
    cases y with
    | error _ => trivial
    | ok r' =>
      obtain ⟨k, e', he⟩ := hx
      have := key k
      rwa [he, hy k] at this
  | ok r =>
    cases y with
    | error _ =>
      obtain ⟨k, e', he⟩ := hy
      have := key k
      rwa [hx k, he] at this
    | ok r' =>
      obtain ⟨s, s'⟩ := hs r r' rfl rfl
      refine AL.ext s s' fun k => ?_
      have := key k
      rwa [hx k, hy k] at this

/-- associativity statement for one new value `c` -/
def AssocAt (c : PVal) : Prop :=
  ∀ (ow : Bool) (a b : PVal), a.wf = true → b.wf = true → c.wf = true → Sim a b → Sim b c → Sim a c →
    sameOutcome (bindE (merge ow a b) (fun m => merge ow m c)) (bindE (merge ow b c) (fun m => merge ow a m))

/-- the field loops are associative when every value of the last operand is -/
theorem assocF (ow : Bool) {c1 c2 c3 : Cls} {f1 f2 f3 : Fields}
    (wa : (PVal.obj c1 f1).wf = true) (wb : (PVal.obj c2 f2).wf = true) (wc : (PVal.obj c3 f3).wf = true)
    (s12 : SimF f1 f2) (s23 : SimF f2 f3) (s13 : SimF f1 f3)
    (H : ∀ k v, AL.get f3 k = some v → AssocAt v) :
    sameOutcome (bindE (mergeFields ow f1 f2) (fun r => mergeFields ow r f3))
      (bindE (mergeFields ow f2 f3) (fun r => mergeFields ow f1 r)) := by
  obtain ⟨h1, w1⟩ := (wf_obj c1 f1).mp wa
  obtain ⟨h2, w2⟩ := (wf_obj c2 f2).mp wb
  obtain ⟨h3, w3⟩ := (wf_obj c3 f3).mp wc
  refine ((mergeFields_keyWise ow h2 f1).bind (fun m k => updO ow m (AL.get f3 k))
      fun r _ => mergeFields_keyWise ow h3 r).sameOutcome
    ((mergeFields_keyWise ow h3 f2).bind (fun m k => updO ow (AL.get f1 k) m)
      fun r hr => mergeFields_keyWise ow (mergeFields_sorted h2 hr) f1) (fun r r' hr hr' => ?_) fun k => ?_
  · obtain ⟨_, ha, hb⟩ := bindE_eq_ok hr
    obtain ⟨_, _, hb'⟩ := bindE_eq_ok hr'
    exact ⟨mergeFields_sorted (mergeFields_sorted h1 ha) hb, mergeFields_sorted h1 hb'⟩
  · cases hx : AL.get f1 k with
    | none =>
      simp only [updO_none_left, bindE]
      cases updO ow (AL.get f2 k) (AL.get f3 k) <;> exact sameOutcome_refl _
    | some a =>
      cases hy : AL.get f2 k with
      | none => simp only [updO_none_left, updO_none_right, bindE]; exact sameOutcome_refl _
      | some b =>
        cases hz : AL.get f3 k with
        | none =>
          simp only [updO_none_right, bindE]
          cases updO ow (some a) (some b) <;> exact sameOutcome_refl _
        | some c =>
          simp only [updO_some, bindE_map, map_bindE]
          exact sameOutcome_map some (H k c hz ow a b (wfF_get w1 hx) (wfF_get w2 hy) (wfF_get w3 hz)
            (SimF_get s12 hx hy) (SimF_get s23 hy hz) (SimF_get s13 hx hz))

mutual
theorem assocV (c : PVal) : AssocAt c := by
  intro ow a b wa wb wc sab sbc sac
  -- `Sim` leaves three values of one kind
  cases c <;> cases b <;> try exact sbc.elim
  all_goals cases a <;> try exact sab.elim
  · cases ow <;> exact sameOutcome_refl _
  · exact congrArg PVal.list (List.append_assoc _ _ _)
  · exact congrArg PVal.set (unionA_assoc _ _ _)
  · rename_i c3 f3 c2 f2 c1 f1
    have r21 : related c2 c1 = true := related_comm c1 c2 ▸ sab.1
    have r32 : related c3 c2 = true := related_comm c2 c3 ▸ sbc.1
    have r31 : related c3 c1 = true := related_comm c1 c3 ▸ sac.1
    simp only [merge_obj_obj, r21, r32, r31, if_true, bindE_map, map_bindE]
    exact sameOutcome_map _ (assocF ow wa wb wc sab.2 sbc.2 sac.2 (assocM f3))
theorem assocM (f3 : Fields) (k : String) (v : PVal) (h : AL.get f3 k = some v) : AssocAt v := by
  cases f3 with
  | nil => cases h
  | cons a r =>
    obtain ⟨k0, v0⟩ := a
    rw [AL.get_cons] at h
    split_ifs at h with hk
    · exact Option.some.inj h ▸ assocV v0
    · exact assocM r k v h
end

