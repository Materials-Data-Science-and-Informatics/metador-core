import MetadorModel.Proofs.ContainerDrvDefs
/-!
# Simulation: the container layer over any law-abiding driver refines the model (C09)

`Sim drv m m'`: started in a driver state `sD` and in the model state `viewSt drv sD`, the
generic computation `m` and the model computation `m'` return the same result (value or
error) and leave states that are again related by `viewSt`. Every generic definition of
`ContainerDrvDefs.lean` is the model's do-block with the primitives exchanged, so its lemma is
the term that walks both blocks at once: one rule per primitive (`Sim.getView`, `Sim.modC`,
`Sim.create`, …), `Sim.bind` between statements, `Sim.ite` at an `if` (where statements follow
an `if` without `else`, they occur once in each branch), `cases` where both sides match on
the same value. Ends in `step_sim`, `obs_sim`, `run_sim`, `outcomes_sim`.

Also: the two concrete drivers `treeDriver` and `patchLogDriver` with their laws.
-/
namespace MetadorModel.Container

variable {D : Type} {drv : Driver D}

/-- lock-step simulation between a computation over a driver and a model computation -/
def Sim (drv : Driver D) {α : Type} (m : MD D α) (m' : M α) : Prop :=
  ∀ sD, (m sD).1 = (m' (viewSt drv sD)).1 ∧ viewSt drv (m sD).2 = (m' (viewSt drv sD)).2

theorem Sim.run_eq {α : Type} {m : MD D α} {m' : M α} (h : Sim drv m m') (sD : StD D) :
    m' (viewSt drv sD) = ((m sD).1, viewSt drv (m sD).2) :=
  Prod.ext (h sD).1.symm (h sD).2.symm

theorem Sim.pure {α : Type} (a : α) : Sim drv (Pure.pure a : MD D α) (Pure.pure a : M α) :=
  fun _ => ⟨rfl, rfl⟩

theorem Sim.bind {α β : Type} {m : MD D α} {m' : M α} {f : α → MD D β} {f' : α → M β}
    (h : Sim drv m m') (hf : ∀ a, Sim drv (f a) (f' a)) : Sim drv (m >>= f) (m' >>= f') := by
  intro sD
  show (MD.bind m f sD).1 = (M.bind m' f' (viewSt drv sD)).1 ∧
    viewSt drv (MD.bind m f sD).2 = (M.bind m' f' (viewSt drv sD)).2
  unfold MD.bind M.bind
  rw [h.run_eq sD]
  rcases m sD with ⟨_ | a, sD1⟩
  · exact ⟨rfl, rfl⟩
  · exact hf a sD1

theorem Sim.ite {α : Type} {c : Prop} [Decidable c] {a b : MD D α} {a' b' : M α}
    (ha : Sim drv a a') (hb : Sim drv b b') : Sim drv (if c then a else b) (if c then a' else b') := by
  split
  · exact ha
  · exact hb

theorem Sim.raise {α : Type} (e : Err) : Sim drv (Drv.raise e : MD D α) (raise e) :=
  fun _ => ⟨rfl, rfl⟩

theorem Sim.raise_bind {α β : Type} {e : Err} {f : α → MD D β} {f' : α → M β} :
    Sim drv (Drv.raise e >>= f) (MetadorModel.Container.raise e >>= f') :=
  fun _ => ⟨rfl, rfl⟩

theorem Sim.getView : Sim drv (Drv.getView drv) getSt := fun _ => ⟨rfl, rfl⟩

theorem Sim.modC (f : Caches → Caches) : Sim drv (Drv.modC f : MD D Unit) (modC f) :=
  fun _ => ⟨rfl, rfl⟩

theorem Sim.freshUuid : Sim drv (Drv.freshUuid : MD D Nat) freshUuid := fun _ => ⟨rfl, rfl⟩

theorem Sim.ofOpt {α : Type} (e : Err) (o : Option α) : Sim drv (Drv.ofOpt e o : MD D α) (ofOpt e o) := by
  cases o
  · exact Sim.raise e
  · exact Sim.pure _

theorem Sim.guardPath (p : Path) : Sim drv (Drv.guardPath p : MD D Unit) (guardPath p) :=
  Sim.ite (Sim.raise _) (Sim.pure _)

theorem Sim.liftD {f : D → Except Err D} {g : Tree → Except Err Tree}
    (h : ∀ d, (f d).map drv.view = g (drv.view d)) : Sim drv (Drv.liftD f) (liftRaw g) := by
  intro sD
  simp only [Drv.liftD, liftRaw, viewSt, ← h sD.raw]
  cases f sD.raw <;> exact ⟨rfl, rfl⟩

theorem Sim.create (p : Path) (n : Node) :
    Sim drv (Drv.liftD fun d => drv.create d p n) (liftRaw fun t => rawCreate t p n) :=
  Sim.liftD fun d => drv.create_view d p n

theorem Sim.del (p : Path) :
    Sim drv (Drv.liftD fun d => drv.del d p) (liftRaw fun t => rawDel t p) :=
  Sim.liftD fun d => drv.del_view d p

theorem Sim.move (a b : Path) :
    Sim drv (Drv.liftD fun d => drv.move d a b) (liftRaw fun t => rawMove t a b) :=
  Sim.liftD fun d => drv.move_view d a b

theorem Sim.copy (a b : Path) :
    Sim drv (Drv.liftD fun d => drv.copy d a b) (liftRaw fun t => rawCopy t a b) :=
  Sim.liftD fun d => drv.copy_view d a b

theorem Sim.forEachM {α : Type} (l : List α) {f : α → MD D Unit} {f' : α → M Unit}
    (h : ∀ a, Sim drv (f a) (f' a)) : Sim drv (Drv.forEachM l f) (forEachM l f') := by
  induction l with
  | nil => exact Sim.pure _
  | cons a t ih => exact Sim.bind (h a) fun _ => ih

theorem pkgRegister_sim (pkg : PkgId) (plugins : List SRef) :
    Sim drv (Drv.pkgRegister drv pkg plugins) (pkgRegister pkg plugins) :=
  Sim.bind (Sim.create _ _) fun _ => Sim.modC _

theorem pkgUnregister_sim (pkg : PkgId) :
    Sim drv (Drv.pkgUnregister drv pkg) (pkgUnregister pkg) :=
  Sim.bind (Sim.del _) fun _ => Sim.bind Sim.getView fun s => Sim.bind (Sim.ofOpt _ _) fun info =>
  Sim.bind (Sim.modC _) fun _ => Sim.bind Sim.getView fun s => by
    cases removeProviders s.c.providers pkg info with
    | error e => exact Sim.raise e
    | ok prov =>
      exact Sim.bind (Sim.modC _) fun _ => Sim.bind Sim.getView fun s => Sim.ite (Sim.del _) (Sim.pure _)

theorem schemaRegister_sim (e : Env) (ref : SRef) :
    Sim drv (Drv.schemaRegister drv e ref) (schemaRegister e ref) :=
  -- the loop over the providers, reached from both branches of the `if` before it
  have tail : Sim drv _ _ :=
    Sim.bind Sim.getView fun _ => Sim.bind (Sim.ofOpt _ _) fun provs => Sim.forEachM provs fun _ =>
    Sim.bind Sim.getView fun _ => Sim.bind (Sim.ofOpt _ _) fun _ => Sim.modC _
  Sim.bind Sim.getView fun _ => Sim.ite (Sim.pure _) <|
  Sim.bind (Sim.ofOpt _ _) fun _ => Sim.bind (Sim.create _ _) fun _ => Sim.bind (Sim.create _ _) fun _ =>
  Sim.bind (Sim.modC _) fun _ => Sim.bind Sim.getView fun _ =>
  Sim.ite (Sim.bind (pkgRegister_sim _ _) fun _ => Sim.bind (Sim.modC _) fun _ => tail) tail

theorem schemaUnregister_sim (ref : SRef) :
    Sim drv (Drv.schemaUnregister drv ref) (schemaUnregister ref) :=
  Sim.bind (Sim.del _) fun _ => Sim.bind Sim.getView fun s => Sim.ite Sim.raise_bind <|
  Sim.bind (Sim.modC _) fun _ => Sim.bind Sim.getView fun s => Sim.bind (Sim.ofOpt _ _) fun ps => by
    cases upcRemove ref s.c.schemas s.c.parents s.c.children ps with
    | error e => exact Sim.raise e
    | ok pc =>
      exact Sim.bind (Sim.modC _) fun _ => Sim.bind Sim.getView fun s => Sim.bind (Sim.ofOpt _ _) fun provs =>
        Sim.bind (Sim.forEachM provs fun pkg => Sim.bind Sim.getView fun s => Sim.bind (Sim.ofOpt _ _) fun cur =>
          Sim.bind (Sim.modC _) fun _ => Sim.ite (pkgUnregister_sim pkg) (Sim.pure _)) fun _ =>
        Sim.bind Sim.getView fun s => Sim.ite (Sim.del _) (Sim.pure _)

theorem linkRegister_sim (e : Env) (ref : SRef) (u : Nat) (objPath : Path) :
    Sim drv (Drv.linkRegister drv e ref u objPath) (linkRegister e ref u objPath) :=
  Sim.bind (schemaRegister_sim e ref) fun _ => Sim.bind (Sim.modC _) fun _ => Sim.create _ _

theorem linkUnregister_sim (u : Nat) : Sim drv (Drv.linkUnregister drv u) (linkUnregister u) :=
  Sim.bind Sim.getView fun s => Sim.bind (Sim.ofOpt _ _) fun tp => Sim.ite Sim.raise_bind <|
  Sim.ite Sim.raise_bind <| Sim.bind (Sim.del _) fun _ => Sim.bind (Sim.modC _) fun _ =>
  Sim.bind Sim.getView fun s => Sim.ite (Sim.pure _) <| by
    cases tp.dropLast.getLast? with
    | none => exact Sim.raise _
    | some k =>
      cases k with
      | ep ref =>
        exact Sim.bind (Sim.del _) fun _ => Sim.bind (schemaUnregister_sim ref) fun _ =>
          Sim.bind Sim.getView fun s => Sim.ite (Sim.pure _) (Sim.del _)
      | _ => exact Sim.raise _

theorem linkUpdate_sim (u : Nat) (newTarget : Path) :
    Sim drv (Drv.linkUpdate drv u newTarget) (linkUpdate u newTarget) :=
  Sim.bind Sim.getView fun _ => Sim.bind (Sim.ofOpt _ _) fun _ => Sim.bind (Sim.del _) fun _ => Sim.create _ _

theorem repairMissing_sim (e : Env) (missing : List Path) (update : Bool) :
    Sim drv (Drv.repairMissing drv e missing update) (repairMissing e missing update) :=
  Sim.forEachM missing fun p => by
    cases objOfPath p with
    | none => exact Sim.raise _
    | some ru =>
      exact Sim.bind Sim.getView fun s => Sim.ite (linkUpdate_sim _ _) <|
        Sim.bind Sim.freshUuid fun u' => Sim.bind (Sim.move _ _) fun _ => linkRegister_sim _ _ _ _

theorem Handle.setRaw_sim (e : Env) (h : Handle) (ref : SRef) (tok : String) :
    Sim drv (Drv.Handle.setRaw drv e h ref tok) (Handle.setRaw e h ref tok) :=
  Sim.bind Sim.freshUuid fun _ => Sim.bind (Sim.create _ _) fun _ =>
  Sim.bind (linkRegister_sim _ _ _ _) fun _ => Sim.pure _

theorem Handle.delRaw_sim (h : Handle) (name : String) (unlink : Bool) :
    Sim drv (Drv.Handle.delRaw drv h name unlink) (Handle.delRaw h name unlink) :=
  Sim.bind (Sim.ofOpt _ _) fun _ =>
  have rest : Sim drv _ _ :=
    Sim.bind (Sim.del _) fun _ => Sim.ite (Sim.bind (Sim.del _) fun _ => Sim.pure _) (Sim.pure _)
  Sim.ite (Sim.bind (linkUnregister_sim _) fun _ => rest) rest

theorem Handle.set_sim (e : Env) (h : Handle) (name : String) (ver : Option Ver) (valid : Bool)
    (tok : String) :
    Sim drv (Drv.Handle.set drv e h name ver valid tok) (Handle.set e h name ver valid tok) :=
  Sim.ite Sim.raise_bind <| by
    cases e.requireSchema name ver with
    | error err => exact Sim.raise _
    | ok info => exact Sim.ite Sim.raise_bind (Handle.setRaw_sim _ _ _ _)

theorem Handle.del_sim (h : Handle) (name : String) :
    Sim drv (Drv.Handle.del drv h name) (Handle.del h name) :=
  Sim.ite Sim.raise_bind (Handle.delRaw_sim _ _ _)

theorem Handle.destroy_sim (h : Handle) (unlink : Bool) :
    Sim drv (Drv.Handle.destroy drv h unlink) (Handle.destroy h unlink) := by
  unfold Drv.Handle.destroy Handle.destroy
  generalize h.objs.map (·.1) = ns
  induction ns generalizing h with
  | nil => exact Sim.pure _
  | cons n ns ih => exact Sim.bind (Handle.delRaw_sim _ _ _) fun h' => ih h'

theorem destroyMeta_sim (p : Path) (isDs unlink : Bool) :
    Sim drv (Drv.destroyMeta drv p isDs unlink) (destroyMeta p isDs unlink) :=
  Sim.bind Sim.getView fun _ => Sim.bind (Handle.destroy_sim _ _) fun _ =>
  Sim.ite (Sim.forEachM _ fun _ => Sim.bind Sim.getView fun _ => Handle.destroy_sim _ _) (Sim.pure _)

/-- `find_missing` followed by `repair_missing`, as `move` and `copy` end -/
theorem repair_sim (e : Env) (s : St) (p : Path) (update : Bool) :
    Sim drv
      (match findMissing s p with
        | .error err => Drv.raise err
        | .ok missing => Drv.repairMissing drv e missing update)
      (match findMissing s p with
        | .error err => raise err
        | .ok missing => repairMissing e missing update) := by
  cases findMissing s p with
  | error err => exact Sim.raise _
  | ok missing => exact repairMissing_sim _ _ _

theorem opMove_sim (e : Env) (src dst : Path) : Sim drv (Drv.opMove drv e src dst) (opMove e src dst) :=
  Sim.bind (Sim.guardPath _) fun _ => Sim.bind (Sim.guardPath _) fun _ => Sim.bind Sim.getView fun _ =>
  Sim.bind (Sim.ofOpt _ _) fun _ => Sim.bind (Sim.move _ _) fun _ => Sim.bind Sim.getView fun _ =>
  Sim.bind (Sim.ofOpt _ _) fun _ =>
  Sim.bind (Sim.ite (Sim.bind Sim.getView fun _ => Sim.ite (Sim.bind (Sim.move _ _) fun _ => Sim.pure _)
    (Sim.pure _)) (Sim.pure _)) fun _ =>
  Sim.bind Sim.getView fun _ => Sim.ite (repair_sim _ _ _ _) (Sim.pure _)

theorem opCopy_sim (e : Env) (src dst : Path) (wm : Bool) :
    Sim drv (Drv.opCopy drv e src dst wm) (opCopy e src dst wm) :=
  have rest (k : Bool) : Sim drv _ _ :=
    Sim.ite (Sim.ite (destroyMeta_sim dst false false) (Sim.bind Sim.getView fun s => repair_sim e s dst false))
      (Sim.pure ())
  Sim.bind (Sim.guardPath _) fun _ => Sim.bind Sim.getView fun s => Sim.bind (Sim.ofOpt _ _) fun k =>
  Sim.bind (Sim.guardPath _) fun _ => Sim.bind (Sim.copy _ _) fun _ => Sim.bind Sim.getView fun s =>
  Sim.bind (Sim.ofOpt _ _) fun _ =>
  Sim.ite (Sim.bind (Sim.copy _ _) fun _ => Sim.bind Sim.getView fun s => by
      cases findMissing s (metaBase dst true) with
      | error err => exact Sim.raise_bind
      | ok missing => exact Sim.bind (repairMissing_sim _ _ _) fun _ => rest k)
    (rest k)

theorem metaStep_sim (e : Env) (h : Handle) (o : MetaOp) (sD : StD D) :
    metaStep e h o (viewSt drv sD) =
      ((Drv.metaStep drv e h o sD).1, viewSt drv (Drv.metaStep drv e h o sD).2) := by
  cases o with
  | set n v ok tok =>
    simp only [metaStep, Drv.metaStep, (Handle.set_sim e h n v ok tok).run_eq sD]
    rcases Drv.Handle.set drv e h n v ok tok sD with ⟨_ | _, _⟩ <;> rfl
  | del n =>
    simp only [metaStep, Drv.metaStep, (Handle.del_sim h n).run_eq sD]
    rcases Drv.Handle.del drv h n sD with ⟨_ | _, _⟩ <;> rfl
  | get n v =>
    simp only [metaStep, Drv.metaStep]
    cases Handle.get e (viewSt drv sD) h n v <;> rfl

theorem metaSeqTrace_sim (e : Env) (ops : List MetaOp) (h : Handle) (sD : StD D) :
    metaSeqTrace e h ops (viewSt drv sD) =
      ((Drv.metaSeqTrace drv e h ops sD).1, viewSt drv (Drv.metaSeqTrace drv e h ops sD).2) := by
  induction ops generalizing h sD with
  | nil => rfl
  | cons o os ih => simp only [metaSeqTrace, Drv.metaSeqTrace, metaStep_sim, ih]

theorem metaSeq_sim (e : Env) (h : Handle) (ops : List MetaOp) :
    Sim drv (Drv.metaSeq drv e h ops) (metaSeq e h ops) :=
  fun sD => ⟨rfl, (congrArg Prod.snd (metaSeqTrace_sim e ops h sD)).symm⟩

theorem step_sim (e : Env) (op : Op) : Sim drv (Drv.step drv e op) (step e op) := by
  cases op with
  | createGroup p => exact Sim.bind (Sim.guardPath p) fun _ => Sim.create _ _
  | createDataset p tok => exact Sim.bind (Sim.guardPath p) fun _ => Sim.create _ _
  | onMeta p ops =>
    exact Sim.bind (Sim.guardPath p) fun _ => Sim.bind Sim.getView fun s => Sim.bind (Sim.ofOpt _ _) fun k =>
      metaSeq_sim _ _ _
  | delete p =>
    exact Sim.bind (Sim.guardPath p) fun _ => Sim.bind Sim.getView fun s => Sim.bind (Sim.ofOpt _ _) fun k =>
      Sim.bind (destroyMeta_sim p k true) fun _ => Sim.del _
  | copy src dst wm => exact opCopy_sim e src dst wm
  | move src dst => exact opMove_sim e src dst
  | reopen =>
    exact fun sD => ⟨rfl, congrArg (fun t => St.mk t (reload t) sD.next) (drv.reopen_view sD.raw)⟩
  | patch => exact fun sD => ⟨rfl, congrArg (fun t => St.mk t sD.c sD.next) (drv.patch_view sD.raw)⟩

theorem obs_sim (e : Env) (op : Op) (sD : StD D) :
    Drv.obs drv e op sD = obs e op (viewSt drv sD) := by
  unfold Drv.obs obs
  rw [(step_sim (drv := drv) e op sD).1]
  cases op with
  | onMeta p ops => simp only [metaSeqTrace_sim]
  | _ => rfl

theorem run_sim (e : Env) (h : List Op) (sD : StD D) :
    viewSt drv (Drv.run drv e sD h) = run e (viewSt drv sD) h := by
  induction h generalizing sD with
  | nil => rfl
  | cons op ops ih =>
    unfold Drv.run run
    rw [ih, (step_sim (drv := drv) e op sD).2]

theorem outcomes_sim (ins : Op → Bool) (e : Env) (h : List Op) (sD : StD D) :
    Drv.outcomes drv ins e sD h = outcomes ins e (viewSt drv sD) h := by
  induction h generalizing sD with
  | nil => rfl
  | cons op ops ih =>
    unfold Drv.outcomes outcomes
    rw [ih, (step_sim (drv := drv) e op sD).2, obs_sim]

theorem Except.map_id' {ε α : Type} (x : Except ε α) : x.map (fun a => a) = x := by
  cases x <;> rfl

/-- the plain raw tree as a driver (h5py on one HDF5 file): the view is the state itself -/
def treeDriver : Driver Tree where
  view := fun t => t
  create := rawCreate
  del := rawDel
  move := rawMove
  copy := rawCopy
  patch := fun t => t
  reopen := fun t => t
  create_view := fun _ _ _ => Except.map_id' _
  del_view := fun _ _ => Except.map_id' _
  move_view := fun _ _ _ => Except.map_id' _
  copy_view := fun _ _ _ => Except.map_id' _
  patch_view := fun _ => rfl
  reopen_view := fun _ => rfl

theorem flatten_appendLast (d : List (List RawOp)) (op : RawOp) :
    (appendLast d op).flatten = d.flatten ++ [op] := by
  fun_induction appendLast d op with
  | case1 op => simp
  | case2 l op => simp
  | case3 l l' ls op ih => simp only [List.flatten_cons] at ih ⊢; rw [ih]; simp

theorem replay_append (t : Tree) (l : List RawOp) (op : RawOp) :
    replay t (l ++ [op]) =
      match op.apply (replay t l) with
      | .ok t' => t'
      | .error _ => replay t l := by
  induction l generalizing t with
  | nil =>
    simp only [List.nil_append, replay]
    cases op.apply t <;> rfl
  | cons o l ih =>
    simp only [List.cons_append, replay]
    cases o.apply t <;> exact ih _

theorem plWrite_view (d : List (List RawOp)) (op : RawOp) :
    (plWrite d op).map plView = op.apply (plView d) := by
  unfold plWrite
  cases h : op.apply (plView d) with
  | error e => rfl
  | ok t' =>
    show Except.ok (plView (appendLast d op)) = Except.ok t'
    unfold plView at h ⊢
    rw [flatten_appendLast, replay_append, h]

/-- an IH5-like driver: a list of patch containers, each the log of the successful raw writes
made while it was the most recent one; the view is the overlay (replay of all logs in order);
a patch boundary starts a new, empty container; reopening changes nothing on disk -/
def patchLogDriver : Driver (List (List RawOp)) where
  view := plView
  create := fun d p n => plWrite d (.create p n)
  del := fun d p => plWrite d (.del p)
  move := fun d a b => plWrite d (.move a b)
  copy := fun d a b => plWrite d (.copy a b)
  patch := fun d => d ++ [[]]
  reopen := fun d => d
  create_view := fun d _ _ => plWrite_view d _
  del_view := fun d _ => plWrite_view d _
  move_view := fun d _ _ => plWrite_view d _
  copy_view := fun d _ _ => plWrite_view d _
  patch_view := fun d => by simp [plView]
  reopen_view := fun _ => rfl

end MetadorModel.Container
