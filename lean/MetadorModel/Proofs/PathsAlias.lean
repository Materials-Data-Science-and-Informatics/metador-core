import MetadorModel.Model.PathsAlias
import MetadorModel.Proofs.Paths
/-!
Helper lemmas about `Model/PathsAlias.lean` (typed path values, link-valued assignments, the raw
tree with links) used by `Props/C08.lean`.
-/
namespace MetadorModel.Paths

theorem guardPathV_str (loc : Bool) (s : Str) :
    guardPathV loc (.str s) =
      match guardPath loc s with
      | .ok u => .ok u
      | .error e => .error (.guard e) := by
  simp only [guardPathV, guardPath, isInternalPathV]
  cases isInternalPath s
  · cases loc
    · rfl
    · rcases s with _ | ⟨c, s⟩
      · rfl
      · simp only [↓reduceIte, Bool.false_eq_true]
        split <;> rfl
  · rfl

theorem guardPathV_nonstr (loc : Bool) (v : PathVal) (h : v.isStr = false) :
    guardPathV loc v = .error .notStr := by
  cases v with
  | str s => simp [PathVal.isStr] at h
  | bytes s => rfl
  | other => rfl

theorem guardPathV_reserved (loc : Bool) (s : Str) (h : isInternalPath s = true) :
    guardPathV loc (.str s) = .error (.guard .internalPath) := by
  simp [guardPathV, isInternalPathV, h]

theorem runGuardsV_str (loc ro : Bool) (ss : List Str) (gs : List Guard) :
    runGuardsV loc ro (ss.map PathVal.str) gs =
      match runGuards loc ro ss gs with
      | .ok u => .ok u
      | .error e => .error (.guard e) := by
  induction gs with
  | nil => rfl
  | cons g gs ih =>
    cases g with
    | readOnly =>
      simp only [runGuardsV, runGuards]
      split_ifs
      · rfl
      · exact ih
    | path j =>
      simp only [runGuardsV, runGuards, List.getElem?_map]
      cases hj : ss[j]? with
      | none => rfl
      | some q =>
        simp only [Option.map_some, guardPathV_str]
        cases hq : guardPath loc q with
        | error e => rfl
        | ok u => exact ih

theorem runGuardsV_rejects (loc ro : Bool) (args : List PathVal) (i : Nat) (v : PathVal)
    (hp : args[i]? = some v) (hv : ∃ e, guardPathV loc v = .error e) (gs : List Guard)
    (hg : Guard.path i ∈ gs) : ∃ e, runGuardsV loc ro args gs = .error e := by
  induction gs with
  | nil => cases hg
  | cons g gs ih =>
    rcases List.mem_cons.mp hg with rfl | h
    · obtain ⟨e, he⟩ := hv
      exact ⟨e, by simp only [runGuardsV, hp, he]⟩
    · -- an earlier guard raises, or the remaining ones do
      obtain ⟨e, he⟩ := ih h
      cases g with
      | readOnly => cases ro <;> simp [runGuardsV, he]
      | path j =>
        simp only [runGuardsV]
        split
        · exact ⟨_, rfl⟩
        · split
          · exact ⟨_, rfl⟩
          · exact ⟨e, he⟩

theorem runGuards_reserved (loc ro : Bool) (args : List Str) (i : Nat) (p : Str)
    (hp : args[i]? = some p) (hr : isInternalPath p = true) (gs : List Guard)
    (hg : Guard.path i ∈ gs) : ∃ e, runGuards loc ro args gs = .error e := by
  obtain ⟨e, he⟩ := runGuardsV_rejects loc ro (args.map .str) i (.str p) (by simp [hp])
    ⟨_, guardPathV_reserved loc p hr⟩ gs hg
  rw [runGuardsV_str] at he
  cases h : runGuards loc ro args gs with
  | ok u => rw [h] at he; cases he
  | error e' => exact ⟨e', rfl⟩

theorem resolve_nil (fuel : Nat) (p : Str) : resolve [] fuel p = p := by
  cases fuel <;> rfl

theorem valueRefused_of_link (refused : List String) (h : ∀ ty ∈ linkTypes, ty ∈ refused)
    (v : SetVal) (hv : v.isLink = true) : valueRefused refused v = true := by
  cases v <;> simp [SetVal.isLink] at hv <;>
    simp [valueRefused, SetVal.h5Type] <;> apply h <;> simp [linkTypes]

theorem valueRefused_of_type (refused : List String) (h : ∀ ty ∈ typeTypes, ty ∈ refused)
    (v : SetVal) (hv : v.isType = true) : valueRefused refused v = true := by
  cases v <;> simp [SetVal.isType] at hv <;>
    simp [valueRefused, SetVal.h5Type] <;> apply h <;> simp [typeTypes]

theorem rawSetitem_ok {g : Str} {t t' : LRaw} {name : PathVal} {v : SetVal}
    (h : rawSetitem g t name v = .ok t') :
    (v.isLink = false → t'.links = t.links) ∧ (v.isType = false → t'.types = t.types) := by
  unfold rawSetitem at h
  split at h
  · cases h
  · cases v <;> cases h <;> simp [SetVal.isLink, SetVal.isType]

/-- one assignment through the wrapper either changes nothing or is an accepted raw assignment
of a value that was not refused -/
theorem stepSet_cases (refused : List String) (t : LRaw) (c : SetCall) :
    stepSet refused t c = t ∨ (valueRefused refused c.value = false ∧
      rawSetitem c.g t c.name c.value = .ok (stepSet refused t c)) := by
  unfold stepSet setitemV
  split
  · exact Or.inl rfl
  · split
    · exact Or.inl rfl
    · cases h : rawSetitem c.g t c.name c.value with
      | error e => exact Or.inl rfl
      | ok t' => exact Or.inr ⟨Bool.eq_false_iff.2 ‹_›, rfl⟩

theorem stepSet_links (refused : List String) (h : ∀ ty ∈ linkTypes, ty ∈ refused)
    (t : LRaw) (c : SetCall) : (stepSet refused t c).links = t.links := by
  rcases stepSet_cases refused t c with e | ⟨hr, hok⟩
  · rw [e]
  · exact (rawSetitem_ok hok).1 (Bool.eq_false_iff.2 fun hl =>
      Bool.eq_false_iff.1 hr (valueRefused_of_link refused h _ hl))

theorem stepSet_types (refused : List String) (h : ∀ ty ∈ typeTypes, ty ∈ refused)
    (t : LRaw) (c : SetCall) : (stepSet refused t c).types = t.types := by
  rcases stepSet_cases refused t c with e | ⟨hr, hok⟩
  · rw [e]
  · exact (rawSetitem_ok hok).2 (Bool.eq_false_iff.2 fun hl =>
      Bool.eq_false_iff.1 hr (valueRefused_of_type refused h _ hl))

theorem runSets_field {α : Type} (f : LRaw → α) (refused : List String)
    (hstep : ∀ t c, f (stepSet refused t c) = f t) (t : LRaw) (cs : List SetCall) :
    f (runSets refused t cs) = f t := by
  induction cs generalizing t with
  | nil => rfl
  | cons c cs ih => exact (ih _).trans (hstep t c)

theorem runSets_links (refused : List String) (h : ∀ ty ∈ linkTypes, ty ∈ refused)
    (t : LRaw) (cs : List SetCall) : (runSets refused t cs).links = t.links :=
  runSets_field (·.links) refused (stepSet_links refused h) t cs

theorem runSets_types (refused : List String) (h : ∀ ty ∈ typeTypes, ty ∈ refused)
    (t : LRaw) (cs : List SetCall) : (runSets refused t cs).types = t.types :=
  runSets_field (·.types) refused (stepSet_types refused h) t cs

theorem rawBelow_name (raw : Raw) (g r : Str) (nd : RawNode) (h : (r, nd) ∈ rawBelow raw g) :
    nd.name = childName g r := by
  simp only [rawBelow, List.mem_filterMap, Option.map_eq_some_iff, Prod.mk.injEq] at h
  obtain ⟨nd', _, r', hrel, rfl, rfl⟩ := h
  rw [relName_eq g _ _ hrel, childName]
  split <;> simp

theorem keysL_nolinks (t : LRaw) (hl : t.links = []) (fuel : Nat) (g : Str) :
    keysL t fuel g = keys t.nodes g := by
  unfold keysL keys items
  simp only [hl, resolve_nil, linkChildren, List.filterMap_nil, List.append_nil]
  rw [List.filter_map]
  congr 1
  apply List.filter_congr
  intro p hp
  have hb : p ∈ rawBelow t.nodes g := (List.mem_filter.mp hp).1
  simp [Function.comp, rawBelow_name t.nodes g p.1 p.2 hb]

end MetadorModel.Paths
