import MetadorModel.Model.RecordStub
import MetadorModel.Proofs.RecordOpen
/-! `__exit__`, `create_stub` and the merge refused on stubs honour the contract of C02; histories
without them are keyworded histories. -/
namespace MetadorModel.Record
open MetadorModel.FindFiles

theorem createStub_spec (s : State) (n mf : Name) :
    Refused s (createStub s n mf) ∨
    (getF s.disk (baseFile n) = none ∧
      Adds s.disk (createStub s n mf).st.disk (baseFile n) (createStub s n mf).W ∧
      hasWritable (createStub s n mf).st.h = false) := by
  generalize hr : createStub s n mf = r
  unfold createStub at hr
  refine guard (by decide) hr fun _ hr => ?_
  split at hr
  · exact .inl (hr ▸ refused rfl rfl (Nat.le_refl _) (by decide))
  · exact .inl (hr ▸ refused rfl rfl (Nat.le_refl _) (by decide))
  split at hr
  · exact .inl (hr ▸ refused rfl rfl (Nat.le_refl _) (by decide))
  next src ids _ =>
  dsimp only at hr
  rcases createRec_notrunc s true n [] with hf | ⟨_, _, hfresh, heq⟩
  · split at hr
    · next ho => exact absurd ho hf.1.1
    · exact .inl (hr ▸ hf)
  rw [heq] at hr
  dsimp only at hr
  have hp := payloadOf_setPayload _ _ _ _ ids (getF_setF_eq s.disk (baseFile n) (.cont (newBaseUB s.next) []))
  rcases commitMF_spec (stubPrep ⟨setF s.disk (baseFile n) (.cont (newBaseUB s.next) []), freshHandle true n s.next,
      s.next + 2⟩ (baseFile n) (stubUB src) ids)
    with hf | ⟨f, ub, p, h1, _, _, _, _, _, hd, hh, _, hrm, hW⟩
  · exact absurd (commitMF_out_ok _ rfl rfl rfl rfl hp) hf.1.1
  cases h1
  subst hr
  refine .inr ⟨hfresh, ⟨fun g h1 h2 => ?_, .inr ⟨?_, s.next + 2, s.next + 2 + 1, ?_⟩, fun g hg => ?_, ?_⟩, ?_⟩
  · show getF (commitMF _).st.disk g = _
    rw [hd, getF_setF_ne _ _ _ _ h2, getF_setF_ne _ _ _ _ h1]
    exact (getF_setPayload_ne _ _ _ _ h1).trans (getF_setF_ne _ _ _ _ h1)
  · simp only [Res.W, hrm, List.append_nil, List.cons_append, List.mem_cons]
    exact .inr (by simpa [Res.W, hrm] using (hW _).mpr (.inr rfl))
  · show getF (commitMF _).st.disk _ = _
    rw [hd, getF_setF_eq]
    rfl
  · simp only [Res.W, hrm, List.append_nil, List.cons_append, List.mem_cons] at hg
    exact hg.elim .inl (fun h => (hW g).mp (by simpa [Res.W, hrm] using h))
  · simp [Res.W]
  · show hasWritable (commitMF _).st.h = false
    rw [hh]; rfl

theorem createStub_lawful (s : State) (n mf : Name) : Lawful s (createStub s n mf) := by
  rcases createStub_spec s n mf with hf | ⟨hfresh, hadd, hnw⟩
  · exact hf.1.lawful
  · exact hadd.lawful ⟨hfresh, baseFile_last _⟩ (fun _ h => by rw [hnw] at h; cases h)

theorem stepS_frame (t : StS) (op : OpS) : Frame t.s (stepS t op) := by
  unfold stepS
  split
  · exact fun _ _ => rfl
  · cases op with
    | kw k => exact stepK_frame t.s k
    | exit e => exact (close_lawful t.s true).1
    | createStub n mf => exact (createStub_lawful t.s n mf).1

theorem stepS_lawful (t : StS) (op : OpS) (hsafe : op.safe = true) : Lawful t.s (stepS t op) := by
  unfold stepS
  split
  · exact (failed_fail rfl rfl (by decide)).lawful
  · cases op with
    | kw k => exact stepK_lawful t.s k hsafe
    | exit e => exact close_lawful t.s true
    | createStub n mf => exact createStub_lawful t.s n mf

/-- without stubs no merge is refused: a keyworded call is a call of the stub model -/
theorem stepS_kw (s : State) (k : OpK) : stepS { s := s } (.kw k) = stepK s k := by
  have : refusedMerge { s := s } (.kw k) = false := by
    unfold refusedMerge
    split
    · simp [isStubUB]
      intro _ a b _
      cases b.ext <;> rfl
    · rfl
  simp [stepS, this]

theorem runS_kw (ops : List OpK) (s : State) : runS { s := s } (ops.map OpS.kw) = { s := runK s ops } := by
  induction ops generalizing s with
  | nil => rfl
  | cons o r ih =>
    have h1 : afterS { s := s } (.kw o) = { s := (stepK s o).st } := by
      simp only [afterS, stepS_kw]
    simp only [List.map, runS, runK, h1]
    exact ih _

end MetadorModel.Record
