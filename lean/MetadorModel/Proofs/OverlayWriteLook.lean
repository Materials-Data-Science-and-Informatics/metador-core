import MetadorModel.Proofs.OverlayView
/-!
# C01 write side: what the outcome of `look` says about the view

General facts (no invariant needed) relating the three outcomes of `_node_seq` (`found`,
`part`, `insideValue`) to `viewKind`, the refinement relation `Rep` between a record and a
plain tree, what `Rep` implies for the tree (`Spec` preconditions), and the point-wise reading
(`kindAt`, `attrAt`) of the list operations the plain tree is built from.
-/
namespace MetadorModel.Overlay
open MetadorModel.Tree
variable {V : Type}

/-- the record `r` shows exactly the plain tree `t` (point-wise: kinds/values and attributes) -/
def Rep (r : Rec V) (t : Tree V) : Prop :=
  ∀ q, viewKind r q = kindAt t q ∧ ∀ k, viewAttr r q k = attrAt t q k

theorem plainKind_group_of_isGroup {kd : RKind V} (h : kd.isGroup = true) : plainKind kd = some .group := by
  cases kd <;> simp_all [RKind.isGroup, plainKind]

theorem plainKind_data_of {kd : RKind V} (h1 : kd.isDel = false) (h2 : kd.isGroup = false) :
    ∃ v, plainKind kd = some (.data v) := by
  cases kd <;> simp_all [RKind.isDel, RKind.isGroup, plainKind]

theorem isGroup_of_isVirtual {kd : RKind V} (h : kd.isVirtual = true) : kd.isGroup = true := by
  cases kd <;> simp_all [RKind.isVirtual, RKind.isGroup]

theorem lookFrom_part_props (r : Rec V) (rest : Path) : ∀ (pre : Path) (c0 : Nat) (n0 : RNode V) (x y : Path),
    lookFrom r pre c0 n0 rest = .part x y →
    ∃ a c n k y', rest = a ++ y ∧ x = pre ++ a ∧ y = k :: y' ∧ lookFrom r pre c0 n0 a = .found c n ∧
      n.kind.isGroup = true ∧ child r (x ++ [k]) c = none := by
  induction rest with
  | nil => intro pre c0 n0 x y h; simp [lookFrom] at h
  | cons k rest ih =>
    intro pre c0 n0 x y h
    simp only [lookFrom] at h
    by_cases hg : n0.kind.isGroup = true
    · simp only [hg, ↓reduceIte] at h
      cases hc : child r (pre ++ [k]) c0 with
      | none =>
        simp only [hc] at h
        simp only [Look.part.injEq] at h
        obtain ⟨rfl, rfl⟩ := h
        exact ⟨[], c0, n0, k, rest, by simp, by simp, rfl, by simp [lookFrom], hg, hc⟩
      | some z =>
        obtain ⟨i, n⟩ := z
        simp only [hc] at h
        obtain ⟨a, c, m, k', y', h1, h2, h3, h4, h5, h6⟩ := ih _ _ _ _ _ h
        refine ⟨k :: a, c, m, k', y', by simp [h1], by simp [h2], h3, ?_, h5, h6⟩
        simp only [lookFrom, hg, ↓reduceIte, hc]
        exact h4
    · simp [hg] at h

theorem lookFrom_inside_props (r : Rec V) (rest : Path) : ∀ (pre : Path) (c0 : Nat) (n0 : RNode V),
    lookFrom r pre c0 n0 rest = .insideValue →
    ∃ a s c n, rest = a ++ s ∧ s ≠ [] ∧ lookFrom r pre c0 n0 a = .found c n ∧ n.kind.isGroup = false := by
  induction rest with
  | nil => intro pre c0 n0 h; simp [lookFrom] at h
  | cons k rest ih =>
    intro pre c0 n0 h
    simp only [lookFrom] at h
    by_cases hg : n0.kind.isGroup = true
    · simp only [hg, ↓reduceIte] at h
      cases hc : child r (pre ++ [k]) c0 with
      | none => simp [hc] at h
      | some z =>
        obtain ⟨i, n⟩ := z
        simp only [hc] at h
        obtain ⟨a, s, c, m, h1, h2, h3, h4⟩ := ih _ _ _ h
        refine ⟨k :: a, s, c, m, by simp [h1], h2, ?_, h4⟩
        simp only [lookFrom, hg, ↓reduceIte, hc]
        exact h3
    · exact ⟨[], k :: rest, c0, n0, by simp, by simp, by simp [lookFrom], by simpa using hg⟩

theorem look_found_props (r : Rec V) (q : Path) (c : Nat) (n : RNode V) (h : look r q = .found c n) :
    c ≤ r.length ∧ n.kind.isDel = false :=
  lookFrom_found_props r q [] 0 vnode c n h (Nat.zero_le _) rfl

theorem viewKind_ne_none_of_found {r : Rec V} {q : Path} {c : Nat} {n : RNode V} (h : look r q = .found c n) :
    viewKind r q ≠ none := by
  rw [(view_of_found h).1]
  exact plainKind_ne_none_of_notDel (look_found_props r q c n h).2

theorem found_of_viewKind (r : Rec V) (q : Path) (h : viewKind r q ≠ none) : ∃ c n, look r q = .found c n := by
  unfold viewKind at h
  cases hl : look r q with
  | found c n => exact ⟨c, n, rfl⟩
  | part _ _ => simp [hl] at h
  | insideValue => simp [hl] at h

theorem viewKind_none_of_unmentioned (r : Rec V) (x : Path) (hx : x ≠ []) (h : ∀ c ∈ r, aget x c = none) :
    viewKind r x = none := by
  refine (view_of_not_found ?_).1
  intro c n hl
  obtain ⟨ct, hm, hne⟩ := lookFrom_found_mem r x [] 0 vnode c n hl hx
  exact hne (h ct hm)

theorem viewAttr_none_of_viewKind_none (r : Rec V) (q : Path) (h : viewKind r q = none) (k : Key) :
    viewAttr r q k = none := by
  unfold viewAttr
  cases hl : look r q with
  | found c n => exact absurd h (viewKind_ne_none_of_found hl)
  | part _ _ => rfl
  | insideValue => rfl

theorem look_append (r : Rec V) (b rest : Path) :
    look r (b ++ rest) = match look r b with
      | .found c cur => lookFrom r b c cur rest
      | .part x y => .part x (y ++ rest)
      | .insideValue => .insideValue :=
  lookFrom_append r b rest [] 0 vnode

theorem look_missing_child (r : Rec V) (par : Path) (k : Key) (hp : viewKind r par = some .group)
    (hk : viewKind r (par ++ [k]) = none) : look r (par ++ [k]) = .part par [k] := by
  obtain ⟨i, cur, hl⟩ := found_of_viewKind r par (by rw [hp]; exact Option.some_ne_none _)
  have hg : cur.kind.isGroup = true :=
    isGroup_of_plainKind ((view_of_found hl).1.symm.trans hp)
  have happ := look_append r par [k]
  rw [hl] at happ
  simp only [lookFrom, hg, if_true] at happ
  cases hc : child r (par ++ [k]) i with
  | none => rw [happ, hc]
  | some x =>
    rw [hc] at happ
    exact absurd hk (viewKind_ne_none_of_found happ)

theorem view_prefix_group (r : Rec V) (x s : Path) (hs : s ≠ []) (h : viewKind r (x ++ s) ≠ none) :
    viewKind r x = some .group := by
  obtain ⟨c, n, hl⟩ := found_of_viewKind r _ h
  rw [look_append] at hl
  cases hx : look r x with
  | found c' cur =>
    rw [hx] at hl
    simp only at hl
    cases s with
    | nil => exact absurd rfl hs
    | cons k s' =>
      simp only [lookFrom] at hl
      by_cases hg : cur.kind.isGroup = true
      · rw [(view_of_found hx).1]; exact plainKind_group_of_isGroup hg
      · simp [hg] at hl
  | part _ _ => rw [hx] at hl; simp at hl
  | insideValue => rw [hx] at hl; simp at hl

theorem view_below_none (r : Rec V) (x s : Path) (h : viewKind r x = none) : viewKind r (x ++ s) = none := by
  by_cases hs : s = []
  · subst hs; simpa using h
  · by_contra hne
    have := view_prefix_group r x s hs hne
    rw [h] at this; cases this

theorem view_below_data (r : Rec V) (x s : Path) (v : V) (hs : s ≠ []) (h : viewKind r x = some (.data v)) :
    viewKind r (x ++ s) = none := by
  by_contra hne
  have := view_prefix_group r x s hs hne
  rw [h] at this; cases this

theorem look_part_props (r : Rec V) (q x y : Path) (h : look r q = .part x y) :
    ∃ k y', q = x ++ y ∧ y = k :: y' ∧ viewKind r x = some .group ∧ viewKind r (x ++ [k]) = none := by
  obtain ⟨a, c, n, k, y', h1, h2, h3, h4, h5, h6⟩ := lookFrom_part_props r q [] 0 vnode x y h
  simp only [List.nil_append] at h2
  subst h2
  have hx : look r x = .found c n := h4
  refine ⟨k, y', h1, h3, ?_, ?_⟩
  · rw [(view_of_found hx).1]; exact plainKind_group_of_isGroup h5
  · refine (view_of_not_found ?_).1
    intro c' n' hl
    rw [look_append, hx] at hl
    simp [lookFrom, h5, h6] at hl

theorem look_inside_props (r : Rec V) (q : Path) (h : look r q = .insideValue) :
    ∃ x s v, q = x ++ s ∧ s ≠ [] ∧ viewKind r x = some (.data v) := by
  obtain ⟨a, s, c, n, h1, h2, h3, h4⟩ := lookFrom_inside_props r q [] 0 vnode h
  have hx : look r a = .found c n := h3
  obtain ⟨v, hv⟩ := plainKind_data_of (look_found_props r a c n hx).2 h4
  exact ⟨a, s, v, h1, h2, by rw [(view_of_found hx).1]; exact hv⟩

theorem look_part_first (r : Rec V) (pre : Path) (k : Key) (more : Path)
    (h : look r (pre ++ k :: more) = .part pre (k :: more)) : look r (pre ++ [k]) = .part pre [k] := by
  obtain ⟨a, c, n, k', y', h1, h2, h3, h4, h5, h6⟩ := lookFrom_part_props r _ [] 0 vnode _ _ h
  simp only [List.nil_append] at h2
  subst h2
  simp only [List.cons.injEq] at h3
  obtain ⟨rfl, rfl⟩ := h3
  have hx : look r pre = .found c n := h4
  rw [look_append, hx]
  simp [lookFrom, h5, h6]

theorem viewKind_nil (q : Path) (hq : q ≠ []) : viewKind ([] : Rec V) q = none := by
  cases q with
  | nil => exact absurd rfl hq
  | cons a q => rfl

theorem viewAttr_nil (q : Path) (k : Key) : viewAttr ([] : Rec V) q k = none := by
  cases q with
  | nil => rfl
  | cons a q => rfl

theorem attrFind_idx_lt (q : Path) (k : Key) (c : Nat) (r : Rec V) (i : Nat) (v : Option V)
    (h : attrFind q k c r = some (i, v)) : i < r.length := by
  induction r with
  | nil => simp [attrFind] at h
  | cons p rest ih =>
    simp only [attrFind] at h
    split at h
    · simp at h
    · split at h
      · have := ih h; simp; omega
      · split at h
        · simp at h; simp; omega
        · have := ih h; simp; omega

theorem kindAt_none_iff (t : Tree V) (q : Path) : kindAt t q = none ↔ aget q t = none := by
  unfold kindAt; cases aget q t <;> simp

theorem Rep.parent {r : Rec V} {t : Tree V} (h : Rep r t) (x s : Path) (hs : s ≠ [])
    (hq : kindAt t (x ++ s) ≠ none) : kindAt t x = some .group := by
  rw [← (h _).1] at hq
  rw [← (h _).1]
  exact view_prefix_group r x s hs hq

theorem Rep.node {r : Rec V} {t : Tree V} (h : Rep r t) {p : Path} (hp : viewKind r p ≠ none) :
    ∃ n, aget p t = some n := by
  rw [(h p).1] at hp
  exact Option.ne_none_iff_exists'.1 (fun hn => hp ((kindAt_none_iff t p).2 hn))

theorem Rep.absent {r : Rec V} {t : Tree V} (h : Rep r t) {p : Path} (hp : viewKind r p = none) :
    aget p t = none := by
  rw [← kindAt_none_iff, ← (h p).1]; exact hp

theorem Rep.below_none {r : Rec V} {t : Tree V} (h : Rep r t) (x s : Path)
    (hq : kindAt t x = none) : aget (x ++ s) t = none :=
  h.absent (view_below_none r x s ((h x).1.trans hq))

theorem isData_iff (t : Tree V) (q : Path) : isData (aget q t) = true ↔ ∃ v, kindAt t q = some (.data v) := by
  unfold kindAt isData
  cases aget q t with
  | none => simp
  | some n =>
    obtain ⟨kd, as⟩ := n
    cases kd <;> simp

theorem checkFresh_ok_iff (t : Tree V) (d : Path) : Spec.checkFresh t d = .ok () ↔
    d ≠ [] ∧ aget d t = none ∧ ∀ y ∈ properPrefixes d, ∀ v, kindAt t y ≠ some (.data v) := by
  have hanc : ancestorsOk t d = true ↔ ∀ y ∈ properPrefixes d, ∀ v, kindAt t y ≠ some (.data v) := by
    unfold ancestorsOk
    rw [List.all_eq_true]
    constructor
    · intro h y hy v hk
      have := h y hy
      rw [(isData_iff t y).2 ⟨v, hk⟩] at this; cases this
    · intro h y hy
      cases hd : isData (aget y t) with
      | false => rfl
      | true => obtain ⟨v, hv⟩ := (isData_iff t y).1 hd; exact absurd hv (h y hy v)
  unfold Spec.checkFresh
  constructor
  · intro h
    by_cases h1 : d = []
    · simp [h1] at h
    · cases h2 : aget d t with
      | some n => simp [h1, h2] at h
      | none =>
        by_cases h3 : ancestorsOk t d = true
        · exact ⟨h1, rfl, hanc.1 h3⟩
        · simp [h1, h2, h3] at h
  · rintro ⟨h1, h2, h3⟩
    simp [h1, h2, hanc.2 h3]

theorem Rep.checkFresh_ok {r : Rec V} {t : Tree V} (h : Rep r t) (pre : Path) (k : Key) (more : Path)
    (hpre : viewKind r pre = some .group) (hk : viewKind r (pre ++ [k]) = none) :
    Spec.checkFresh t (pre ++ k :: more) = .ok () := by
  have hnone : ∀ s, aget (pre ++ [k] ++ s) t = none := fun s =>
    h.below_none (pre ++ [k]) s (by rw [← (h _).1]; exact hk)
  refine (checkFresh_ok_iff t _).2 ⟨by simp, by simpa using hnone more, fun x hx v hv => ?_⟩
  obtain ⟨s, hs, hxs⟩ := (mem_properPrefixes x _).1 hx
  -- `x` is a prefix of `pre` (then a group) or extends `pre ++ [k]` (then absent)
  rcases List.append_eq_append_iff.1 hxs with ⟨a', h5, h6⟩ | ⟨c', h5, h6⟩
  · cases a' with
    | nil =>
      simp only [List.append_nil] at h5; subst h5
      rw [← (h _).1, hpre] at hv; cases hv
    | cons k' a'' =>
      simp only [List.cons_append, List.cons.injEq] at h6
      obtain ⟨rfl, _⟩ := h6
      have := hnone a''
      rw [h5] at hv
      have hx' : pre ++ k :: a'' = pre ++ [k] ++ a'' := by simp
      rw [hx', (kindAt_none_iff _ _).2 this] at hv; cases hv
  · by_cases hc : c' = []
    · subst hc
      simp only [List.append_nil] at h5; subst h5
      rw [← (h _).1, hpre] at hv; cases hv
    · have := view_prefix_group r x c' hc (by rw [← h5, hpre]; simp)
      rw [← (h _).1, this] at hv; cases hv

theorem Rep.checkFresh_exists {r : Rec V} {t : Tree V} (h : Rep r t) (q : Path)
    (hq : viewKind r q ≠ none) : ∃ e, Spec.checkFresh t q = .error e := by
  unfold Spec.checkFresh
  by_cases h1 : q = []
  · exact ⟨.exists_, by simp [h1]⟩
  · obtain ⟨n, hn⟩ := h.node hq
    exact ⟨.exists_, by simp [h1, hn]⟩

theorem Rep.checkFresh_inside {r : Rec V} {t : Tree V} (h : Rep r t) (x s : Path) (v : V) (hs : s ≠ [])
    (hx : viewKind r x = some (.data v)) : ∃ e, Spec.checkFresh t (x ++ s) = .error e := by
  unfold Spec.checkFresh
  by_cases h1 : x ++ s = []
  · exact ⟨.exists_, by simp [h1]⟩
  · by_cases h2 : (aget (x ++ s) t).isSome = true
    · exact ⟨.exists_, by simp [h1, h2]⟩
    · have h3 : ancestorsOk t (x ++ s) = false := by
        unfold ancestorsOk
        rw [List.all_eq_false]
        refine ⟨x, (mem_properPrefixes x _).2 ⟨s, hs, rfl⟩, ?_⟩
        have : isData (aget x t) = true := (isData_iff t x).2 ⟨v, by rw [← (h _).1]; exact hx⟩
        simp [this]
      exact ⟨.insideValue, by simp [h1, h2, h3]⟩

theorem kindAt_aput (t : Tree V) (p q : Path) (nd : Node V) :
    kindAt (aput p nd t) q = if q = p then some nd.kind else kindAt t q := by
  unfold kindAt; rw [aget_aput]; split <;> rfl

theorem attrAt_aput (t : Tree V) (p q : Path) (nd : Node V) (k : Key) :
    attrAt (aput p nd t) q k = if q = p then aget k nd.attrs else attrAt t q k := by
  unfold attrAt; rw [aget_aput]; split <;> rfl

theorem kindAt_aput_attrs (t : Tree V) (p q : Path) (n : Node V) (as : List (Key × V)) (hn : aget p t = some n) :
    kindAt (aput p { n with attrs := as } t) q = kindAt t q := by
  rw [kindAt_aput]
  split
  · next hq => subst hq; simp [kindAt, hn]
  · rfl

/-- kind of `q` after the missing ancestors of `d` were created -/
def withAnc (t : Tree V) (d q : Path) : Option (NKind V) :=
  match kindAt t q with
  | some kd => some kd
  | none => if q ∈ properPrefixes d then some .group else none

theorem kindAt_removeSub (t : Tree V) (p q : Path) :
    kindAt (removeSub p t) q = if isPre p q then none else kindAt t q := by
  unfold kindAt; rw [aget_removeSub]; split <;> rfl

/-- what is read at a path: the kind and the attributes as a function of the key -/
abbrev NodeObs (V : Type) := Option (NKind V) × (Key → Option V)

def NodeObs.none : NodeObs V := (Option.none, fun _ => Option.none)
def obsT (t : Tree V) (q : Path) : NodeObs V := (kindAt t q, attrAt t q)
def obsR (r : Rec V) (q : Path) : NodeObs V := (viewKind r q, viewAttr r q)

theorem NodeObs.eq_iff {a b : NodeObs V} : a = b ↔ a.1 = b.1 ∧ ∀ k, a.2 k = b.2 k := by
  rw [Prod.ext_iff, funext_iff]

theorem rep_iff (r : Rec V) (t : Tree V) : Rep r t ↔ ∀ q, obsR r q = obsT t q :=
  ⟨fun h q => NodeObs.eq_iff.2 (h q), fun h q => NodeObs.eq_iff.1 (h q)⟩

theorem obsT_aput (t : Tree V) (p q : Path) (nd : Node V) :
    obsT (aput p nd t) q = if q = p then (some nd.kind, fun k => aget k nd.attrs) else obsT t q := by
  unfold obsT kindAt attrAt; rw [aget_aput]; split <;> rfl

theorem obsT_removeSub (t : Tree V) (p q : Path) :
    obsT (removeSub p t) q = if isPre p q then NodeObs.none else obsT t q := by
  unfold obsT kindAt attrAt; rw [aget_removeSub]; split <;> rfl

theorem obsT_ensure (t : Tree V) (p q : Path) :
    obsT (ensure emptyGroup p t) q = (withAnc t p q, attrAt t q) := by
  unfold obsT withAnc kindAt attrAt; rw [aget_ensure]
  cases aget q t with
  | some n => rfl
  | none => by_cases hm : q ∈ properPrefixes p <;> simp [hm, emptyGroup, aget]

theorem kindAt_ensure (t : Tree V) (p q : Path) : kindAt (ensure emptyGroup p t) q = withAnc t p q :=
  congrArg Prod.fst (obsT_ensure t p q)

theorem attrAt_absent (t : Tree V) (q : Path) (h : aget q t = Option.none) : attrAt t q = fun _ => Option.none := by
  funext k; simp [attrAt, h]

theorem obsT_absent (t : Tree V) (q : Path) (h : aget q t = Option.none) : obsT t q = NodeObs.none := by
  unfold obsT kindAt attrAt; rw [h]; rfl
end MetadorModel.Overlay
