import MetadorModel.Proofs.ContainerDrvEqv
/-!
# Cache equivalence is a congruence for every container operation (C09, reopen points)

A small relational program logic for the state-and-exception monad `M`:
`Cong R m m' R'` — started in `R`-related states, `m` and `m'` return the same value or raise
the same error, and leave `R'`-related states (`ObsEq`-related ones when they raise).
The two computations are always two instances of the same model function; they differ only in
the state snapshots (`let s ← getSt`) they have read. No invariant is assumed: every cache
read is shown to give the same answer in related states, syntactically.

This file: the rules, and `TOCPackages`/`TOCSchemas`, whose intermediate states need the finer
relation `StRel U P`; `ContainerDrvCongOps.lean` continues with `ObsEq` up to `obsEq_congruent`.
-/
namespace MetadorModel.Container

inductive ResRel {α : Type} (R' : St → St → Prop) : Res α → Res α → Prop
  | ok (a : α) {t t' : St} : R' t t' → ResRel R' (.ok a, t) (.ok a, t')
  | err (e : Err) {t t' : St} : ObsEq t t' → ResRel R' (.error e, t) (.error e, t')

theorem ResRel.fst_eq {α : Type} {R' : St → St → Prop} {x y : Res α} (h : ResRel R' x y) :
    x.1 = y.1 := by cases h <;> rfl

theorem ResRel.obsEq {α : Type} {x y : Res α} (h : ResRel ObsEq x y) : ObsEq x.2 y.2 := by
  cases h <;> assumption

def Cong {α : Type} (R : St → St → Prop) (m m' : M α) (R' : St → St → Prop) : Prop :=
  ∀ s s', R s s' → ResRel R' (m s) (m' s')

section Rules
variable {α β : Type} {R R' R1 R2 : St → St → Prop}

theorem Cong.pure (a : α) (h : ∀ s s', R s s' → R' s s') :
    Cong R (Pure.pure a : M α) (Pure.pure a) R' :=
  fun s s' hs => .ok a (h s s' hs)

theorem Cong.bind {m m' : M α} {f f' : α → M β} (h : Cong R m m' R1)
    (hf : ∀ a, Cong R1 (f a) (f' a) R2) : Cong R (m >>= f) (m' >>= f') R2 := by
  intro s s' hs
  have h1 := h s s' hs
  show ResRel R2 (M.bind m f s) (M.bind m' f' s')
  unfold M.bind
  generalize m s = x at h1 ⊢
  generalize m' s' = x' at h1 ⊢
  cases h1 with
  | ok a ht => exact hf a _ _ ht
  | err e ht => exact .err e ht

theorem Cong.mono_post {m m' : M α} (h : Cong R m m' R1) (hp : ∀ s s', R1 s s' → R2 s s') :
    Cong R m m' R2 := by
  intro s s' hs
  have h1 := h s s' hs
  generalize m s = x at h1 ⊢
  generalize m' s' = x' at h1 ⊢
  cases h1 with
  | ok a ht => exact .ok a (hp _ _ ht)
  | err e ht => exact .err e ht

theorem Cong.getSt_bind {f f' : St → M α} (h : ∀ s s', R s s' → Cong R (f s) (f' s') R') :
    Cong R (getSt >>= f) (getSt >>= f') R' :=
  fun s s' hs => h s s' hs s s' hs

theorem Cong.raise (e : Err) (h : ∀ s s', R s s' → ObsEq s s') :
    Cong R (raise e : M α) (raise e) R' :=
  fun s s' hs => .err e (h s s' hs)

theorem Cong.raise_bind (e : Err) (h : ∀ s s', R s s' → ObsEq s s') {f f' : α → M β} :
    Cong R (Container.raise e >>= f) (Container.raise e >>= f') R' :=
  fun s s' hs => .err e (h s s' hs)

theorem Cong.ofOpt (e : Err) (o : Option α) (h : ∀ s s', R s s' → ObsEq s s') :
    Cong R (ofOpt e o) (ofOpt e o) R := by
  cases o with
  | none => exact Cong.raise e h
  | some a => exact Cong.pure a (fun _ _ h => h)

theorem Cong.ofOpt_bind (e : Err) (o : Option α) (h : ∀ s s', R s s' → ObsEq s s') {f f' : α → M β}
    (hk : ∀ a, o = some a → Cong R (f a) (f' a) R') :
    Cong R (Container.ofOpt e o >>= f) (Container.ofOpt e o >>= f') R' := by
  cases o with
  | none => exact fun s s' hs => .err e (h s s' hs)
  | some a => exact fun s s' hs => hk a rfl s s' hs

theorem Cong.ofOpt_rel {γ : Type} {V : γ → γ → Prop} (e : Err) {o o' : Option γ} (ho : OptRel V o o')
    (h : ∀ s s', R s s' → ObsEq s s') {f f' : γ → M β}
    (hk : ∀ a a', V a a' → Cong R (f a) (f' a') R') :
    Cong R (Container.ofOpt e o >>= f) (Container.ofOpt e o' >>= f') R' := by
  cases ho with
  | none => exact fun s s' hs => .err e (h s s' hs)
  | some hv => exact fun s s' hs => hk _ _ hv s s' hs

theorem Cong.modC {f f' : Caches → Caches}
    (h : ∀ s s', R s s' → R' { s with c := f s.c } { s' with c := f' s'.c }) :
    Cong R (modC f) (modC f') R' :=
  fun s s' hs => .ok () (h s s' hs)

theorem Cong.liftRaw (g : Tree → Except Err Tree) (hraw : ∀ s s', R s s' → s.raw = s'.raw)
    (hE : ∀ s s', R s s' → ObsEq s s')
    (hok : ∀ s s' t, R s s' → R' { s with raw := t } { s' with raw := t }) :
    Cong R (liftRaw g) (liftRaw g) R' := by
  intro s s' hs
  unfold MetadorModel.Container.liftRaw
  rw [← hraw s s' hs]
  cases g s.raw with
  | ok t => exact .ok () (hok s s' t hs)
  | error e => exact .err e (hE s s' hs)

theorem Cong.forEachM (l : List α) {f f' : α → M Unit} (h : ∀ a, a ∈ l → Cong R (f a) (f' a) R) :
    Cong R (forEachM l f) (forEachM l f') R := by
  induction l with
  | nil => exact Cong.pure _ (fun _ _ h => h)
  | cons a t ih =>
    unfold MetadorModel.Container.forEachM
    exact Cong.bind (h a (by simp)) (fun _ => ih (fun b hb => h b (by simp [hb])))

theorem Cong.ite {c : Prop} [Decidable c] {a b a' b' : M α} (ha : Cong R a a' R') (hb : Cong R b b' R') :
    Cong R (if c then a else b) (if c then a' else b') R' := by
  split
  · exact ha
  · exact hb

end Rules

section CRelUpd
variable {U P : PkgId → Prop}

theorem CRel.setUsed {c c' : Caches} (h : CRel U P c c') (pkg : PkgId) {v v' : List SRef}
    (hv : MemEq v v') :
    CRel U P { c with used := alSet c.used pkg v } { c' with used := alSet c'.used pkg v' } :=
  { h with used := fun pk hU => OptRel.alGet_alSet pkg hv fun _ => h.used pk hU }

theorem CRel.newUsed {c c' : Caches} (h : CRel U P c c') (pkg : PkgId) :
    CRel (fun pk => U pk ∨ pk = pkg) P { c with used := alSet c.used pkg [] }
      { c' with used := alSet c'.used pkg [] } :=
  { h with used := fun pk hU => OptRel.alGet_alSet pkg (MemEq.refl _) fun hne =>
      hU.elim (h.used pk) fun he => absurd he hne }

theorem StRel.setRaw {s s' : St} (h : StRel U P s s') (t : Tree) :
    StRel U P { s with raw := t } { s' with raw := t } := { h with raw := rfl }

theorem Cong.liftRaw_StRel (hPU : ∀ pk, P pk → U pk) (g : Tree → Except Err Tree) :
    Cong (StRel U P) (Container.liftRaw g) (Container.liftRaw g) (StRel U P) :=
  Cong.liftRaw g (fun _ _ h => h.raw) (fun _ _ h => h.toObsEq hPU) (fun _ _ t h => h.setRaw t)

end CRelUpd

section Low
variable {U P : PkgId → Prop}

theorem pkgRegister_cong (hPU : ∀ pk, P pk → U pk) (pkg : PkgId) (plugins : List SRef) :
    Cong (StRel U P) (pkgRegister pkg plugins) (pkgRegister pkg plugins)
      (StRel U (fun pk => P pk ∨ pk = pkg)) :=
  Cong.bind (Cong.liftRaw_StRel hPU _) fun _ => Cong.modC fun _ _ h =>
    { h with c := { h.c with
      pkginfos := h.c.pkginfos.alSet _ _
      providers := addProviders_congr h.c.providers _ _
      prov := fun r pk hm => (addProviders_mem hm).elim Or.inr fun hh => Or.inl (h.c.prov r pk hh) } }

theorem pkgUnregister_cong (hPU : ∀ pk, P pk → U pk) (pkg : PkgId) :
    Cong (StRel U P) (pkgUnregister pkg) (pkgUnregister pkg) (StRel U P) := by
  have hE : ∀ s s', StRel U P s s' → ObsEq s s' := fun _ _ h => h.toObsEq hPU
  refine Cong.bind (Cong.liftRaw_StRel hPU _) fun _ => Cong.getSt_bind fun s s' h => ?_
  rw [h.c.pkginfos pkg]
  refine Cong.bind (Cong.ofOpt _ _ hE) fun info => Cong.bind (R1 := StRel U P)
    (Cong.modC fun _ _ ht => { ht with c := { ht.c with pkginfos := ht.c.pkginfos.alErase _ } }) fun _ =>
    Cong.getSt_bind fun s s' h => ?_
  have hr := removeProviders_congr h.c.providers pkg info
  generalize hx : removeProviders s.c.providers pkg info = x at hr ⊢
  generalize removeProviders s'.c.providers pkg info = x' at hr ⊢
  cases hr with
  | err e => exact Cong.raise _ hE
  | @ok prov prov' hpp =>
    refine Cong.bind (R1 := StRel U P) (Cong.modC fun _ _ ht => { ht with c := { ht.c with
        providers := hpp
        prov := fun r pk hm => h.c.prov r pk (removeProviders_sub hx hm) } }) fun _ =>
      Cong.getSt_bind fun s s' h => ?_
    rw [h.raw]
    exact Cong.ite (Cong.liftRaw_StRel hPU _) (Cong.pure _ fun _ _ h => h)

/-- both sides look up the providers of `ref`: the same list, and all of them lie in `U`, so that
their entries in `used` are related -/
theorem Cong.providers_bind {α : Type} {R' : St → St → Prop} (hPU : ∀ pk, P pk → U pk) (ref : SRef)
    {f f' : List PkgId → M α}
    (hk : ∀ provs, (∀ pkg ∈ provs, U pkg) → Cong (StRel U P) (f provs) (f' provs) R') :
    Cong (StRel U P) (getSt >>= fun s => Container.ofOpt .key (alGet s.c.providers ref) >>= f)
      (getSt >>= fun s => Container.ofOpt .key (alGet s.c.providers ref) >>= f') R' := by
  refine Cong.getSt_bind fun s s' h => ?_
  have hprov : ∀ pkg, pkg ∈ (alGet s.c.providers ref).getD [] → U pkg :=
    fun pkg hm => hPU _ (h.c.prov ref pkg hm)
  rw [h.c.providers ref] at hprov ⊢
  refine Cong.ofOpt_bind _ _ (fun _ _ h => h.toObsEq hPU) fun provs hprovs => hk provs ?_
  rwa [hprovs] at hprov

theorem schemaRegister_congP (hPU : ∀ pk, P pk → U pk) (e : Env) (ref : SRef) :
    Cong (StRel U P) (schemaRegister e ref) (schemaRegister e ref) ObsEq := by
  have hE : ∀ s s', StRel U P s s' → ObsEq s s' := fun _ _ h => h.toObsEq hPU
  refine Cong.getSt_bind fun s s' h => ?_
  simp only [h.c.schemas ref]
  refine Cong.ite (Cong.pure _ hE) <| Cong.bind (Cong.ofOpt _ _ hE) fun info =>
    Cong.bind (Cong.liftRaw_StRel hPU _) fun _ => Cong.bind (Cong.liftRaw_StRel hPU _) fun _ =>
    Cong.bind (R1 := StRel U P) (Cong.modC fun t t' ht => ?_) fun _ => Cong.getSt_bind fun s s' h => ?_
  · obtain ⟨h1, h2⟩ := upcAdd_congr ref ht.c.parents ht.c.children [] info.parents
    exact { ht with c := { ht.c with parents := h1, schemas := ht.c.schemas.setAdd ref, children := h2 } }
  rw [h.c.providers ref]
  -- the loop over the providers, reached from both branches of the `if` before it
  have tail {U P : PkgId → Prop} (hPU : ∀ pk, P pk → U pk) :=
    Cong.providers_bind hPU ref fun provs hprov =>
      Cong.mono_post (R2 := ObsEq) (Cong.forEachM provs fun pkg hpkg => Cong.getSt_bind fun _ _ h =>
        Cong.ofOpt_rel .key (h.c.used pkg (hprov pkg hpkg)) (fun _ _ h => h.toObsEq hPU) fun cur cur' hcur =>
        Cong.modC (f := fun c => { c with used := alSet c.used pkg (setAdd cur ref) })
          (f' := fun c => { c with used := alSet c.used pkg (setAdd cur' ref) }) fun _ _ ht => { ht with c := ht.c.setUsed pkg (hcur.setAdd ref) })
        fun _ _ h => h.toObsEq hPU
  exact Cong.ite
    (Cong.bind (pkgRegister_cong hPU _ _) fun _ =>
      Cong.bind (Cong.modC fun _ _ ht => { ht with c := ht.c.newUsed info.pkg }) fun _ =>
      tail fun pk hp => hp.imp_left (hPU pk))
    (tail hPU)

theorem schemaUnregister_congP (hPU : ∀ pk, P pk → U pk) (ref : SRef) :
    Cong (StRel U P) (schemaUnregister ref) (schemaUnregister ref) ObsEq := by
  have hE : ∀ s s', StRel U P s s' → ObsEq s s' := fun _ _ h => h.toObsEq hPU
  refine Cong.bind (Cong.liftRaw_StRel hPU _) fun _ => Cong.getSt_bind fun s s' h => ?_
  simp only [h.c.schemas ref]
  refine Cong.ite (Cong.raise_bind _ hE) <| Cong.bind (R1 := StRel U P)
    (Cong.modC fun _ _ ht => { ht with c := { ht.c with schemas := ht.c.schemas.setRemove ref } }) fun _ =>
    Cong.getSt_bind fun s s' h => ?_
  rw [h.c.parents ref]
  refine Cong.ofOpt_bind _ _ hE fun ps _ => ?_
  have hr := upcRemove_congr ref h.c.schemas h.c.parents h.c.children ps
  generalize upcRemove ref s.c.schemas s.c.parents s.c.children ps = x at hr ⊢
  generalize upcRemove ref s'.c.schemas s'.c.parents s'.c.children ps = x' at hr ⊢
  cases hr with
  | err e => exact Cong.raise _ hE
  | @ok a a' haa =>
    refine Cong.bind (R1 := StRel U P)
      (Cong.modC fun _ _ ht => { ht with c := { ht.c with parents := haa.1, children := haa.2 } }) fun _ =>
      Cong.providers_bind hPU ref fun provs hprov =>
      Cong.bind (Cong.forEachM provs fun pkg hpkg => Cong.getSt_bind fun _ _ h =>
        Cong.ofOpt_rel _ (h.c.used pkg (hprov pkg hpkg)) hE fun cur cur' hcur => ?_) fun _ =>
      Cong.getSt_bind fun s s' h => ?_
    · rw [(hcur.setRemove ref).isEmpty]
      exact Cong.bind (R1 := StRel U P)
        (Cong.modC fun _ _ ht => { ht with c := ht.c.setUsed pkg (hcur.setRemove ref) }) fun _ =>
        Cong.ite (pkgUnregister_cong hPU pkg) (Cong.pure _ fun _ _ h => h)
    rw [h.raw]
    exact Cong.ite (Cong.mono_post (Cong.liftRaw_StRel hPU _) hE) (Cong.pure _ hE)

end Low

theorem schemaRegister_cong (e : Env) (ref : SRef) :
    Cong ObsEq (schemaRegister e ref) (schemaRegister e ref) ObsEq :=
  fun s s' h => schemaRegister_congP (U := Prov s.c) (P := Prov s.c) (fun _ h => h) e ref s s' h.toStRel

theorem schemaUnregister_cong (ref : SRef) :
    Cong ObsEq (schemaUnregister ref) (schemaUnregister ref) ObsEq :=
  fun s s' h => schemaUnregister_congP (U := Prov s.c) (P := Prov s.c) (fun _ h => h) ref s s' h.toStRel

end MetadorModel.Container
