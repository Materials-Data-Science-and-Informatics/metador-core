import MetadorModel.Model.Subtype
import MetadorModel.Proofs.Codec
/-!
# Soundness of `isSubtype` (C13): helper definitions and lemmas

`Sub env a b` : every valid value of `a` serialises to something `b` accepts.

The proof goes through two denotations of runtype's canonical types: `denL c j` ("`j` is the
encoding of a valid value of a type whose canonical form is `c`") and `denR c j` ("a type whose
canonical form is `c` accepts `j`"), and three facts:

1. `valid_denL`   : `Valid env a v → denL (canon a) (encode v)`
2. `le_sound`     : `le T c d → denL c j → denR d j`  (needs `ClassTableSound`)
3. `denR_accepts` : `denR (canon b) j → accepts env b j`  (needs `NoCrash`, `SetsScalar b`)
-/
namespace MetadorModel.Subtype
open MetadorModel.Codec

/-- every valid value of `a` serialises to something `b` accepts -/
def Sub (env : Env) (a b : Ty) : Prop := ∀ v, Valid env a v → accepts env b (encode v) = true

/-- registry: class name ↦ its (effective) schema type -/
abbrev Reg := Str → Option Ty

mutual
/-- the schema nodes of a field type are the registered ones -/
def Coherent (R : Reg) : Ty → Prop
  | .model n e fs cs => R n = some (.model n e fs cs)
  | .opt t => Coherent R t
  | .list t => Coherent R t
  | .set t => Coherent R t
  | .ann t => Coherent R t
  | .union ts => CoherentAll R ts
  | _ => True
def CoherentAll (R : Reg) : List Ty → Prop
  | [] => True
  | t :: ts => Coherent R t ∧ CoherentAll R ts
end

mutual
/-- no list, set or schema: every validated value is hashable -/
def ScalarTy : Ty → Bool
  | .list _ => false
  | .set _ => false
  | .model _ _ _ _ => false
  | .opt t => ScalarTy t
  | .ann t => ScalarTy t
  | .union ts => ScalarAll ts
  | _ => true
def ScalarAll : List Ty → Bool
  | [] => true
  | t :: ts => ScalarTy t && ScalarAll ts
end

mutual
/-- item types of sets are scalar (the grammar's "Set of hashables"), down to schema nodes -/
def SetsScalar : Ty → Bool
  | .set t => ScalarTy t
  | .list t => SetsScalar t
  | .opt t => SetsScalar t
  | .ann t => SetsScalar t
  | .union ts => SetsScalarAll ts
  | _ => true
def SetsScalarAll : List Ty → Bool
  | [] => true
  | t :: ts => SetsScalar t && SetsScalarAll ts
end

/-- the library parsers only ever refuse with a validation error -/
def NoCrash (env : Env) : Prop := ∀ k s, env.crash k s = false

/-- every nominal subclass edge is an inclusion: of the recognised strings for the phantom
string types, of the accepted serialisations for registered schema classes -/
def ClassTableSound (env : Env) (T : Table) (R : Reg) : Prop :=
  (∀ k k', cstrSub k k' = true → ∀ s, recog k s = true → recog k' s = true) ∧
  (∀ n m tn tm, R n = some tn → R m = some tm → atomSub T (.cls n) (.cls m) = true → Sub env tn tm)

def encLitN : LitN → Json
  | none => .null
  | some l => encode (litVal l)

/-- Python `==` between a member of `OneOf` and a JSON scalar -/
def litNMatch : LitN → Json → Bool
  | none, .null => true
  | none, _ => false
  | some l, j => litMatch l j

def denAtomL (env : Env) (R : Reg) : Atom → Json → Prop
  | .bool, j => ∃ b, j = .bool b
  | .int, j => ∃ i, j = .int i
  | .float, j => ∃ t, j = .float t ∧ env.normFloat t = some t
  | .str, j => ∃ s, j = .str s ∧ stripWs s = s ∧ s ≠ []
  | .cstr k, j => ∃ s, j = .str s ∧ recog k s = true
  | .opq k, j => ∃ s, j = .str s ∧ env.norm k s = some s
  | .cls n, j => ∃ tn v, R n = some tn ∧ Valid env tn v ∧ j = encode v

def denAtomR (env : Env) (R : Reg) : Atom → Json → Prop
  | .cls n, j => ∀ tn, R n = some tn → accepts env tn j = true
  | k, j => denAtomL env R k j

mutual
def denL (env : Env) (R : Reg) : CT → Json → Prop
  | .data k, j => denAtomL env R k j
  | .oneOf vs, j => ∃ l ∈ vs, j = encLitN l
  | .sum ts, j => denLAny env R ts j
  | .gen _ i, j => ∃ xs, j = .arr xs ∧ ∀ x ∈ xs, denL env R i x
def denLAny (env : Env) (R : Reg) : List CT → Json → Prop
  | [], _ => False
  | t :: ts, j => denL env R t j ∨ denLAny env R ts j
end

mutual
def denR (env : Env) (R : Reg) : CT → Json → Prop
  | .data k, j => denAtomR env R k j
  | .oneOf vs, j => ∃ l ∈ vs, litNMatch l j = true
  | .sum ts, j => denRAny env R ts j
  | .gen _ i, j => ∃ xs, j = .arr xs ∧ ∀ x ∈ xs, denR env R i x
def denRAny (env : Env) (R : Reg) : List CT → Json → Prop
  | [], _ => False
  | t :: ts, j => denR env R t j ∨ denRAny env R ts j
end

theorem denLAny_iff (env : Env) (R : Reg) (ts : List CT) (j : Json) :
    denLAny env R ts j ↔ ∃ t ∈ ts, denL env R t j := by
  induction ts with
  | nil => simp [denLAny]
  | cons t ts ih => simp [denLAny, ih]

theorem denRAny_iff (env : Env) (R : Reg) (ts : List CT) (j : Json) :
    denRAny env R ts j ↔ ∃ t ∈ ts, denR env R t j := by
  induction ts with
  | nil => simp [denRAny]
  | cons t ts ih => simp [denRAny, ih]

/-! ## `flat` and `mkSum` preserve the denotations -/

theorem denL_flat (env : Env) (R : Reg) (c : CT) (j : Json) :
    denL env R c j ↔ ∃ t ∈ c.flat, denL env R t j := by
  cases c <;> simp [CT.flat, denL, denLAny_iff]

theorem denR_flat (env : Env) (R : Reg) (c : CT) (j : Json) :
    denR env R c j ↔ ∃ t ∈ c.flat, denR env R t j := by
  cases c <;> simp [CT.flat, denR, denRAny_iff]

theorem mem_flatten_filterMap (ts : List CT) (l : LitN) :
    l ∈ (ts.filterMap CT.oneOfVals).flatten ↔ ∃ vs, CT.oneOf vs ∈ ts ∧ l ∈ vs := by
  have hv : ∀ t vs, CT.oneOfVals t = some vs ↔ t = .oneOf vs := fun t vs => by
    cases t <;> simp [CT.oneOfVals]
  simp [List.mem_flatten, List.mem_filterMap, hv]

/-- `mkSum` keeps every denotation that reads a sum as "one of the members" and a `OneOf` as "one of the values" -/
theorem den_mkSum (D : CT → Json → Prop) (P : LitN → Json → Prop)
    (hsum : ∀ ts j, D (.sum ts) j ↔ ∃ t ∈ ts, D t j) (hone : ∀ vs j, D (.oneOf vs) j ↔ ∃ l ∈ vs, P l j)
    (ts : List CT) (j : Json) : D (mkSum ts) j ↔ ∃ t ∈ ts, D t j := by
  simp only [mkSum]
  split
  · simp only [hsum, List.mem_append, List.mem_filter, List.mem_singleton]
    constructor
    · rintro ⟨t, ht | rfl, hd⟩
      · exact ⟨t, ht.1, hd⟩
      · obtain ⟨l, hl, e⟩ := (hone _ j).mp hd
        obtain ⟨vs, hvs, hl'⟩ := (mem_flatten_filterMap ts l).mp hl
        exact ⟨.oneOf vs, hvs, (hone vs j).mpr ⟨l, hl', e⟩⟩
    · rintro ⟨t, ht, hd⟩
      cases t with
      | oneOf vs =>
        obtain ⟨l, hl, e⟩ := (hone vs j).mp hd
        exact ⟨_, Or.inr rfl, (hone _ j).mpr ⟨l, (mem_flatten_filterMap ts l).mpr ⟨vs, ht, hl⟩, e⟩⟩
      | _ => exact ⟨_, Or.inl ⟨ht, rfl⟩, hd⟩
  · exact hsum ts j

theorem denL_mkSum (env : Env) (R : Reg) (ts : List CT) (j : Json) :
    denL env R (mkSum ts) j ↔ ∃ t ∈ ts, denL env R t j :=
  den_mkSum (denL env R) (fun l j => j = encLitN l) (by simp [denL, denLAny_iff]) (by simp [denL]) ts j

theorem denR_mkSum (env : Env) (R : Reg) (ts : List CT) (j : Json) :
    denR env R (mkSum ts) j ↔ ∃ t ∈ ts, denR env R t j :=
  den_mkSum (denR env R) (fun l j => litNMatch l j = true) (by simp [denR, denRAny_iff]) (by simp [denR]) ts j

/-! ## (1) valid values denote on the left -/

theorem forall_mem_encodeList (P : Json → Prop) : ∀ vs : List PyVal, (∀ v ∈ vs, P (encode v)) →
    ∀ x ∈ encodeList vs, P x
  | [], _ => nofun
  | v :: vs, h =>
    List.forall_mem_cons.mpr ⟨h v List.mem_cons_self,
      forall_mem_encodeList P vs fun w hw => h w (List.mem_cons_of_mem _ hw)⟩

theorem encode_litVal (l : Lit) : encode (litVal l) = encLitN (some l) := rfl

mutual
theorem valid_denL (env : Env) (R : Reg) : ∀ (a : Ty) (v : PyVal), Valid env a v → Coherent R a →
    denL env R (canon a) (encode v)
  -- a scalar: `Valid` gives what `denAtomL` asks of the encoding
  | .bool, _, ⟨b, rfl⟩, _ => ⟨b, rfl⟩
  | .int, _, ⟨i, rfl⟩, _ => ⟨i, rfl⟩
  | .float, _, ⟨t, rfl, h⟩, _ => ⟨t, rfl, h⟩
  | .str, _, ⟨s, rfl, h⟩, _ => ⟨s, rfl, h⟩
  | .cstr _, _, ⟨s, rfl, h⟩, _ => ⟨s, rfl, h⟩
  | .opq _, _, ⟨s, rfl, h, _⟩, _ => ⟨s, rfl, h⟩
  | .lit vs, _, ⟨l, rfl, h⟩, _ =>
    ⟨some l, List.mem_map.mpr ⟨l, (List.mem_filter.mp (List.mem_of_getLast? h)).1, rfl⟩, rfl⟩
  | .opt t, v, h, hc => by
    rw [canon, denL_mkSum]
    rcases h with rfl | h
    · exact ⟨.oneOf [none], by simp, none, by simp, rfl⟩
    · obtain ⟨c, hc', hd⟩ := (denL_flat env R _ _).mp (valid_denL env R t v h hc)
      exact ⟨c, List.mem_append_left _ hc', hd⟩
  | .ann t, v, h, hc => valid_denL env R t v h hc
  | .union ts, v, h, hc => (denL_mkSum env R _ _).mpr (valid_denLU env R ts v h hc)
  | .list t, _, ⟨vs, rfl, hvs⟩, hc =>
    ⟨_, rfl, forall_mem_encodeList _ vs fun w hw => valid_denL env R t w (hvs w hw) hc⟩
  | .set t, _, ⟨vs, rfl, hvs, _⟩, hc =>
    ⟨_, rfl, forall_mem_encodeList _ vs fun w hw => valid_denL env R t w (hvs w hw) hc⟩
  | .model _ _ _ _, v, h, hc => ⟨_, v, hc, h, rfl⟩
theorem valid_denLU (env : Env) (R : Reg) : ∀ (ts : List Ty) (v : PyVal), ValidU env ts v →
    CoherentAll R ts → ∃ c ∈ canonAlts ts, denL env R c (encode v)
  | [], _, h, _ => h.elim
  | t :: ts, v, h, hc => by
    simp only [canonAlts, List.mem_append]
    rcases h with h | ⟨_, h⟩
    · obtain ⟨c, hc', hd⟩ := (denL_flat env R _ _).mp (valid_denL env R t v h hc.1)
      exact ⟨c, Or.inl hc', hd⟩
    · obtain ⟨c, hc', hd⟩ := valid_denLU env R ts v h hc.2
      exact ⟨c, Or.inr hc', hd⟩
end

/-! ## (2) `le` is sound between the two denotations -/

theorem litNEq_match (v w : LitN) (h : litNEq v w = true) : litNMatch w (encLitN v) = true := by
  rcases v with _ | _ | _ | _ <;> rcases w with _ | _ | _ | _ <;>
    simp_all [litNEq, litNMatch, encLitN, litVal, encode, litMatch, jsonInt?]

mutual
theorem isa_sound (env : Env) (R : Reg) (v : LitN) : ∀ (d : CT), isa v d = true →
    denR env R d (encLitN v)
  | .data k, h => by
    -- only a string literal is an instance of an atom, and only of a phantom string type
    rcases v with _ | s | _ | _ <;> cases k <;> simp [isa, isaAtom] at h
    exact ⟨s, rfl, h⟩
  | .oneOf ws, h => by
    obtain ⟨w, hw, e⟩ := List.any_eq_true.mp h
    exact ⟨w, hw, litNEq_match v w e⟩
  | .sum ts, h => isaAny_sound env R v ts h
  | .gen _ _, h => nomatch h
theorem isaAny_sound (env : Env) (R : Reg) (v : LitN) : ∀ (ts : List CT), isaAny v ts = true →
    denRAny env R ts (encLitN v)
  | [], h => nomatch h
  | t :: ts, h => (Bool.or_eq_true_iff.mp h).imp (isa_sound env R v t) (isaAny_sound env R v ts)
end

theorem atomSub_sound (env : Env) (T : Table) (R : Reg) (hT : ClassTableSound env T R)
    (k k' : Atom) (h : atomSub T k k' = true) (j : Json) (hj : denAtomL env R k j) :
    denAtomR env R k' j := by
  unfold atomSub at h
  split at h
  · obtain ⟨s, rfl, hs⟩ := hj
    exact ⟨s, rfl, hT.1 _ _ h s hs⟩
  · obtain ⟨tn, v, hn, hv, rfl⟩ := hj
    exact fun tm hm => hT.2 _ _ tn tm hn hm h v hv
  · -- equal atoms, not both classes: the two denotations differ on classes only
    rename_i hcls
    cases eq_of_beq h
    cases k
    all_goals first | exact hj | exact absurd rfl (hcls _ _ rfl)

mutual
theorem dataLe_sound (env : Env) (T : Table) (R : Reg) (hT : ClassTableSound env T R) (k : Atom)
    (j : Json) (hj : denAtomL env R k j) : ∀ (d : CT), dataLe T k d = true → denR env R d j
  | .data k', h => atomSub_sound env T R hT k k' h j hj
  | .sum bs, h => dataLeAny_sound env T R hT k j hj bs h
  | .oneOf _, h => nomatch h
  | .gen _ _, h => nomatch h
theorem dataLeAny_sound (env : Env) (T : Table) (R : Reg) (hT : ClassTableSound env T R) (k : Atom)
    (j : Json) (hj : denAtomL env R k j) : ∀ (bs : List CT), dataLeAny T k bs = true →
    denRAny env R bs j
  | [], h => nomatch h
  | b :: bs, h => (Bool.or_eq_true_iff.mp h).imp
    (dataLe_sound env T R hT k j hj b) (dataLeAny_sound env T R hT k j hj bs)
end

mutual
theorem genLe_sound (env : Env) (R : Reg) (c : Cont) (f : CT → Bool) (xs : List Json)
    (hf : ∀ d' x, f d' = true → x ∈ xs → denR env R d' x) :
    ∀ (d : CT), genLe c f d = true → denR env R d (.arr xs)
  | .gen _ i', h => ⟨xs, rfl, fun x hx => hf i' x (Bool.and_eq_true_iff.mp h).2 hx⟩
  | .sum bs, h => genLeAny_sound env R c f xs hf bs h
  | .data _, h => nomatch h
  | .oneOf _, h => nomatch h
theorem genLeAny_sound (env : Env) (R : Reg) (c : Cont) (f : CT → Bool) (xs : List Json)
    (hf : ∀ d' x, f d' = true → x ∈ xs → denR env R d' x) :
    ∀ (bs : List CT), genLeAny c f bs = true → denRAny env R bs (.arr xs)
  | [], h => nomatch h
  | b :: bs, h => (Bool.or_eq_true_iff.mp h).imp
    (genLe_sound env R c f xs hf b) (genLeAny_sound env R c f xs hf bs)
end

mutual
theorem le_sound (env : Env) (T : Table) (R : Reg) (hT : ClassTableSound env T R) :
    ∀ (c d : CT) (j : Json), le T c d = true → denL env R c j → denR env R d j
  | .sum as, d, j, h, hj => leAll_sound env T R hT as d j h hj
  | .data k, d, j, h, hj => dataLe_sound env T R hT k j hj d h
  | .oneOf vs, d, _, h, ⟨l, hl, rfl⟩ => by
    -- also against a `OneOf`, `le` asks of every value to be an instance of `d`
    have h' : vs.all (fun v => isa v d) = true := by cases d <;> exact h
    exact isa_sound env R l d (List.all_eq_true.mp h' l hl)
  | .gen c i, d, _, h, ⟨xs, rfl, hxs⟩ =>
    genLe_sound env R c (le T i) xs (fun d' x hd' hx => le_sound env T R hT i d' x hd' (hxs x hx)) d h
theorem leAll_sound (env : Env) (T : Table) (R : Reg) (hT : ClassTableSound env T R) :
    ∀ (as : List CT) (d : CT) (j : Json), leAll T as d = true → denLAny env R as j → denR env R d j
  | [], _, _, _, hj => hj.elim
  | a :: as, d, j, h, hj =>
    hj.elim (le_sound env T R hT a d j (Bool.and_eq_true_iff.mp h).1)
      (leAll_sound env T R hT as d j (Bool.and_eq_true_iff.mp h).2)
end

/-! ## (3) what denotes on the right is accepted -/

theorem mapOk_noCrash {α β : Type} (f : α → β) (r : Except Err α) (h : r ≠ .error .crash) :
    mapOk f r ≠ .error .crash := by
  cases r <;> simp_all [mapOk]

theorem allOk_map_noCrash {α β : Type} (f : β → Except Err α) (h : ∀ x, f x ≠ .error .crash) :
    ∀ xs : List β, allOk (xs.map f) ≠ .error .crash
  | [] => nofun
  | x :: xs => by
    have h1 := allOk_map_noCrash f h xs
    have h2 := h x
    rw [List.map_cons]
    cases hx : f x with
    | ok a => exact mapOk_noCrash _ _ h1
    | error e =>
      unfold allOk
      split <;> simp_all

mutual
theorem noCrash_decode (env : Env) (hn : NoCrash env) : ∀ (t : Ty) (j : Json),
    decode env t j ≠ .error .crash
  | .bool, j | .int, j | .float, j | .str, j | .cstr _, j => by
    cases j <;> simp [decode] <;> split <;> simp
  | .opq k, j => by
    cases j <;> simp [decode, hn k] <;> split <;> simp
  | .lit vs, j => by
    simp only [decode, decodeLit]
    split <;> simp
  | .opt t, j => by
    by_cases h : j = .null
    · subst h; simp [decode]
    · rw [decode_opt_nonnull env t j h]; exact noCrash_decode env hn t j
  | .ann t, j => noCrash_decode env hn t j
  | .union ts, j => noCrash_decodeU env hn ts j
  | .list t, j => by
    cases j <;> simp only [decode, ne_eq, reduceCtorEq, not_false_eq_true, Except.error.injEq]
    exact mapOk_noCrash _ _ (allOk_map_noCrash _ (noCrash_decode env hn t) _)
  | .set t, j => by
    cases j <;> simp only [decode, ne_eq, reduceCtorEq, not_false_eq_true, Except.error.injEq]
    rename_i xs
    have := allOk_map_noCrash _ (noCrash_decode env hn t) xs
    split
    · unfold mkSet
      split <;> simp
    · simp_all
  | .model n ex fs cs, j => by
    simp only [decode]
    cases asDict j with
    | none => simp
    | some kvs =>
      have := noCrash_decodeFs env hn fs kvs
      simp only
      split
      · simp_all
      · cases ex <;> simp
        split <;> simp
theorem noCrash_decodeU (env : Env) (hn : NoCrash env) : ∀ (ts : List Ty) (j : Json),
    decodeUnion env ts j ≠ .error .crash
  | [], j => by simp [decodeUnion]
  | t :: ts, j => by
    have h1 := noCrash_decode env hn t j
    have h2 := noCrash_decodeU env hn ts j
    rw [decodeUnion]
    split <;> simp_all
theorem noCrash_decodeFs (env : Env) (hn : NoCrash env) : ∀ (fs : List Field) (kvs : List (Str × Json)),
    decodeFields env fs kvs ≠ .error .crash
  | [], kvs => by simp [decodeFields]
  | f :: fs, kvs => by
    have h1 := noCrash_decodeF env hn f kvs
    have h2 := noCrash_decodeFs env hn fs kvs
    rw [decodeFields]
    split <;> simp_all
theorem noCrash_decodeF (env : Env) (hn : NoCrash env) : ∀ (f : Field) (kvs : List (Str × Json)),
    decodeField env f kvs ≠ .error .crash
  | .mk n t req d, kvs => by
    simp only [decodeField]
    split
    · exact mapOk_noCrash _ _ (noCrash_decode env hn t _)
    · split
      · simp
      · split
        · simp
        · exact mapOk_noCrash _ _ (noCrash_decode env hn t _)
end
theorem allOk_map_ok {α β : Type} (f : β → Except Err α) : ∀ xs : List β, (∀ x ∈ xs, ∃ a, f x = .ok a) →
    ∃ l, allOk (xs.map f) = .ok l ∧ ∀ a ∈ l, ∃ x ∈ xs, f x = .ok a
  | [], _ => ⟨[], rfl, nofun⟩
  | x :: xs, h => by
    obtain ⟨a, ha⟩ := h x List.mem_cons_self
    obtain ⟨l, hl, hm⟩ := allOk_map_ok f xs fun y hy => h y (List.mem_cons_of_mem _ hy)
    refine ⟨a :: l, by simp [allOk, ha, hl, mapOk], ?_⟩
    simpa [ha] using fun b hb => Or.inr (hm b hb)

mutual
theorem scalar_hashable (env : Env) : ∀ (t : Ty) (j : Json) (v : PyVal), ScalarTy t = true →
    decode env t j = .ok v → hashable v = true
  | .bool, j, v, _, h | .int, j, v, _, h => by
    cases j <;> simp [decode] at h
    subst h; rfl
  | .float, j, v, _, h | .str, j, v, _, h | .cstr _, j, v, _, h => by
    cases j <;> simp [decode] at h
    split at h <;> simp at h
    subst h; rfl
  | .opq k, j, v, _, h => by
    cases j <;> simp [decode] at h
    split at h
    · simp at h
    · split at h <;> simp at h
      subst h; rfl
  | .lit vs, j, v, _, h => by
    simp only [decode, decodeLit] at h
    split at h <;> simp at h
    subst h
    rename_i l _
    cases l <;> rfl
  | .opt t, j, v, hs, h => by
    by_cases hj : j = .null
    · subst hj; simp [decode] at h; subst h; rfl
    · rw [decode_opt_nonnull env t j hj] at h
      exact scalar_hashable env t j v hs h
  | .ann t, j, v, hs, h => scalar_hashable env t j v hs h
  | .union ts, j, v, hs, h => scalar_hashableU env ts j v hs h
  | .list _, _, _, hs, _ | .set _, _, _, hs, _ | .model _ _ _ _, _, _, hs, _ => nomatch hs
theorem scalar_hashableU (env : Env) : ∀ (ts : List Ty) (j : Json) (v : PyVal), ScalarAll ts = true →
    decodeUnion env ts j = .ok v → hashable v = true
  | [], j, v, _, h => nomatch h
  | t :: ts, j, v, hs, h => by
    rw [ScalarAll, Bool.and_eq_true] at hs
    rw [decodeUnion] at h
    split at h
    · cases h
      exact scalar_hashable env t j _ hs.1 ‹_›
    · cases h
    · exact scalar_hashableU env ts j v hs.2 h
end

mutual
theorem scalar_setsScalar : ∀ (t : Ty), ScalarTy t = true → SetsScalar t = true
  | .opt t, h | .ann t, h => scalar_setsScalar t h
  | .union ts, h => scalar_setsScalarAll ts h
  | .list _, h | .set _, h => nomatch h
  | .model _ _ _ _, _ | .bool, _ | .int, _ | .float, _ | .str, _ | .cstr _, _ | .opq _, _ | .lit _, _ => rfl
theorem scalar_setsScalarAll : ∀ (ts : List Ty), ScalarAll ts = true → SetsScalarAll ts = true
  | [], _ => rfl
  | t :: ts, h => Bool.and_eq_true_iff.mpr
    ((Bool.and_eq_true_iff.mp h).imp (scalar_setsScalar t) (scalar_setsScalarAll ts))
end

mutual
theorem denR_accepts (env : Env) (R : Reg) (hn : NoCrash env) : ∀ (b : Ty) (j : Json),
    Coherent R b → SetsScalar b = true → denR env R (canon b) j → ∃ v, decode env b j = .ok v
  -- a scalar: `denAtomL` gives the shape of `j` and what the decoder tests
  | .bool, _, _, _, ⟨x, rfl⟩ => ⟨.bool x, rfl⟩
  | .int, _, _, _, ⟨x, rfl⟩ => ⟨.int x, rfl⟩
  | .float, _, _, _, ⟨x, rfl, h⟩ => ⟨.float x, by simp [decode, h]⟩
  | .str, _, _, _, ⟨x, rfl, h1, h2⟩ => ⟨.str x, by simp [decode, h1, h2]⟩
  | .cstr _, _, _, _, ⟨x, rfl, h⟩ => ⟨.str x, by simp [decode, h]⟩
  | .opq k, _, _, _, ⟨x, rfl, h⟩ => ⟨.opq k x, by simp [decode, h, hn k x]⟩
  | .lit ws, j, _, _, ⟨_, hl, hm⟩ => by
    obtain ⟨w, hw, rfl⟩ := List.mem_map.mp hl
    have hne : ws.filter (fun l => litMatch l j) ≠ [] := List.ne_nil_of_mem (List.mem_filter.mpr ⟨hw, hm⟩)
    obtain ⟨x, hx⟩ := Option.isSome_iff_exists.mp (List.getLast?_isSome.mpr hne)
    exact ⟨litVal x, by simp [decode, decodeLit, hx]⟩
  | .opt t, j, hc, hs, h => by
    obtain ⟨c, hc', hd⟩ := (denR_mkSum env R _ j).mp h
    by_cases hj : j = .null
    · exact ⟨.none, by simp [hj, decode]⟩
    · rw [decode_opt_nonnull env t j hj]
      rcases List.mem_append.mp hc' with hc' | hc'
      · exact denR_accepts env R hn t j hc hs ((denR_flat env R _ _).mpr ⟨c, hc', hd⟩)
      · -- the other member is `OneOf [None]`, which only `null` matches
        cases List.mem_singleton.mp hc'
        obtain ⟨l, hl, hm⟩ := hd
        cases List.mem_singleton.mp hl
        cases j <;> simp [litNMatch] at hm hj
  | .ann t, j, hc, hs, h => denR_accepts env R hn t j hc hs h
  | .union ts, j, hc, hs, h => denR_acceptsU env R hn ts j hc hs ((denR_mkSum env R _ j).mp h)
  | .list t, _, hc, hs, ⟨xs, rfl, hxs⟩ => by
    obtain ⟨l, hl, _⟩ := allOk_map_ok (decode env t) xs fun x hx =>
      denR_accepts env R hn t x hc hs (hxs x hx)
    exact ⟨.list l, by simp [decode, hl, mapOk]⟩
  | .set t, _, hc, hs, ⟨xs, rfl, hxs⟩ => by
    obtain ⟨l, hl, hm⟩ := allOk_map_ok (decode env t) xs fun x hx =>
      denR_accepts env R hn t x hc (scalar_setsScalar t hs) (hxs x hx)
    have hh : l.all hashable = true := List.all_eq_true.mpr fun a ha => by
      obtain ⟨x, _, hx⟩ := hm a ha
      exact scalar_hashable env t x a hs hx
    exact ⟨.set (dedup l), by simp [decode, hl, mkSet, hh]⟩
  | .model _ _ _ _, j, hc, _, h => (accepts_iff env _ j).mp (h _ hc)
theorem denR_acceptsU (env : Env) (R : Reg) (hn : NoCrash env) : ∀ (ts : List Ty) (j : Json),
    CoherentAll R ts → SetsScalarAll ts = true → (∃ c ∈ canonAlts ts, denR env R c j) →
    ∃ v, decodeUnion env ts j = .ok v
  | [], j, _, _, h => by simp [canonAlts] at h
  | t :: ts, j, hc, hs, ⟨c, hc', hd⟩ => by
    rw [SetsScalarAll, Bool.and_eq_true] at hs
    rw [decodeUnion]
    cases hdec : decode env t j with
    | ok v => exact ⟨v, rfl⟩
    | error e =>
      have hne : e ≠ .crash := fun e' => noCrash_decode env hn t j (by rw [hdec, e'])
      rcases List.mem_append.mp hc' with hc' | hc'
      · obtain ⟨v, hv⟩ := denR_accepts env R hn t j hc.1 hs.1 ((denR_flat env R _ _).mpr ⟨c, hc', hd⟩)
        rw [hv] at hdec
        cases hdec
      · obtain ⟨v, hv⟩ := denR_acceptsU env R hn ts j hc.2 hs.2 ⟨c, hc', hd⟩
        cases e <;> simp_all
end

/-- **soundness of `<=` on canonical types**, assembled -/
theorem le_canon_sound (env : Env) (T : Table) (R : Reg) (hn : NoCrash env)
    (hT : ClassTableSound env T R) (a b : Ty) (ha : Coherent R a) (hb : Coherent R b)
    (hs : SetsScalar b = true) (h : le T (canon a) (canon b) = true) : Sub env a b := by
  intro v hv
  rw [accepts_iff]
  exact denR_accepts env R hn b _ hb hs
    (le_sound env T R hT _ _ _ h (valid_denL env R a v hv ha))

end MetadorModel.Subtype
