import MetadorModel.Proofs.ContainerPend
/-!
# Instances of `treeOK_rebase`: copying / moving user nodes and metadata directories
-/
namespace MetadorModel.Container

/-- a path without reserved names that continues to a metadata directory: the split is unique -/
theorem split_user {a bs c tail : Path} {ms : String} (ha : isInternal a = false) (hbs : isInternal bs = false)
    (h : a ++ c = bs ++ .metaDir ms :: tail) : ∃ c0, bs = a ++ c0 ∧ c = c0 ++ .metaDir ms :: tail := by
  have hp : a <+: bs := prefix_of_meta ha ⟨c, h⟩
  obtain ⟨c0, rfl⟩ := hp
  refine ⟨c0, rfl, ?_⟩
  rw [List.append_assoc] at h
  exact List.append_cancel_left h

theorem dirCorr_user_half {a a' : Path} (ha : isInternal a = false) (ha' : isInternal a' = false)
    (c base : Path) (m : String) (tail : Path) (hb : isInternal base = false)
    (h : a' ++ c = base ++ .metaDir m :: tail) :
    ∃ bs ms, isInternal bs = false ∧ a ++ c = bs ++ .metaDir ms :: tail := by
  obtain ⟨c0, rfl, rfl⟩ := split_user ha' hb h
  rw [isInternal_append] at hb
  simp only [Bool.or_eq_false_iff] at hb
  exact ⟨a ++ c0, m, by rw [isInternal_append, ha, hb.2]; rfl, by simp⟩

theorem dirCorr_user {src dst : Path} (hs : isInternal src = false) (hd : isInternal dst = false) :
    DirCorr src dst :=
  ⟨fun c base m tail hb h => dirCorr_user_half hs hd c base m tail hb h,
   fun c bs ms tail hb h => dirCorr_user_half hd hs c bs ms tail hb h⟩

theorem dirCorr_meta {b b' : Path} (m m' : String) (hb : isInternal b = false) (hb' : isInternal b' = false) :
    DirCorr (b ++ [.metaDir m]) (b' ++ [.metaDir m']) := by
  constructor
  · intro c base mm tail hbase h
    have h1 : b' ++ Key.metaDir m' :: c = base ++ Key.metaDir mm :: tail := by simpa using h
    obtain ⟨rfl, -, rfl⟩ := internal_split_unique b' base _ _ _ _ hb' hbase rfl rfl h1
    exact ⟨b, m, hb, by simp⟩
  · intro c bs ms tail hbs h
    have h1 : b ++ Key.metaDir m :: c = bs ++ Key.metaDir ms :: tail := by simpa using h
    obtain ⟨rfl, -, rfl⟩ := internal_split_unique b bs _ _ _ _ hb hbs rfl rfl h1
    exact ⟨b', m', hb', by simp⟩

theorem ushape_rebase_user {src dst c : Path} {n : Node} (hs : isInternal src = false)
    (hd : isInternal dst = false) (h : UShape (src ++ c) n) : UShape (dst ++ c) n := by
  generalize hq : src ++ c = q at h
  cases h with
  | user q n hi hn =>
    rw [← hq, isInternal_append] at hi
    simp only [Bool.or_eq_false_iff] at hi
    exact .user _ n (by rw [isInternal_append, hd, hi.2]; rfl) hn
  | metaDir base m hb =>
    obtain ⟨c0, rfl, rfl⟩ := split_user (tail := []) hs hb hq
    rw [isInternal_append] at hb
    simp only [Bool.or_eq_false_iff] at hb
    have : dst ++ (c0 ++ [Key.metaDir m]) = (dst ++ c0) ++ [Key.metaDir m] := by simp
    rw [this]
    exact .metaDir _ m (by rw [isInternal_append, hd, hb.2]; rfl)
  | obj base m r u tok hb =>
    obtain ⟨c0, rfl, rfl⟩ := split_user (tail := [.obj r u]) hs hb hq
    rw [isInternal_append] at hb
    simp only [Bool.or_eq_false_iff] at hb
    have : dst ++ (c0 ++ [Key.metaDir m, Key.obj r u]) = (dst ++ c0) ++ [Key.metaDir m, Key.obj r u] := by simp
    rw [this]
    exact .obj _ m r u tok (by rw [isInternal_append, hd, hb.2]; rfl)

theorem ushape_rebase_meta {b b' c : Path} {m m' : String} {n : Node} (hb : isInternal b = false)
    (hb' : isInternal b' = false) (h : UShape (b ++ [.metaDir m] ++ c) n) :
    UShape (b' ++ [.metaDir m'] ++ c) n := by
  generalize hq : b ++ [Key.metaDir m] ++ c = q at h
  have hq' : b ++ Key.metaDir m :: c = q := by simpa using hq
  cases h with
  | user q n hi hn =>
    rw [← hq', isInternal_metaDir] at hi; cases hi
  | metaDir base mm hbase =>
    obtain ⟨-, -, rfl⟩ := internal_split_unique b base _ _ _ _ hb hbase rfl rfl hq'
    simpa using UShape.metaDir b' m' hb'
  | obj base mm r u tok hbase =>
    have h1 : b ++ Key.metaDir m :: c = base ++ Key.metaDir mm :: [Key.obj r u] := by simpa using hq'
    obtain ⟨-, -, rfl⟩ := internal_split_unique b base _ _ _ _ hb hbase rfl rfl h1
    simpa using UShape.obj b' m' r u tok hb'

theorem head_append_ne_toc {a : Path} (c : Path) (ha0 : a ≠ []) (ha : a.head? ≠ some .toc) :
    (a ++ c).head? ≠ some .toc := (ne_toc_of_prefix ha0 ha (List.prefix_append a c)).2

theorem internal_ne_nil {a : Path} : isInternal a = true → a ≠ [] := by
  rintro h rfl; simp [isInternal] at h

theorem obj_path_internal (P : Path) (r : SRef) (u : Nat) : isInternal (P ++ [Key.obj r u]) = true := by
  simp [isInternal, Key.internal]

/-- below-`dst` directories get their dataset from the corresponding source directory -/
theorem hD_user {e : Env} {t t' : Tree} {src dst : Path} {mv : Bool} (ht : TreeOK e t)
    (hs : isInternal src = false) (hd : isInternal dst = false) (hd0 : dst ≠ [])
    (hreb : Rebased t t' src dst mv) :
    ∀ base m, isInternal base = false → dst <+: base ++ [.metaDir m] →
      get? t' (base ++ [.metaDir m]) ≠ none → ¬ False →
      (m = "" ∨ ∃ v, get? t' (base ++ [.user m]) = some (.ds v)) := by
  intro base m hb hpre hg _
  obtain ⟨c0, rfl⟩ := prefix_of_meta hd hpre
  rw [isInternal_append] at hb
  simp only [Bool.or_eq_false_iff] at hb
  have gd : ∀ c, get? t' (dst ++ c) = get? t (src ++ c) := by
    intro c
    rw [hreb _ (by simp [hd0]), if_pos (List.prefix_append _ _), drop_append_self]
  rw [List.append_assoc, gd, ← List.append_assoc] at hg
  rcases ht.host_ds (src ++ c0) m (by rw [isInternal_append, hs, hb.2]; rfl) hg (fun h => h) with h | ⟨v, hv⟩
  · exact Or.inl h
  · exact Or.inr ⟨v, by rw [List.append_assoc, gd, ← List.append_assoc]; exact hv⟩

/-- `raw.copy` / `raw.move` of a user node (a moved one being a group) to a free user name -/
theorem treeOK_rebase_user {e : Env} {t t' : Tree} {src dst : Path} {mv : Bool} (ht : TreeOK e t)
    (hs : isInternal src = false) (hd : isInternal dst = false) (hgrp : mv = true → get? t src = some .grp)
    (hs0 : src ≠ []) (hd0 : dst ≠ []) (hfree : get? t dst = none) (hk' : KeysOK t') (hc' : PClosed t')
    (hreb : Rebased t t' src dst mv) :
    TreeOK e t' ∧ ∀ p r u, ObjAt t' p r u ↔ ((dst <+: p ∧ ObjAt t (src ++ p.drop dst.length) r u) ∨
      (¬ dst <+: p ∧ ¬ (mv = true ∧ src <+: p) ∧ ObjAt t p r u)) :=
  treeOK_rebase (ex' := fun _ => False) ht hk' hc' hreb hd0 hfree
    (fun q hm => isInternal_prefix (isMid_nil_iff.mp hm).2.1 hd)
    (fun P r u hp => by rw [hp, obj_path_internal] at hs; cases hs)
    (fun P r u hp => by rw [hp, obj_path_internal] at hd; cases hd)
    (fun c n hg => ushape_rebase_user hs hd (ht.ushape _ n (by simp [hs0])
      (head_append_ne_toc c hs0 (isInternal_head_ne_toc hs)) hg))
    (dirCorr_user hs hd) (hD_user ht hs hd hd0 hreb)
    (fun base m hb hg _ hrm hne => ⟨hne, (ht.host_ds base m hb hg (fun h => h)).imp_right fun ⟨v, hv⟩ ⟨hmv, hp⟩ =>
      (prefix_snoc_iff.mp hp).elim (fun h => by have := hgrp hmv; rw [h, hv] at this; cases this)
        (fun h => hrm ⟨hmv, h.trans (List.prefix_append _ _)⟩)⟩)

theorem metaDir_not_prefix_user {a base : Path} {x y : String} (hbase : isInternal base = false) :
    ¬ a ++ [Key.metaDir x] <+: base ++ [.user y] := fun hp =>
  (prefix_snoc_iff.mp hp).elim (fun h => by have := congrArg List.getLast? h; simp at this)
    (fun h => by have := isInternal_prefix h hbase; rw [isInternal_metaDir a x []] at this; cases this)

/-- `raw.copy` / `raw.move` of a metadata directory to the free directory name of an existing node; a
moved directory may be the one that was exempt from having its dataset next to it -/
theorem treeOK_rebase_meta {e : Env} {t t' : Tree} {b b' : Path} {m m' : String} {mv : Bool} {ex : Path → Prop}
    (ht : TreeOKx e t ex) (hex : ∀ P, ex P → mv = true ∧ P = b ++ [.metaDir m])
    (hb : isInternal b = false) (hb' : isInternal b' = false)
    (hhost : m' = "" ∨ ∃ v, get? t (b' ++ [.user m']) = some (.ds v))
    (hfree : get? t (b' ++ [.metaDir m']) = none) (hk' : KeysOK t') (hc' : PClosed t')
    (hreb : Rebased t t' (b ++ [.metaDir m]) (b' ++ [.metaDir m']) mv) :
    TreeOK e t' ∧ ∀ p r u, ObjAt t' p r u ↔
      ((b' ++ [.metaDir m'] <+: p ∧ ObjAt t (b ++ [.metaDir m] ++ p.drop (b' ++ [Key.metaDir m']).length) r u) ∨
       (¬ b' ++ [.metaDir m'] <+: p ∧ ¬ (mv = true ∧ b ++ [.metaDir m] <+: p) ∧ ObjAt t p r u)) :=
  treeOK_rebase (ex' := fun _ => False) ht hk' hc' hreb (by simp) hfree
    (fun q hm => by
      obtain ⟨-, hpre, hne⟩ := isMid_nil_iff.mp hm
      exact (prefix_snoc_iff.mp hpre).elim (fun h => absurd h hne) (fun h => isInternal_prefix h hb'))
    (fun P r u hp => by have := congrArg List.getLast? hp; simp at this)
    (fun P r u hp => by have := congrArg List.getLast? hp; simp at this)
    (fun c n hg => ushape_rebase_meta hb hb' (ht.ushape _ n (by simp)
      (by rw [List.append_assoc]; exact objPath_head hb) hg))
    (dirCorr_meta m m' hb hb')
    (fun base mm hbase hpre hg _ => by
      obtain ⟨c, hc⟩ := hpre
      have h1 : b' ++ Key.metaDir m' :: c = base ++ Key.metaDir mm :: [] := by simpa using hc
      obtain ⟨rfl, hk, -⟩ := internal_split_unique b' base _ _ _ _ hb' hbase rfl rfl h1
      cases hk
      refine hhost.imp_right fun ⟨v, hv⟩ => ⟨v, ?_⟩
      rw [hreb _ (by simp), if_neg (metaDir_not_prefix_user hb'),
        if_neg (fun h => metaDir_not_prefix_user hb' h.2), hv]; rfl)
    (fun base mm hbase _ _ hrm _ => ⟨fun h => hrm ⟨(hex _ h).1, by rw [(hex _ h).2]⟩,
      Or.inr (fun h => metaDir_not_prefix_user hbase h.2)⟩)

/-- `raw.move` of a dataset: its metadata directory (if any) is left behind for the moment -/
theorem treeOK_move_ds {e : Env} {t t' : Tree} {b : Path} {m : String} {dst : Path} {v : Val} (ht : TreeOK e t)
    (hsi : isInternal (b ++ [.user m]) = false)
    (hd : isInternal dst = false) (hds : get? t (b ++ [.user m]) = some (.ds v))
    (h : rawMove t (b ++ [.user m]) dst = .ok t') :
    TreeOKx e t' (fun P => P = b ++ [.metaDir m]) ∧ (∀ p r u, ObjAt t' p r u ↔ ObjAt t p r u) ∧
    (∀ q, isInternal q = true → get? t' q = get? t q) ∧ get? t' dst = some (.ds v) := by
  obtain ⟨hs0, hd0, -, hfree, -, -⟩ := rawMove_inv h
  have hreb := rebased_of_move h ht.pclosed
  have hnb : ∀ q, b ++ [Key.user m] <+: q → q ≠ b ++ [.user m] → get? t q = none :=
    fun q hp hne => none_below_ds ht.pclosed hds hp hne
  have := treeOK_rebase (ex' := fun P => P = b ++ [.metaDir m]) ht (rawMove_keys h ht.keys ht.pclosed)
    (rawMove_pclosed h ht.pclosed)
    hreb hd0 hfree
    (fun q hm => isInternal_prefix (isMid_nil_iff.mp hm).2.1 hd)
    (fun P r u hp => by rw [hp, obj_path_internal] at hsi; cases hsi)
    (fun P r u hp => by rw [hp, obj_path_internal] at hd; cases hd)
    (fun c n hg => ushape_rebase_user hsi hd (ht.ushape _ n (by simp)
      (head_append_ne_toc c hs0 (isInternal_head_ne_toc hsi)) hg))
    (dirCorr_user hsi hd)
    (fun base mm hbase hpre hg hne => hD_user ht hsi hd hd0 hreb base mm hbase hpre hg (fun h => h))
    (fun base mm hbase hg _ hrm hne => ⟨fun h => h, by
      right
      rintro ⟨-, hp⟩
      rcases prefix_snoc_iff.mp hp with h | h
      · obtain ⟨rfl, hk⟩ := List.append_inj' h rfl
        simp at hk; subst hk
        exact hne rfl
      · exact hrm ⟨rfl, h.trans (List.prefix_append _ _)⟩⟩)
  have hint : ∀ q, isInternal q = true → get? t' q = get? t q := by
    intro q hq
    have hq0 := internal_ne_nil hq
    rw [hreb q hq0]
    by_cases hpre : dst <+: q
    · -- the only thing at or below `dst` is the dataset itself
      have hqd : q ≠ dst := by rintro rfl; rw [hd] at hq; cases hq
      obtain ⟨c, rfl⟩ := hpre
      rw [if_pos (List.prefix_append _ _), drop_append_self, none_below_free ht.pclosed hfree (List.prefix_append _ _)]
      exact hnb _ (List.prefix_append _ _) (by
        intro h
        have : c = [] := by simpa using List.append_cancel_left (h.trans (List.append_nil _).symm)
        exact hqd (by rw [this]; simp))
    · rw [if_neg hpre]
      by_cases hsq : b ++ [Key.user m] <+: q
      · rw [if_pos ⟨rfl, hsq⟩, hnb q hsq (by rintro rfl; rw [hsi] at hq; cases hq)]
      · rw [if_neg (fun h => hsq h.2)]
        cases hg : get? t q with
        | some x => rfl
        | none =>
          cases hm : isMid [] dst q with
          | false => rfl
          | true => rw [isInternal_prefix (isMid_nil_iff.mp hm).2.1 hd] at hq; cases hq
  refine ⟨this.1, fun p r u => ObjAt.congr_internal hint p r u, hint, ?_⟩
  have := hreb dst hd0
  rw [if_pos (List.prefix_refl _)] at this
  simpa [hds] using this

end MetadorModel.Container
