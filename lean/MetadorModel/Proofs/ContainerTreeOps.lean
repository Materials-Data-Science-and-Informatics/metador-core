import MetadorModel.Proofs.ContainerTree
import Mathlib.Data.List.Infix
/-!
# `raw.copy` and `raw.move` of the container model, point-wise
-/
namespace MetadorModel.Container

theorem lookup_append (a b : Tree) (q : Path) :
    lookup (a ++ b) q = match lookup a q with
      | some n => some n
      | none => lookup b q := by
  induction a with
  | nil => rfl
  | cons x a ih =>
    obtain ⟨p, n⟩ := x
    simp only [List.cons_append, lookup]
    split_ifs
    · rfl
    · exact ih

theorem rebase_eq (src dst q : Path) : rebase src dst q = dst ++ q.drop src.length := rfl

theorem rebase_eq_iff {src dst p q : Path} (hp : src <+: p) (hq : dst <+: q) :
    dst ++ p.drop src.length = q ↔ p = src ++ q.drop dst.length := by
  obtain ⟨a, rfl⟩ := hp
  obtain ⟨b, rfl⟩ := hq
  simp

theorem lookup_rebase (t : Tree) (src dst q : Path) :
    lookup ((t.filter fun e => under src e.1).map fun e => (rebase src dst e.1, e.2)) q =
      if dst <+: q then lookup t (src ++ q.drop dst.length) else none := by
  induction t with
  | nil => simp [lookup]
  | cons x t ih =>
    obtain ⟨p, n⟩ := x
    by_cases hu : under src p = true
    · have hp := under_iff.mp hu
      simp only [List.filter_cons, hu, if_true, List.map_cons, lookup]
      rw [ih]
      by_cases hq : dst <+: q
      · simp only [hq, if_true, rebase_eq, rebase_eq_iff hp hq]
      · simp only [hq, if_false]
        rw [if_neg]
        rw [rebase_eq]
        rintro rfl
        exact hq (List.prefix_append _ _)
    · have hu' : under src p = false := by simpa using hu
      simp only [List.filter_cons, hu', Bool.false_eq_true, if_false, lookup]
      rw [ih]
      by_cases hq : dst <+: q
      · simp only [hq, if_true]
        rw [if_neg]
        rintro rfl
        exact hu (under_iff.mpr (List.prefix_append _ _))
      · simp [hq]

theorem rawCopy_inv {t t' : Tree} {src dst : Path} (h : rawCopy t src dst = .ok t') :
    src ≠ [] ∧ dst ≠ [] ∧ get? t src ≠ none ∧ get? t dst = none ∧
      ∃ t1, mkParents t [] dst = .ok t1 ∧
        t' = ((t.filter fun e => under src e.1).map fun e => (rebase src dst e.1, e.2)) ++ t1 := by
  unfold rawCopy at h
  split_ifs at h with h0 h3 h4
  cases hm : mkParents t [] dst with
  | error err => simp [hm] at h
  | ok t1 =>
    simp only [hm, Except.ok.injEq] at h
    simp only [Bool.or_eq_true, decide_eq_true_eq, not_or] at h0
    exact ⟨h0.1, h0.2, has_iff.mp (by simpa using h3), has_false_iff.mp (by simpa using h4), t1, rfl, h.symm⟩

theorem none_below_free {t : Tree} (hc : PClosed t) {dst q : Path} (hfree : get? t dst = none)
    (hq : dst <+: q) : get? t q = none := by
  by_contra hne
  by_cases he : dst = q
  · exact hne (he ▸ hfree)
  · rw [prefix_grp' hc hq he hne] at hfree; cases hfree

theorem not_isMid_of_prefix {dst q : Path} (hq : dst <+: q) : isMid [] dst q = false := by
  cases hm : isMid [] dst q with
  | false => rfl
  | true =>
    obtain ⟨-, hpre, hne⟩ := isMid_nil_iff.mp hm
    exact absurd (List.IsPrefix.eq_of_length_le hpre hq.length_le) hne

theorem rawCopy_get? {t t' : Tree} {src dst : Path} (h : rawCopy t src dst = .ok t') (hc : PClosed t)
    (q : Path) (hq : q ≠ []) :
    get? t' q = if dst <+: q then get? t (src ++ q.drop dst.length) else
      match get? t q with
      | some x => some x
      | none => if isMid [] dst q then some .grp else none := by
  obtain ⟨hs, hd, -, hfree, t1, h1, rfl⟩ := rawCopy_inv h
  rw [get?_ne_nil hq, lookup_append, lookup_rebase, ← get?_ne_nil (t := t1) hq, mkParents_get? _ _ _ _ h1 q hq]
  by_cases hpre : dst <+: q
  · simp only [hpre, if_true]
    have hsq : src ++ q.drop dst.length ≠ [] := by simp [hs]
    rw [get?_ne_nil hsq]
    cases lookup t (src ++ q.drop dst.length) with
    | some n => rfl
    | none => simp [none_below_free hc hfree hpre, not_isMid_of_prefix hpre]
  · simp only [hpre, if_false]
    cases get? t q <;> rfl

theorem rawCopy_has_dst {t t' : Tree} {src dst : Path} (h : rawCopy t src dst = .ok t') : has t' dst = true := by
  obtain ⟨hs, hd, hsrc, _, t1, h1, rfl⟩ := rawCopy_inv h
  rw [get?_ne_nil hs] at hsrc
  obtain ⟨n, hn⟩ := Option.ne_none_iff_exists'.mp hsrc
  have hm : (dst, n) ∈ ((t.filter fun e => under src e.1).map fun e => (rebase src dst e.1, e.2)) ++ t1 := by
    refine List.mem_append_left _ (List.mem_map.mpr ⟨(src, n), ?_, ?_⟩)
    · have : under src src = true := under_iff.mpr (List.prefix_refl _)
      simp [lookup_some_mem hn, this]
    · simp [rebase]
  simp only [has, get?, hd, if_false]
  exact lookup_isSome_of_mem _ _ _ hm

theorem rebase_injOn {src dst p p' : Path} (hp : src <+: p) (hp' : src <+: p')
    (h : rebase src dst p = rebase src dst p') : p = p' := by
  obtain ⟨a, rfl⟩ := hp
  obtain ⟨b, rfl⟩ := hp'
  simp [rebase_eq] at h
  rw [h]

theorem rawCopy_keys {t t' : Tree} {src dst : Path} (h : rawCopy t src dst = .ok t') (hk : KeysOK t)
    (hc : PClosed t) : KeysOK t' := by
  obtain ⟨hs, hd, -, hfree, t1, h1, rfl⟩ := rawCopy_inv h
  have hk1 := mkParents_keys _ _ _ _ h1 hk
  constructor
  · rw [List.map_append, List.nodup_append]
    refine ⟨?_, hk1.nodup, ?_⟩
    · rw [List.map_map]
      have : ((t.filter fun e => under src e.1).map Prod.fst).Nodup :=
        hk.nodup.sublist ((List.filter_sublist).map Prod.fst)
      rw [show (Prod.fst ∘ fun e : Path × Node => (rebase src dst e.1, e.2)) = (rebase src dst ∘ Prod.fst) from rfl,
        ← List.map_map]
      refine List.Nodup.map_on ?_ this
      intro p hp p' hp' heq
      obtain ⟨⟨_, n⟩, hm, rfl⟩ := List.mem_map.mp hp
      obtain ⟨⟨_, n'⟩, hm', rfl⟩ := List.mem_map.mp hp'
      exact rebase_injOn (under_iff.mp (by simpa using (List.mem_filter.mp hm).2))
        (under_iff.mp (by simpa using (List.mem_filter.mp hm').2)) heq
    · -- copies live below `dst`, where the old tree has nothing
      intro x hx y hy hxy
      subst hxy
      obtain ⟨⟨p, n⟩, hm, rfl⟩ := List.mem_map.mp hx
      obtain ⟨⟨p0, n0⟩, _, hpe⟩ := List.mem_map.mp hm
      simp only [Prod.mk.injEq] at hpe
      obtain ⟨⟨q, m⟩, hm1, hq⟩ := List.mem_map.mp hy
      simp only at hq
      subst hq
      have hpre : dst <+: q := by rw [← hpe.1, rebase_eq]; exact List.prefix_append _ _
      have hq0 : q ≠ [] := fun h => hk1.noroot m (h ▸ hm1)
      have := ((mem_iff_get? hk1).mp hm1).2
      rw [mkParents_get? _ _ _ _ h1 q hq0, none_below_free hc hfree hpre, not_isMid_of_prefix hpre] at this
      simp at this
  · intro n hm
    rcases List.mem_append.mp hm with hm | hm
    · obtain ⟨⟨p, n'⟩, _, hpe⟩ := List.mem_map.mp hm
      simp only [Prod.mk.injEq, rebase_eq] at hpe
      have := hpe.1
      simp at this
      exact hd this.1
    · exact hk1.noroot n hm

theorem rawMove_inv {t t' : Tree} {src dst : Path} (h : rawMove t src dst = .ok t') :
    src ≠ [] ∧ dst ≠ [] ∧ get? t src ≠ none ∧ get? t dst = none ∧ ¬ src <+: dst ∧
      ∃ t1, mkParents t [] dst = .ok t1 ∧
        t' = t1.map fun e => if under src e.1 then (rebase src dst e.1, e.2) else e := by
  unfold rawMove at h
  by_cases h1 : src = []
  · simp [h1] at h
  · by_cases h2 : dst = []
    · simp [h2] at h
    · simp only [h1, h2, Bool.or_self] at h
      cases h3 : has t src with
      | false => simp [h3] at h
      | true =>
        simp only [h3, Bool.not_true, Bool.false_eq_true, if_false] at h
        cases h4 : has t dst with
        | true => simp [h4] at h
        | false =>
          simp only [h4, Bool.false_eq_true, if_false] at h
          cases h5 : under src dst with
          | true => simp [h5] at h
          | false =>
            simp only [h5, Bool.false_eq_true, if_false] at h
            cases hm : mkParents t [] dst with
            | error err => simp [hm] at h
            | ok t1 =>
              simp only [hm] at h
              cases h
              refine ⟨h1, h2, has_iff.mp h3, has_false_iff.mp h4, fun hp => ?_, t1, rfl, rfl⟩
              rw [under_iff.mpr hp] at h5; cases h5

theorem rawMove_has_dst {t t' : Tree} {src dst : Path} (h : rawMove t src dst = .ok t') : has t' dst = true := by
  obtain ⟨hs, hd, hsrc, _, _, t1, h1, rfl⟩ := rawMove_inv h
  rw [get?_ne_nil hs] at hsrc
  obtain ⟨n, hn⟩ := Option.ne_none_iff_exists'.mp hsrc
  have hm : (src, n) ∈ t1 := mkParents_subset _ _ _ _ h1 _ (lookup_some_mem hn)
  have hm' : (dst, n) ∈ t1.map fun e => if under src e.1 then (rebase src dst e.1, e.2) else e := by
    refine List.mem_map.mpr ⟨(src, n), hm, ?_⟩
    have : under src src = true := under_iff.mpr (List.prefix_refl _)
    simp [this, rebase]
  simp only [has, get?, hd, if_false]
  exact lookup_isSome_of_mem _ _ _ hm'

theorem lookup_move (src dst : Path) : ∀ (t1 : Tree) (q : Path), (∀ x, dst <+: x → lookup t1 x = none) →
    lookup (t1.map fun e => if under src e.1 then (rebase src dst e.1, e.2) else e) q =
      if dst <+: q then lookup t1 (src ++ q.drop dst.length) else if src <+: q then none else lookup t1 q
  | [], q, _ => by simp [lookup]
  | (p, n) :: t1, q, hfree => by
    have hfree' : ∀ x, dst <+: x → lookup t1 x = none := by
      intro x hx
      have := hfree x hx
      simp only [lookup] at this
      split_ifs at this
      exact this
    have hpd : ¬ dst <+: p := by
      intro hp
      have := hfree p hp
      simp [lookup] at this
    have ih := lookup_move src dst t1 q hfree'
    by_cases hu : under src p = true
    · have hp := under_iff.mp hu
      simp only [List.map_cons, hu, if_true, lookup]
      rw [ih]
      by_cases hq : dst <+: q
      · simp only [hq, if_true, rebase_eq, rebase_eq_iff hp hq]
      · simp only [hq, if_false]
        have e1 : ¬ rebase src dst p = q := by
          rw [rebase_eq]; rintro rfl; exact hq (List.prefix_append _ _)
        rw [if_neg e1]
        by_cases hsq : src <+: q
        · simp [hsq]
        · simp only [hsq, if_false]
          rw [if_neg]; rintro rfl; exact hsq hp
    · have hu' : ¬ src <+: p := fun h => hu (under_iff.mpr h)
      simp only [List.map_cons, hu, lookup]
      rw [ih]
      by_cases hq : dst <+: q
      · simp only [hq, if_true]
        have e1 : ¬ p = q := by rintro rfl; exact hpd hq
        have e2 : ¬ p = src ++ q.drop dst.length := by rintro rfl; exact hu' (List.prefix_append _ _)
        simp [e1, e2]
      · simp only [hq, if_false]
        by_cases hsq : src <+: q
        · have e1 : ¬ p = q := by rintro rfl; exact hu' hsq
          simp [hsq, e1]
        · simp [hsq]

theorem rawMove_get? {t t' : Tree} {src dst : Path} (h : rawMove t src dst = .ok t') (hc : PClosed t)
    (q : Path) (hq : q ≠ []) :
    get? t' q = if dst <+: q then get? t (src ++ q.drop dst.length) else if src <+: q then none else
      match get? t q with
      | some x => some x
      | none => if isMid [] dst q then some .grp else none := by
  obtain ⟨hs, hd, hsrc, hfree, hnu, t1, h1, rfl⟩ := rawMove_inv h
  have g1 : ∀ x, x ≠ [] → get? t1 x = _ := fun x hx => mkParents_get? _ _ _ _ h1 x hx
  have hfree1 : ∀ x, dst <+: x → lookup t1 x = none := by
    intro x hx
    have hx0 : x ≠ [] := by rintro rfl; exact hd (List.prefix_nil.mp hx)
    rw [← get?_ne_nil hx0, g1 x hx0, none_below_free hc hfree hx, not_isMid_of_prefix hx]
    simp
  rw [get?_ne_nil hq, lookup_move src dst t1 q hfree1]
  by_cases hpre : dst <+: q
  · simp only [hpre, if_true]
    have hsq : src ++ q.drop dst.length ≠ [] := by simp [hs]
    rw [← get?_ne_nil hsq, g1 _ hsq]
    cases hg : get? t (src ++ q.drop dst.length) with
    | some n => rfl
    | none =>
      -- a missing node below `src` is not one of the created parents of `dst`
      cases hm : isMid [] dst (src ++ q.drop dst.length) with
      | false => simp
      | true =>
        exfalso
        obtain ⟨-, hp, -⟩ := isMid_nil_iff.mp hm
        exact hnu ((List.prefix_append _ _).trans hp)
  · simp only [hpre, if_false]
    by_cases hsq : src <+: q
    · simp [hsq]
    · simp only [hsq, if_false]
      rw [← get?_ne_nil hq, g1 q hq]
      cases get? t q <;> rfl

theorem rawMove_keys {t t' : Tree} {src dst : Path} (h : rawMove t src dst = .ok t') (hk : KeysOK t)
    (hc : PClosed t) : KeysOK t' := by
  obtain ⟨hs, hd, hsrc, hfree, hnu, t1, h1, rfl⟩ := rawMove_inv h
  have hk1 := mkParents_keys _ _ _ _ h1 hk
  have hnone : ∀ x n, (x, n) ∈ t1 → ¬ dst <+: x := by
    intro x n hm hx
    have hx0 : x ≠ [] := fun h => hk1.noroot n (h ▸ hm)
    have := ((mem_iff_get? hk1).mp hm).2
    rw [mkParents_get? _ _ _ _ h1 x hx0, none_below_free hc hfree hx, not_isMid_of_prefix hx] at this
    simp at this
  constructor
  · rw [List.map_map]
    have e : (Prod.fst ∘ fun e : Path × Node => if under src e.1 = true then (rebase src dst e.1, e.2) else e) =
        ((fun p => if under src p = true then rebase src dst p else p) ∘ Prod.fst) := by
      funext x; simp only [Function.comp]; split_ifs <;> rfl
    rw [e, ← List.map_map]
    refine List.Nodup.map_on ?_ hk1.nodup
    intro p hp p' hp' heq
    obtain ⟨⟨p0, n⟩, hm, hp0⟩ := List.mem_map.mp hp
    obtain ⟨⟨p1, n'⟩, hm', hp1⟩ := List.mem_map.mp hp'
    simp only at hp0 hp1
    subst hp0; subst hp1
    by_cases h1 : under src p0 = true <;> by_cases h2 : under src p1 = true
    · rw [if_pos h1, if_pos h2] at heq
      exact rebase_injOn (under_iff.mp h1) (under_iff.mp h2) heq
    · rw [if_pos h1, if_neg h2] at heq
      exact absurd (heq ▸ (by rw [rebase_eq]; exact List.prefix_append _ _)) (hnone p1 n' hm')
    · rw [if_neg h1, if_pos h2] at heq
      exact absurd (heq ▸ (by rw [rebase_eq]; exact List.prefix_append _ _) : dst <+: p0) (hnone p0 n hm)
    · rw [if_neg h1, if_neg h2] at heq; exact heq
  · intro n hm
    obtain ⟨⟨p, n'⟩, hm1, hpe⟩ := List.mem_map.mp hm
    by_cases h1 : under src p = true
    · rw [if_pos h1] at hpe
      simp only [Prod.mk.injEq, rebase_eq] at hpe
      have := hpe.1
      simp at this
      exact hd this.1
    · rw [if_neg h1] at hpe
      cases hpe
      exact hk1.noroot n hm1

theorem pclosed_of_rebase {t t2 t' : Tree} {src dst : Path} (hc : PClosed t) (hc2 : PClosed t2)
    (hdst : get? t2 dst ≠ none) (hnu : ¬ src <+: dst)
    (hget : ∀ q, q ≠ [] → get? t' q = if dst <+: q then get? t (src ++ q.drop dst.length)
      else if src <+: q then none else get? t2 q) : PClosed t' := by
  intro q k hne
  have hqk : q ++ [k] ≠ [] := by simp
  rw [hget _ hqk] at hne
  by_cases hq0 : q = []
  · subst hq0; simp
  · rw [hget q hq0]
    by_cases hpre : dst <+: q ++ [k]
    · rw [if_pos hpre] at hne
      rcases prefix_snoc_iff.mp hpre with heq | hpre'
      · have hnd : ¬ dst <+: q := by
          intro h
          have := h.length_le
          rw [heq] at this; simp at this; omega
        have hns : ¬ src <+: q := fun h => hnu (heq ▸ h.trans (List.prefix_append _ _))
        rw [if_neg hnd, if_neg hns]
        exact hc2 q k (heq ▸ hdst)
      · rw [if_pos hpre']
        rw [List.drop_append_of_le_length hpre'.length_le, ← List.append_assoc] at hne
        exact hc _ k hne
    · rw [if_neg hpre] at hne
      have hnd : ¬ dst <+: q := fun h => hpre (h.trans (List.prefix_append _ _))
      rw [if_neg hnd]
      by_cases hs : src <+: q ++ [k]
      · rw [if_pos hs] at hne; exact absurd rfl hne
      · rw [if_neg hs] at hne
        have hns : ¬ src <+: q := fun h => hs (h.trans (List.prefix_append _ _))
        rw [if_neg hns]
        exact hc2 q k hne

theorem rawCreate_of_free {t t1 : Tree} {dst : Path} (hd : dst ≠ []) (hfree : get? t dst = none)
    (h1 : mkParents t [] dst = .ok t1) (n : Node) : rawCreate t dst n = .ok ((dst, n) :: t1) := by
  simp [rawCreate, hd, has_false_iff.mpr hfree, h1]

theorem rawMove_pclosed {t t' : Tree} {src dst : Path} (h : rawMove t src dst = .ok t') (hc : PClosed t) :
    PClosed t' := by
  obtain ⟨hs, hd, hsrc, hfree, hnu, t1, h1, -⟩ := rawMove_inv h
  have h2 := rawCreate_of_free hd hfree h1 .grp
  refine pclosed_of_rebase (t2 := (dst, .grp) :: t1) hc (rawCreate_pclosed h2 hc)
    (by rw [rawCreate_get? h2 dst]; simp) hnu fun q hq => ?_
  rw [rawMove_get? h hc q hq]
  by_cases hpre : dst <+: q
  · simp [hpre]
  · by_cases hsq : src <+: q
    · simp [hpre, hsq]
    · simp only [hpre, hsq, if_false]
      have hqd : ¬ q = dst := by rintro rfl; exact hpre (List.prefix_refl _)
      rw [rawCreate_get? h2 q, if_neg hqd]
      cases get? t q <;> rfl

/-- as for `raw.move`, compared with the tree in which `dst` was created as an empty group -/
theorem rawCopy_pclosed {t t' : Tree} {src dst : Path} (h : rawCopy t src dst = .ok t') (hc : PClosed t) :
    PClosed t' := by
  obtain ⟨hs, hd, hsrc, hfree, t1, h1, -⟩ := rawCopy_inv h
  have h2 := rawCreate_of_free hd hfree h1 .grp
  have hc2 := rawCreate_pclosed h2 hc
  have g2 : ∀ q, q ≠ [] → ¬ dst <+: q → get? t' q = get? ((dst, Node.grp) :: t1) q := by
    intro q hq hpre
    have hqd : ¬ q = dst := by rintro rfl; exact hpre (List.prefix_refl _)
    rw [rawCopy_get? h hc q hq, if_neg hpre, rawCreate_get? h2 q, if_neg hqd]
    cases get? t q <;> rfl
  intro q k hne
  have hqk : q ++ [k] ≠ [] := by simp
  by_cases hq0 : q = []
  · subst hq0; simp
  · by_cases hpre : dst <+: q ++ [k]
    · rcases prefix_snoc_iff.mp hpre with heq | hpre'
      · have hnd : ¬ dst <+: q := by
          intro h
          have := h.length_le
          rw [heq] at this; simp at this; omega
        rw [g2 q hq0 hnd]
        exact hc2 q k (by rw [← heq, rawCreate_get? h2 dst]; simp)
      · rw [rawCopy_get? h hc _ hqk, if_pos hpre, List.drop_append_of_le_length hpre'.length_le, ← List.append_assoc] at hne
        rw [rawCopy_get? h hc q hq0, if_pos hpre']
        exact hc _ k hne
    · have hnd : ¬ dst <+: q := fun h => hpre (h.trans (List.prefix_append _ _))
      rw [g2 _ hqk hpre] at hne
      rw [g2 q hq0 hnd]
      exact hc2 q k hne

theorem rawMove_ok {t : Tree} {src dst : Path} (hs : src ≠ []) (hd : dst ≠ []) (hsrc : get? t src ≠ none)
    (hfree : get? t dst = none) (hnu : ¬ src <+: dst)
    (hpar : ∀ q v, isMid [] dst q = true → get? t q ≠ some (.ds v)) : ∃ t', rawMove t src dst = .ok t' := by
  obtain ⟨t1, h1⟩ := mkParents_ok dst t [] hpar
  refine ⟨t1.map fun e => if under src e.1 then (rebase src dst e.1, e.2) else e, ?_⟩
  have hu : under src dst = false := by
    cases h : under src dst
    · rfl
    · exact absurd (under_iff.mp h) hnu
  simp [rawMove, hs, hd, has_iff.mpr hsrc, has_false_iff.mpr hfree, hu, h1]

theorem rawMove_sibling {t : Tree} (hc : PClosed t) {d : Path} {k k' : Key} (hex : get? t (d ++ [k]) ≠ none)
    (hfree : get? t (d ++ [k']) = none) (hleaf : ∀ c, c ≠ [] → get? t (d ++ [k] ++ c) = none) :
    ∃ t', rawMove t (d ++ [k]) (d ++ [k']) = .ok t' ∧
      ∀ q, get? t' q = if q = d ++ [k'] then get? t (d ++ [k]) else if q = d ++ [k] then none else get? t q := by
  have hpn : d ++ [k] ≠ d ++ [k'] := fun h => hex (h ▸ hfree)
  have hmidg : ∀ q, isMid [] (d ++ [k']) q = true → get? t q = some .grp := by
    intro q hm
    obtain ⟨-, hpre, hqn⟩ := isMid_nil_iff.mp hm
    have hqd : q <+: d := (prefix_snoc_iff.mp hpre).resolve_left hqn
    exact prefix_grp' hc (hqd.trans (List.prefix_append d [k]))
      (fun h => by have := hqd.length_le; rw [h] at this; simp at this; omega) hex
  obtain ⟨t', hmv⟩ := rawMove_ok (by simp) (by simp) hex hfree
    (fun h => hpn (h.eq_of_length_le (by simp))) fun q v hm => by rw [hmidg q hm]; exact fun h => by cases h
  refine ⟨t', hmv, fun q => ?_⟩
  by_cases hq : q = []
  · subst hq; simp
  rw [rawMove_get? hmv hc q hq]
  by_cases h1 : d ++ [k'] <+: q
  · obtain ⟨c, rfl⟩ := h1
    rw [if_pos (List.prefix_append _ _), List.drop_left]
    by_cases hcn : c = []
    · subst hcn; simp
    · have e1 : d ++ [k'] ++ c ≠ d ++ [k'] := by simpa using hcn
      have e2 : d ++ [k'] ++ c ≠ d ++ [k] := fun h => hcn (by simpa using congrArg List.length h)
      rw [if_neg e1, if_neg e2, hleaf c hcn, none_below_free hc hfree (List.prefix_append _ _)]
  · have e1 : q ≠ d ++ [k'] := by rintro rfl; exact h1 (List.prefix_refl _)
    rw [if_neg h1, if_neg e1]
    by_cases h2 : d ++ [k] <+: q
    · obtain ⟨c, rfl⟩ := h2
      rw [if_pos (List.prefix_append _ _)]
      by_cases hcn : c = []
      · subst hcn; simp
      · rw [if_neg (by simpa using hcn), hleaf c hcn]
    · have e2 : q ≠ d ++ [k] := by rintro rfl; exact h2 (List.prefix_refl _)
      rw [if_neg h2, if_neg e2]
      cases hg : get? t q with
      | some x => rfl
      | none =>
        cases hm : isMid [] (d ++ [k']) q with
        | false => rfl
        | true => rw [hmidg q hm] at hg; cases hg

theorem rawReplace_leaf {t : Tree} {p : Path} (hp : p ≠ []) (hex : get? t p ≠ none)
    (hleaf : ∀ q, p <+: q → q ≠ p → get? t q = none)
    (hpar : ∀ q, isMid [] p q = true → get? t q = some .grp) (n : Node) :
    ∃ t1 t2, rawDel t p = .ok t1 ∧ rawCreate t1 p n = .ok t2 ∧
      ∀ q, get? t2 q = if q = p then some n else get? t q := by
  have h1 := rawDel_ok hp hex
  have g1 : ∀ q, get? (t.filter fun e => !under p e.1) q = if q = p then none else get? t q := by
    intro q
    rw [rawDel_get? h1 q]
    by_cases hqe : q = p
    · rw [if_pos hqe, if_pos (under_iff.mpr (hqe ▸ List.prefix_refl _))]
    · rw [if_neg hqe]
      by_cases hu : p <+: q
      · rw [if_pos (under_iff.mpr hu), hleaf q hu hqe]
      · rw [if_neg fun h => hu (under_iff.mp h)]
  obtain ⟨t2, h2⟩ := rawCreate_ok (t := t.filter fun e => !under p e.1) (n := n) hp (by rw [g1 p, if_pos rfl])
    fun q v hm => by
      rw [g1 q, if_neg (isMid_nil_iff.mp hm).2.2, hpar q hm]; exact fun h => by cases h
  refine ⟨_, t2, h1, h2, fun q => ?_⟩
  rw [rawCreate_get? h2 q]
  by_cases hqe : q = p
  · rw [if_pos hqe, if_pos hqe]
  · rw [if_neg hqe, if_neg hqe, g1 q, if_neg hqe]
    cases hg : get? t q with
    | some x => rfl
    | none =>
      cases hm : isMid [] p q with
      | false => rfl
      | true => rw [hpar q hm] at hg; cases hg

end MetadorModel.Container
