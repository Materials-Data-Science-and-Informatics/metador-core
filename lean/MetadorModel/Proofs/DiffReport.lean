import MetadorModel.Proofs.DiffEq
/-! Directory diffs (C18): the listing has exactly one record for every path at which the two
trees differ, carrying the two entries; `DirDiff.get` finds the node of that record. -/
namespace MetadorModel.Diff
open MetadorModel

theorem mem_child_keys {es fs : Entries} {k : String} :
    k ∈ only es fs ∨ k ∈ both es fs ∨ k ∈ only fs es ↔ AL.get es k ≠ none ∨ AL.get fs k ≠ none := by
  simp only [mem_only, mem_both]
  cases AL.get es k <;> cases AL.get fs k <;> simp

theorem mem_N {x y : Option DirTree} (hx : wfO x) (hy : wfO y) (r : Rec) :
    r ∈ N x y ↔ (r = ⟨[], x, y⟩ ∧ x ≠ y) ∨ ∃ k, r ∈ sub x y k := by
  by_cases hxy : x = y
  · subst hxy
    rw [N_eq hx]
    refine iff_of_false List.not_mem_nil ?_
    rintro (⟨_, h⟩ | ⟨k, hr⟩)
    · exact h rfl
    · rw [sub, N_eq (wfO_get hx k)] at hr
      cases hr
  · rw [N_ne hx hy hxy]
    simp only [List.mem_append, List.mem_cons, List.mem_flatMap, ne_eq, hxy, not_false_eq_true, and_true]
    constructor
    · rintro (⟨k, _, h⟩ | ⟨k, _, h⟩ | h | ⟨k, _, h⟩)
      exacts [Or.inr ⟨k, h⟩, Or.inr ⟨k, h⟩, Or.inl h, Or.inr ⟨k, h⟩]
    · rintro (h | ⟨k, h⟩)
      · exact Or.inr (Or.inr (Or.inl h))
      · have hk : AL.get (entriesO x) k ≠ none ∨ AL.get (entriesO y) k ≠ none := by
          by_contra hn
          rw [not_or, not_not, not_not] at hn
          rw [sub, hn.1, hn.2] at h
          cases h
        rcases mem_child_keys.mpr hk with hk | hk | hk
        exacts [Or.inl ⟨k, hk, h⟩, Or.inr (Or.inl ⟨k, hk, h⟩), Or.inr (Or.inr (Or.inr ⟨k, hk, h⟩))]

/-- the listing holds exactly the records of the paths at which the two sides differ, each with
the two entries found there -/
theorem mem_N_iff : ∀ x y, wfO x → wfO y → ∀ r : Rec,
    r ∈ N x y ↔ r.prev = lookupO x r.path ∧ r.curr = lookupO y r.path ∧ r.prev ≠ r.curr := by
  apply pair_induction
  · intro r
    refine iff_of_false (by rw [N_eq (x := none) trivial]; exact List.not_mem_nil) fun h => h.2.2 (h.1.trans h.2.1.symm)
  · intro x y hx hy ih ⟨path, pv, cv⟩
    rw [mem_N hx hy]
    cases path with
    | nil =>
      simp only [lookupO_nil]
      constructor
      · rintro (⟨h, hne⟩ | ⟨k, h⟩)
        · cases h; exact ⟨rfl, rfl, hne⟩
        · obtain ⟨r', _, h'⟩ := List.mem_map.mp h
          cases h'
      · rintro ⟨rfl, rfl, hne⟩
        exact Or.inl ⟨rfl, hne⟩
    | cons k q =>
      simp only [lookupO_cons]
      rw [← ih k ⟨q, pv, cv⟩]
      constructor
      · rintro (⟨h, _⟩ | ⟨k', h⟩)
        · cases h
        · obtain ⟨r', hr', h'⟩ := List.mem_map.mp h
          cases h'
          exact hr'
      · intro h
        exact Or.inr ⟨k, List.mem_map.mpr ⟨_, h, rfl⟩⟩

/-- every listed record carries the two entries at its path; a path is listed iff they differ -/
theorem reported (n : Nat) : ∀ (x y : Option DirTree), wfO x → wfO y → sizeO x + sizeO y ≤ n →
    (∀ r ∈ N x y, r.prev = lookupO x r.path ∧ r.curr = lookupO y r.path) ∧
    (∀ p, (∃ r ∈ N x y, r.path = p) ↔ lookupO x p ≠ lookupO y p) := by
  intro x y hx hy _
  have h := mem_N_iff x y hx hy
  refine ⟨fun r hr => ⟨((h r).mp hr).1, ((h r).mp hr).2.1⟩, fun p => ⟨?_, fun hne => ?_⟩⟩
  · rintro ⟨r, hr, rfl⟩
    obtain ⟨h1, h2, h3⟩ := (h r).mp hr
    rwa [h1, h2] at h3
  · exact ⟨⟨p, _, _⟩, (h _).mpr ⟨rfl, rfl, hne⟩, rfl⟩

theorem compareAt_path {x y : Option DirTree} (hx : wfO x) (hy : wfO y) {p : Path} {d : DNode}
    (h : compareAt p x y = some d) : d.path = p := by
  by_cases hxy : x = y
  · subst hxy; rw [compareAt_eq hx] at h; cases h
  · rw [compareAt_ne hx hy hxy] at h; cases h; rfl

theorem findPath_filterMap {f : String → Option DNode} {p : Path}
    (hf : ∀ k d, f k = some d → d.path = p ++ [k]) (k : String) (ks : List String) :
    findPath (p ++ [k]) (ks.filterMap f) = if k ∈ ks then f k else none := by
  induction ks with
  | nil => rfl
  | cons k' ks ih =>
    rw [List.filterMap_cons]
    by_cases hk : k = k'
    · subst hk
      cases hfk : f k with
      | none => rw [ih, hfk]; simp
      | some d => rw [findPath, if_pos (hf k d hfk)]; simp
    · simp only [List.mem_cons, hk, false_or]
      rw [← ih]
      cases hfk : f k' with
      | none => rfl
      | some d => rw [findPath, if_neg]; rw [hf k' d hfk]; simpa using Ne.symm hk

def getO (d : Option DNode) (pre p : Path) : Option DNode :=
  match d with
  | none => none
  | some d => getFrom d pre p

/-- `get` answers with the node of the two entries at the path, iff they differ -/
theorem getSpec (p : Path) : ∀ (pre : Path) (x y : Option DirTree), wfO x → wfO y →
    (lookupO x p = lookupO y p → getO (compareAt pre x y) pre p = none) ∧
    (lookupO x p ≠ lookupO y p →
      (getO (compareAt pre x y) pre p).map DNode.rec' = some ⟨pre ++ p, lookupO x p, lookupO y p⟩) := by
  induction p with
  | nil =>
    intro pre x y hx hy
    rw [lookupO_nil, lookupO_nil]
    constructor
    · intro h; subst h; rw [compareAt_eq hx]; rfl
    · intro h
      rw [compareAt_ne hx hy h, List.append_nil]
      rfl
  | cons k rest ih =>
    intro pre x y hx hy
    rw [lookupO_cons, lookupO_cons]
    by_cases hxy : x = y
    · subst hxy
      rw [compareAt_eq hx]
      exact ⟨fun _ => rfl, fun h => absurd rfl h⟩
    · have hstep : getO (compareAt pre x y) pre (k :: rest) = getO (kid pre x y k) (pre ++ [k]) rest := by
        -- looking for the child `k` among the children finds the node of the two `k` entries
        rw [compareAt_ne hx hy hxy, getO, getFrom, children, ← List.filterMap_append, ← List.filterMap_append,
          findPath_filterMap (f := kid pre x y) fun k d h => compareAt_path (wfO_get hx k) (wfO_get hy k) h]
        split_ifs with h
        · cases kid pre x y k <;> rfl
        · simp only [List.mem_append, mem_child_keys, not_or, not_not] at h
          rw [kid, h.1, h.2]
          rfl
      rw [hstep, show pre ++ k :: rest = pre ++ [k] ++ rest by simp]
      exact ih (pre ++ [k]) _ _ (wfO_get hx k) (wfO_get hy k)

end MetadorModel.Diff
