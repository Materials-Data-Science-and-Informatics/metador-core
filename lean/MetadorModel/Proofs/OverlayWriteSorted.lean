import MetadorModel.Proofs.Listing
import MetadorModel.Proofs.OverlayWriteLook
import Mathlib.Data.String.Basic
/-!
# C01 write side: the listing that `copy` replays is parents-first

`listing r` is sorted by `pathLt` (Python string order lifted to paths; a path precedes its
extensions) and duplicate free, so the snapshot of the source's descendants that
`h5_copy_from_to` replays (`KidsOk`) lists every visible descendant exactly once, with its kind
and attributes, every node after all of its ancestors.
-/
namespace MetadorModel.Overlay
open MetadorModel.Tree
variable {V : Type}

/-! ### `pathLt` is a strict order that puts prefixes first -/

theorem pathLt_cons (x y : Key) (xs ys : Path) :
    pathLt (x :: xs) (y :: ys) = true ↔ x < y ∨ (x = y ∧ pathLt xs ys = true) := by
  simp only [pathLt]
  by_cases h1 : x < y
  · simp [h1]
  · by_cases h2 : x = y
    · subst h2; simp
    · simp [h1, h2]

theorem pathLt_trans (a b c : Path) (h1 : pathLt a b = true) (h2 : pathLt b c = true) : pathLt a c = true := by
  induction a generalizing b c with
  | nil =>
    cases c with
    | nil => cases b <;> simp [pathLt] at h1 h2
    | cons z zs => rfl
  | cons x xs ih =>
    cases b with
    | nil => simp [pathLt] at h1
    | cons y ys =>
      cases c with
      | nil => simp [pathLt] at h2
      | cons z zs =>
        rw [pathLt_cons] at h1 h2 ⊢
        rcases h1 with h1 | ⟨rfl, h1⟩
        · rcases h2 with h2 | ⟨rfl, _⟩
          · exact Or.inl (lt_trans h1 h2)
          · exact Or.inl h1
        · rcases h2 with h2 | ⟨rfl, h2⟩
          · exact Or.inl h2
          · exact Or.inr ⟨rfl, ih ys zs h1 h2⟩

theorem pathLt_irrefl : ∀ (a : Path), pathLt a a = false
  | [] => rfl
  | x :: xs => by simp [pathLt, pathLt_irrefl xs]

theorem pathLt_asymm (a b : Path) (h : pathLt a b = true) : pathLt b a = false := by
  cases hb : pathLt b a with
  | false => rfl
  | true =>
    have := pathLt_trans a b a h hb
    rw [pathLt_irrefl] at this; cases this

theorem pathLt_append : ∀ (x y : Path), y ≠ [] → pathLt x (x ++ y) = true
  | [], [], h => absurd rfl h
  | [], _ :: _, _ => rfl
  | a :: x, y, h => by simp [pathLt, pathLt_append x y h]

theorem pathLt_total : ∀ (a b : Path), a ≠ b → pathLt a b = true ∨ pathLt b a = true
  | [], [], h => absurd rfl h
  | [], _ :: _, _ => Or.inl rfl
  | _ :: _, [], _ => Or.inr rfl
  | x :: xs, y :: ys, h => by
    simp only [pathLt]
    rcases lt_trichotomy x y with hlt | heq | hgt
    · simp [hlt]
    · subst heq
      have hne : xs ≠ ys := fun h' => h (by rw [h'])
      simpa using pathLt_total xs ys hne
    · simp [hgt]

/-! ### insertion sort sorts -/

def Srt {α : Type} (lt : α → α → Bool) (l : List α) : Prop := l.Pairwise (fun a b => lt b a = false)

theorem mem_insertBy {α : Type} (lt : α → α → Bool) (x z : α) (l : List α) :
    z ∈ insertBy lt x l ↔ z = x ∨ z ∈ l := by
  rw [(Listing.insertBy_perm lt x l).mem_iff]; simp

theorem insertBy_sorted {α : Type} (lt : α → α → Bool)
    (htr : ∀ a b c, lt a b = true → lt b c = true → lt a c = true)
    (has : ∀ a b, lt a b = true → lt b a = false) (x : α) (l : List α) (h : Srt lt l) :
    Srt lt (insertBy lt x l) := by
  induction l with
  | nil => simp [insertBy, Srt]
  | cons y ys ih =>
    unfold Srt at h ih ⊢
    rw [List.pairwise_cons] at h
    simp only [insertBy]
    by_cases hxy : lt x y = true
    · simp only [hxy, ↓reduceIte]
      rw [List.pairwise_cons]
      refine ⟨?_, List.pairwise_cons.2 h⟩
      intro z hz
      rcases List.mem_cons.1 hz with rfl | hz'
      · exact has _ _ hxy
      · cases hzx : lt z x with
        | false => rfl
        | true =>
          have := htr z x y hzx hxy
          rw [h.1 z hz'] at this; cases this
    · simp only [hxy, Bool.false_eq_true, ↓reduceIte]
      rw [List.pairwise_cons]
      refine ⟨?_, ih h.2⟩
      intro z hz
      rcases (mem_insertBy lt x z ys).1 hz with rfl | hz'
      · simpa using hxy
      · exact h.1 z hz'

theorem sortBy_sorted {α : Type} (lt : α → α → Bool)
    (htr : ∀ a b c, lt a b = true → lt b c = true → lt a c = true)
    (has : ∀ a b, lt a b = true → lt b a = false) (l : List α) : Srt lt (sortBy lt l) := by
  induction l with
  | nil => simp [sortBy, Srt]
  | cons x xs ih => exact insertBy_sorted lt htr has x _ ih

theorem before_of_sorted {α : Type} (lt : α → α → Bool) (l1 l2 : List α) (e a : α)
    (hs : Srt lt (l1 ++ e :: l2)) (hm : a ∈ l1 ++ e :: l2) (hlt : lt a e = true) (hirr : lt e e = false) :
    a ∈ l1 := by
  unfold Srt at hs
  rw [List.pairwise_append] at hs
  obtain ⟨_, h2, _⟩ := hs
  rw [List.pairwise_cons] at h2
  rcases List.mem_append.1 hm with h | h
  · exact h
  · rcases List.mem_cons.1 h with rfl | h'
    · rw [hirr] at hlt; cases hlt
    · rw [h2.1 a h'] at hlt; cases hlt

theorem strict_of_sorted_nodup {β : Type} (L : List (Path × β))
    (hs : Srt pathLt (L.map (·.1))) (hn : (L.map (·.1)).Nodup) :
    L.Pairwise (fun a b => pathLt a.1 b.1 = true) := by
  have h1 : L.Pairwise (fun a b => pathLt b.1 a.1 = false) := by
    unfold Srt at hs
    rwa [List.pairwise_map] at hs
  have h2 : L.Pairwise (fun a b => a.1 ≠ b.1) := by
    unfold List.Nodup at hn
    rwa [List.pairwise_map] at hn
  refine (h1.and h2).imp ?_
  intro a b ⟨hab, hne⟩
  rcases pathLt_total a.1 b.1 hne with h | h
  · exact h
  · rw [h] at hab; cases hab

theorem listing_keys_sublist (r : Rec V) : ((listing r).map (·.1)).Sublist (candidates r) := by
  rw [Listing.listing_eq]
  exact Listing.keys_filterMap_sublist _ _

theorem candidates_sorted (r : Rec V) : Srt pathLt (candidates r) :=
  sortBy_sorted pathLt pathLt_trans pathLt_asymm _

theorem mem_listing (r : Rec V) (e : Path × NKind V × List (Key × V)) (h : e ∈ listing r) :
    viewKind r e.1 = some e.2.1 ∧ e.2.2 = attrsList r e.1 := by
  simp only [listing, List.mem_filterMap] at h
  obtain ⟨q, _, hq⟩ := h
  cases hv : viewKind r q with
  | none => simp [hv] at hq
  | some kd =>
    simp only [hv, Option.map_some, Option.some.injEq] at hq
    subst hq
    exact ⟨hv, rfl⟩

theorem listing_mem_of_visible (r : Rec V) (q : Path) (hq : q ≠ []) (kd : NKind V) (h : viewKind r q = some kd) :
    (q, kd, attrsList r q) ∈ listing r := by
  simp only [listing, List.mem_filterMap]
  exact ⟨q, Listing.viewKind_some_mem r q hq kd h, by simp [h]⟩

theorem listing_keys_sorted (r : Rec V) : Srt pathLt ((Overlay.listing r).map (·.1)) :=
  (candidates_sorted r).sublist (listing_keys_sublist r)

theorem listing_keys_nodup (r : Rec V) : ((Overlay.listing r).map (·.1)).Nodup :=
  (Listing.nodup_sort_dedup pathLt _).sublist (listing_keys_sublist r)

theorem listing_top (r : Rec V) : ∀ e ∈ Overlay.listing r, ∀ k s, e.1 = k :: s →
    ∃ e' ∈ Overlay.listing r, e'.1 = [k] := by
  intro e he k s hks
  cases s with
  | nil => exact ⟨e, he, hks⟩
  | cons a s' =>
    obtain ⟨hv, _⟩ := mem_listing r e he
    have hg : viewKind r [k] = some .group := by
      apply view_prefix_group r [k] (a :: s') (by simp)
      rw [show [k] ++ a :: s' = e.1 by rw [hks]; rfl, hv]; simp
    exact ⟨_, listing_mem_of_visible r [k] (by simp) .group hg, rfl⟩

theorem root_first {β : Type} : ∀ (L : List (Path × β)), L.Pairwise (fun a b => pathLt a.1 b.1 = true) →
    L = (match aget [] L with | some x => [([], x)] | none => []) ++ L.filter (fun e => e.1 != [])
  | [], _ => rfl
  | e :: L', h => by
    obtain ⟨p, x⟩ := e
    rw [List.pairwise_cons] at h
    have hne : ∀ b ∈ L', b.1 ≠ [] := by
      intro b hb hnil
      have := h.1 b hb
      rw [hnil] at this
      cases p <;> simp [pathLt] at this
    have hfil : L'.filter (fun e => e.1 != []) = L' := by
      rw [List.filter_eq_self]
      intro b hb; simpa using hne b hb
    by_cases hp : p = []
    · subst hp
      simp [aget, hfil]
    · have hnone : aget [] L' = none := by
        cases hg : aget [] L' with
        | none => rfl
        | some y => exact absurd rfl (hne _ (Single.aget_mem _ _ _ hg))
      simp [aget, hp, hnone, hfil]

theorem listing_strict (r : Rec V) : (Overlay.listing r).Pairwise (fun a b => pathLt a.1 b.1 = true) :=
  strict_of_sorted_nodup _ (listing_keys_sorted r) (listing_keys_nodup r)

theorem listing_root_first (r : Rec V) :
    Overlay.listing r = (if [] ∈ candidates r then [([], NKind.group, attrsList r [])] else []) ++ Merge.nonRoot (Overlay.listing r) := by
  have := root_first (Overlay.listing r) (listing_strict r)
  rw [Listing.aget_listing_root] at this
  by_cases hc : [] ∈ candidates r
  · simpa [hc, Merge.nonRoot] using this
  · simpa [hc, Merge.nonRoot] using this

/-! ### the snapshot replayed by `copy` -/

structure KidsOk (t : Tree V) (s : Path) (kids : List (Path × NKind V × List (Key × V))) : Prop where
  mem : ∀ e ∈ kids, ∃ x, x ≠ [] ∧ e.1 = s ++ x ∧ kindAt t e.1 = some e.2.1 ∧
    (∀ k, aget k e.2.2 = attrAt t e.1 k) ∧ (e.2.2.map (·.1)).Nodup
  nodup : (kids.map (·.1)).Nodup
  complete : ∀ x, x ≠ [] → kindAt t (s ++ x) ≠ none → s ++ x ∈ kids.map (·.1)
  order : ∀ l1 e l2, kids = l1 ++ e :: l2 → ∀ x y, e.1 = s ++ x ++ y → x ≠ [] → y ≠ [] →
    s ++ x ∈ l1.map (·.1)

theorem kidsOk_of_rep (r : Rec V) (t : Tree V) (s : Path) (hrep : Rep r t) (hs : s ≠ []) :
    KidsOk t s ((listing r).filter (fun e => isPre s e.1 && e.1 != s)) := by
  have hsub : (((listing r).filter (fun e => isPre s e.1 && e.1 != s)).map (·.1)).Sublist (candidates r) :=
    (List.Sublist.map _ List.filter_sublist).trans (listing_keys_sublist r)
  have hsorted : Srt pathLt (((listing r).filter (fun e => isPre s e.1 && e.1 != s)).map (·.1)) :=
    List.Pairwise.sublist hsub (candidates_sorted r)
  have hcomplete : ∀ x, x ≠ [] → kindAt t (s ++ x) ≠ none →
      s ++ x ∈ ((listing r).filter (fun e => isPre s e.1 && e.1 != s)).map (·.1) := by
    intro x hx hk
    rw [← (hrep _).1] at hk
    cases hv : viewKind r (s ++ x) with
    | none => exact absurd hv hk
    | some kd =>
      have hm := listing_mem_of_visible r (s ++ x) (by simp [hs]) kd hv
      rw [List.mem_map]
      refine ⟨_, List.mem_filter.2 ⟨hm, ?_⟩, rfl⟩
      simp [isPre_append, hx]
  refine ⟨?_, hsub.nodup (Listing.nodup_sort_dedup _ _), hcomplete, ?_⟩
  · intro e he
    obtain ⟨hl, hp⟩ := List.mem_filter.1 he
    obtain ⟨hv, ha⟩ := mem_listing r e hl
    simp only [Bool.and_eq_true, bne_iff_ne, ne_eq] at hp
    obtain ⟨x, hx⟩ := (isPre_iff _ _).1 hp.1
    refine ⟨x, ?_, hx, by rw [← (hrep _).1]; exact hv, ?_, ?_⟩
    · rintro rfl; simp at hx; exact hp.2 hx
    · intro k; rw [ha, Listing.aget_attrsList, (hrep _).2 k]
    · rw [ha]; exact Listing.attrsList_nodup r e.1
  · intro l1 e l2 hk x y he hx hy
    have hmem : e ∈ (listing r).filter (fun e => isPre s e.1 && e.1 != s) := by rw [hk]; simp
    have hkd : kindAt t e.1 = some e.2.1 := by
      rw [← (hrep _).1]; exact (mem_listing r e (List.mem_filter.1 hmem).1).1
    -- the ancestor is visible, hence listed
    have hvis : kindAt t (s ++ x) ≠ none := by
      have := hrep.parent (s ++ x) y hy (by rw [← he, hkd]; simp)
      rw [this]; simp
    have hin := hcomplete x hx hvis
    rw [hk] at hin hsorted
    simp only [List.map_append, List.map_cons] at hin hsorted
    exact before_of_sorted pathLt _ _ e.1 (s ++ x) hsorted hin
      (by rw [he]; exact pathLt_append _ y hy) (pathLt_irrefl _)

end MetadorModel.Overlay
