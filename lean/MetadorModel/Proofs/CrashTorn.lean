import MetadorModel.Proofs.ChainUBlock
import MetadorModel.Model.Crash
import Mathlib.Tactic.IntervalCases
/-! Torn user-block writes (C11): what `IH5UserBlock.load` makes of `data.take k ++ old.drop k`.

* framing: a block `magic \n 1024 \n x` loads the text of `x` up to its first NUL;
* the characters of a rendered block are harmless in the third line (`render_good`);
* no rendered block is a proper prefix of another (`parseUBT_take`); the interleaving of a commit
  write does not parse (`parseP_head_none`, `optP_mix`): after the first quote inside the old tail
  `null, "ub_exts": {}}` nothing follows that the parser accepts;
* the text of a torn line is the torn text (`torn_line`, `loadUBT_torn`), for any block size;
* blocks on disk: `torn_create_classified`, `torn_classified`, the results used by `Props/C11.lean`;
* the crash states of a session leave every other file alone (`Crash.Reach.frame`). -/
namespace MetadorModel.UBlock
open List

/-- the two framing lines `magic \n 1024 \n` -/
def HDR : List Char := MAGIC ++ ['\n'] ++ SZ1024 ++ ['\n']

theorem HDR_length : HDR.length = 13 := by decide

theorem frame_eq (u : UBT) : frame SZ1024 u = HDR ++ (render u ++ ['\x00']) := by
  simp only [frame, HDR, append_assoc]

/-- text that may stand in the third line: ASCII, no newline -/
def Clean (x : List Char) : Prop := ∀ c ∈ x, c ≠ '\n' ∧ c.toNat < 128

theorem Clean.take {x : List Char} (h : Clean x) (n : Nat) : Clean (x.take n) :=
  fun c hc => h c (mem_of_mem_take hc)

theorem Clean.append {x y : List Char} (hx : Clean x) (hy : Clean y) : Clean (x ++ y) :=
  forall_mem_append.mpr ⟨hx, hy⟩

theorem splitOn_clean {x : List Char} (h : ∀ c ∈ x, c ≠ '\n') : splitOn '\n' x = [x] := by
  induction x with
  | nil => rfl
  | cons c x ih =>
    have hc : c ≠ '\n' := h c mem_cons_self
    simp [splitOn, hc, ih (fun d hd => h d (mem_cons_of_mem _ hd))]

theorem splitOn_line {a : List Char} (h : ∀ c ∈ a, c ≠ '\n') (rest : List Char) :
    splitOn '\n' (a ++ '\n' :: rest) = a :: splitOn '\n' rest := by
  induction a with
  | nil => simp [splitOn]
  | cons c a ih =>
    have hc : c ≠ '\n' := h c mem_cons_self
    simp [splitOn, hc, ih (fun d hd => h d (mem_cons_of_mem _ hd))]

theorem pyInt_1024 : pyInt SZ1024 = some 1024 := by decide

theorem readHeadRaw_hdr (x : List Char) (n : Nat) (hn : 13 ≤ n) (hx : Clean (x.take (n - 13))) :
    readHeadRaw (HDR ++ x) n = .ok (some (1024, cutNul (x.take (n - 13)))) := by
  have htake : (HDR ++ x).take n = HDR ++ x.take (n - 13) := by
    rw [take_append, take_of_length_le (by rw [HDR_length]; exact hn), HDR_length]
  have hascii : (HDR ++ x.take (n - 13)).any (fun c => decide (c.toNat ≥ 128)) = false := by
    rw [any_append, Bool.or_eq_false_iff]
    refine ⟨by decide, any_eq_false.mpr fun c hc => ?_⟩
    simpa using (hx c hc).2
  have hsplit : splitOn '\n' (HDR ++ x.take (n - 13)) = [MAGIC, SZ1024, x.take (n - 13)] := by
    rw [HDR, append_assoc, append_assoc, append_assoc, singleton_append, singleton_append,
      splitOn_line (by decide), splitOn_line (by decide), splitOn_clean fun c hc => (hx c hc).1]
  unfold readHeadRaw
  simp only [htake, hascii, hsplit, Bool.false_eq_true, if_false, ne_eq, not_true_eq_false, pyInt_1024]
  rfl

theorem loadText_hdr (x : List Char) (hx : Clean (x.take 1011)) :
    loadText (HDR ++ x) = .ok (1024, cutNul (x.take 1011)) := by
  have h499 : Clean (x.take (512 - 13)) := fun c hc =>
    hx c (take_subset_take_left x (show 512 - 13 ≤ 1011 by omega) hc)
  unfold loadText
  rw [readHeadRaw_hdr x 512 (by omega) h499]
  simp only [bind, Except.bind]
  have : ((1024 : Int) > 512) = True := by simp
  simp only [this, if_true]
  have h1024 : (1024 : Int).toNat = 1024 := rfl
  rw [h1024, readHeadRaw_hdr x 1024 (by omega) hx]
  rfl

theorem untilNul_append {a : List Char} (ha : '\x00' ∉ a) (z : List Char) :
    untilNul (a ++ '\x00' :: z) = some a := by
  induction a with
  | nil => simp [untilNul]
  | cons c a ih =>
    have hc : c ≠ '\x00' := fun h => ha (h ▸ mem_cons_self)
    simp [untilNul, hc, ih (fun h => ha (mem_cons_of_mem _ h))]

theorem cutNul_take {a : List Char} (ha : '\x00' ∉ a) (z : List Char) {n : Nat} (hn : a.length < n) :
    cutNul ((a ++ '\x00' :: z).take n) = a := by
  obtain ⟨m, hm⟩ : ∃ m, n - a.length = m + 1 := ⟨n - a.length - 1, by omega⟩
  rw [take_append, take_of_length_le (by omega), hm, take_succ_cons, cutNul, untilNul_append ha]

theorem torn_zero (old data : List Char) : torn 0 old data = old := by simp [torn]

theorem le_toNat {c d : Char} (h : c ≤ d) : c.toNat ≤ d.toNat := by
  simpa [Char.le_def, UInt32.le_iff_toNat_le] using h

/-- harmless inside the third line of a user block: ASCII, not a newline, not NUL -/
def GoodC (c : Char) : Prop := c ≠ '\n' ∧ c ≠ '\x00' ∧ c.toNat < 128

theorem isHex_good {c : Char} (h : isHex c = true) : GoodC c := by
  refine ⟨by rintro rfl; revert h; decide, by rintro rfl; revert h; decide, ?_⟩
  simp only [isHex, isHexL, Bool.or_eq_true, Bool.and_eq_true, decide_eq_true_eq] at h
  rcases h with (⟨-, h⟩ | ⟨-, h⟩) | ⟨-, h⟩ <;> have := le_toNat h <;> simp at this <;> omega

theorem isDigit_good {c : Char} (h : isDigit c = true) : GoodC c :=
  isHex_good (by simp only [isDigit] at h; simp [isHex, isHexL, h])

def AllGood (s : List Char) : Prop := ∀ c ∈ s, GoodC c

theorem AllGood.append {x y : List Char} (hx : AllGood x) (hy : AllGood y) : AllGood (x ++ y) :=
  forall_mem_append.mpr ⟨hx, hy⟩

instance : DecidablePred GoodC := fun c => by unfold GoodC; infer_instance

instance (s : List Char) : Decidable (AllGood s) := by unfold AllGood; infer_instance

theorem allGood_q {s : List Char} (h : AllGood s) : AllGood (q s) :=
  forall_mem_cons.mpr ⟨by decide, h.append (by decide)⟩

theorem isUuid_good {s : List Char} (h : isUuid s = true) : AllGood s :=
  isUuid_chars h (fun _ hc => isHex_good (isHexL_isHex hc)) (by decide)

theorem isQHash_good {s : List Char} (h : isQHash s = true) : AllGood s :=
  isQHash_chars h (fun _ => isHex_good) (by decide : AllGood S_sha256) (by decide : AllGood S_sha512)

theorem render_good {u : UBT} (h : u.wf = true) : AllGood (render u) := by
  obtain ⟨h1, h2, h3, h4, h5, h6⟩ := wf_parts h
  have hopt : ∀ (o : Option (List Char)), (∀ a, o = some a → AllGood a) → AllGood (optStr o) := by
    intro o ho
    cases o with
    | none => exact (by decide : AllGood S_null)
    | some a => exact allGood_q (ho a rfl)
  have hext : AllGood (renderExt u.ext) := by
    rcases he : u.ext with _ | e
    · exact (by decide : AllGood S_obj0)
    · obtain ⟨⟨a1, -⟩, ⟨b1, -⟩⟩ := h6 e he
      have hb : AllGood (renderBool e.isStub) := by
        cases e.isStub <;> decide
      exact (((((((by decide : AllGood E1).append hb).append (by decide : AllGood E2)).append
        (allGood_q (isUuid_good a1))).append (by decide : AllGood E3)).append
        (allGood_q (isQHash_good b1))).append (by decide : AllGood E4))
  exact (((((((((((((by decide : AllGood K1).append (allGood_q (isUuid_good h1))).append
    (by decide : AllGood K2)).append fun c hc => isDigit_good (isDec_digits h2 c hc)).append
    (by decide : AllGood K3)).append (allGood_q (isUuid_good h3))).append
    (by decide : AllGood K4)).append (hopt _ fun a ha => isUuid_good (h4 a ha).1)).append
    (by decide : AllGood K5)).append (hopt _ fun a ha => isQHash_good (h5 a ha).1)).append
    (by decide : AllGood K6)).append hext).append (by decide : AllGood S_close))

/-- no rendered block is a proper prefix of another -/
theorem parseUBT_take {u v : UBT} (h : u.wf = true) {j : Nat} (hv : parseUBT ((render u).take j) = .ok v) :
    v = u := by
  obtain ⟨e, hw⟩ := (parseUBT_ok_iff _ _).mp hv
  have h1 := parseP_render hw ((render u).drop j)
  rw [← e, take_append_drop, ← append_nil (render u), parseP_render h] at h1
  exact (Prod.mk.inj (Option.some.inj h1)).1.symm

/-- the text up to and including the key of `hdf5_hashsum` -/
def headText (u : UBT) : List Char :=
  K1 ++ q u.rid ++ K2 ++ u.idx ++ K3 ++ q u.pid ++ K4 ++ optStr u.prev ++ K5

/-- the rest of a block: value of `hdf5_hashsum`, `ub_exts`, closing brace -/
def tailText (hash : Option (List Char)) (ext : Option ExtT) : List Char :=
  optStr hash ++ K6 ++ renderExt ext ++ S_close

theorem render_split (u : UBT) : render u = headText u ++ tailText u.hash u.ext := by
  simp only [render, headText, tailText, append_assoc]

/-- a text that goes wrong at the value of `hdf5_hashsum`, or right behind it, does not parse -/
theorem parseP_head_none {u : UBT} (h : u.wf = true) {t : List Char}
    (ht : ∀ o r, optP isQHash t = some (o, r) → lit K6 r = none) : parseP (headText u ++ t) = none := by
  obtain ⟨h1, h2, h3, h4, -, -⟩ := wf_parts h
  simp only [headText, append_assoc]
  unfold parseP
  -- one field at a time: `simp` with all the lemmas at once is slow on the part that stays unparsed
  dsimp only [Option.bind_eq_bind]
  rw [lit_append]
  dsimp only [Option.bind_some]
  rw [strP_append h1 (isUuid_noQuote h1)]
  dsimp only [Option.bind_some]
  rw [lit_append]
  dsimp only [Option.bind_some]
  rw [decP_append_K3 h2]
  dsimp only [Option.bind_some]
  rw [lit_append]
  dsimp only [Option.bind_some]
  rw [strP_append h3 (isUuid_noQuote h3)]
  dsimp only [Option.bind_some]
  rw [lit_append]
  dsimp only [Option.bind_some]
  rw [optP_append u.prev _ h4]
  dsimp only [Option.bind_some]
  rw [lit_append]
  dsimp only [Option.bind_some]
  rcases ho : optP isQHash t with _ | ⟨o, r⟩
  · rfl
  · rw [Option.bind_some, ht o r ho]; rfl

/-- `null, "ub_exts": {}}` — how the block of an uncommitted container ends -/
def TAIL0 : List Char := tailText none none

theorem TAIL0_length : TAIL0.length = 20 := by decide

/-- after the first quote inside the old tail nothing follows that the parser could accept -/
theorem tail0_quote (i : Nat) (h1 : 1 ≤ i) (h2 : i ≤ 20) :
    ((untilQuote (TAIL0.drop i)).all fun p => (lit K6 p.2).isNone) = true := by
  interval_cases i <;> decide

/-- **the interleaving region of a torn commit write**: a string that starts like the new hash
value (`"` and a quote-free piece) and goes on with the end of the old block is no hash value
followed by the key of `ub_exts` -/
theorem optP_mix (ok : List Char → Bool) {h' : List Char} (hq : '"' ∉ h') {i : Nat} (h1 : 1 ≤ i) (h2 : i ≤ 20)
    (o : Option (List Char)) (r : List Char) (hor : optP ok ('"' :: h' ++ TAIL0.drop i) = some (o, r)) :
    lit K6 r = none := by
  have hq0 := tail0_quote i h1 h2
  have hn : lit S_null ('"' :: h' ++ TAIL0.drop i) = none := rfl
  unfold optP at hor
  rw [hn] at hor
  simp only [cons_append, strP, if_true, untilQuote_append_left hq] at hor
  rcases hu : untilQuote (TAIL0.drop i) with _ | ⟨a, r'⟩
  · simp [hu] at hor
  · rw [hu] at hor hq0
    simp only [Option.map_some] at hor
    split_ifs at hor
    · obtain ⟨-, rfl⟩ : _ ∧ r' = r := by simpa using hor
      simpa using hq0
    · cases hor


theorem zeros_eq (n : Nat) : Crash.zeros n = replicate n '\x00' := rfl

theorem frame_length (u : UBT) : (frame SZ1024 u).length = (render u).length + 14 := by
  rw [frame_eq]; simp [HDR_length]; omega

theorem clean_of_good {s : List Char} (h : AllGood s) : Clean s := fun c hc => ⟨(h c hc).1, (h c hc).2.2⟩

theorem noNul_of_good {s : List Char} (h : AllGood s) : '\x00' ∉ s := fun hm => (h _ hm).2.1 rfl

theorem clean_zeros (n : Nat) : Clean (replicate n '\x00') := by
  intro c hc; rw [eq_of_mem_replicate hc]; exact ⟨by decide, by decide⟩

theorem loadUBT_hdr {a : List Char} (ha : AllGood a) (hlen : a.length < 1011) (n : Nat) :
    loadUBT (HDR ++ (a ++ replicate (n + 1) '\x00')) = parseUBT a := by
  unfold loadUBT
  rw [loadText_hdr _ (((clean_of_good ha).append (clean_zeros _)).take _), replicate_succ,
    cutNul_take (noNul_of_good ha) _ hlen]
  rfl

theorem torn_of_length_le {old data : List Char} {k : Nat} (ho : old.length ≤ k) (hd : data.length ≤ k) :
    torn k old data = data := by
  rw [torn, take_of_length_le hd, drop_eq_nil_of_le ho, append_nil]

/-- a cut falls into one of two pieces written one after the other -/
theorem torn_append {h₀ h : List Char} (hh : h₀.length = h.length) (x y : List Char) (k : Nat) :
    torn k (h₀ ++ x) (h ++ y) = torn k h₀ h ++ torn (k - h.length) x y := by
  unfold torn
  rw [take_append, drop_append, hh]
  rcases Nat.le_total k h.length with hk | hk
  · rw [Nat.sub_eq_zero_of_le hk, take_zero, drop_zero, append_nil, nil_append, append_assoc]
  · rw [drop_eq_nil_of_le (hh ▸ hk), nil_append, append_nil, append_assoc]

/-- the text of a torn line is the torn text: a write of `b NUL` over `a NUL zeros`, cut after `j`
bytes, leaves `b.take j ++ a.drop j`, a NUL and zeros -/
theorem torn_line (a b : List Char) (m j : Nat) (hab : a.length ≤ b.length) (hfit : b.length ≤ a.length + m) :
    ∃ n, torn j (a ++ replicate (m + 1) '\x00') (b ++ ['\x00']) = torn j a b ++ replicate (n + 1) '\x00' := by
  unfold torn
  rw [take_append, drop_append, drop_replicate]
  rcases Nat.lt_or_ge b.length j with hj | hj
  · refine ⟨m + 1 - (j - a.length), ?_⟩
    rw [take_of_length_le (show ['\x00'].length ≤ j - b.length by simp; omega), drop_eq_nil_of_le (by omega),
      replicate_succ, append_nil, nil_append, append_assoc, singleton_append]
  · refine ⟨m - (j - a.length), ?_⟩
    rw [Nat.sub_eq_zero_of_le hj, take_zero, append_nil, append_assoc]
    congr 3
    omega

theorem torn_good {a b : List Char} (ha : AllGood a) (hb : AllGood b) (j : Nat) : AllGood (torn j a b) :=
  AllGood.append (fun c hc => hb c (mem_of_mem_take hc)) (fun c hc => ha c (mem_of_mem_drop hc))

/-- **What `load` makes of a torn write**: the 13 bytes `h₀` and a line `a NUL zeros` on disk, the
framing lines and `b NUL` being written. Once the cut is behind the framing lines (or they were
there before), the text found is the torn text. -/
theorem loadUBT_torn {h₀ a b : List Char} (m k : Nat) (hh : h₀.length = 13) (hk : h₀ = HDR ∨ 13 ≤ k)
    (ha : AllGood a) (hb : AllGood b) (hab : a.length ≤ b.length) (hfit : b.length ≤ a.length + m)
    (hlen : b.length < 1011) :
    loadUBT (torn k (h₀ ++ (a ++ replicate (m + 1) '\x00')) (HDR ++ (b ++ ['\x00']))) =
      parseUBT (torn (k - 13) a b) := by
  have h0 : torn k h₀ HDR = HDR := by
    rcases hk with rfl | hk
    · exact take_append_drop k HDR
    · exact torn_of_length_le (hh ▸ hk) (HDR_length ▸ hk)
  obtain ⟨n, hn⟩ := torn_line a b m (k - 13) hab hfit
  rw [torn_append (hh.trans HDR_length.symm), h0, HDR_length, hn]
  refine loadUBT_hdr (torn_good ha hb _) ?_ n
  simp only [torn, length_append, length_take, length_drop]
  omega

theorem written_zeros (N : Nat) (u : UBT) :
    Crash.written (Crash.zeros N) u =
      HDR ++ (render u ++ replicate (N - ((render u).length + 14) + 1) '\x00') := by
  rw [Crash.written, torn, take_of_length_le (Nat.le_refl _), zeros_eq, drop_replicate, frame_length,
    frame_eq, replicate_succ, append_assoc, append_assoc, singleton_append]

theorem loadUBT_written (u : UBT) (hw : u.wf = true) (hfit : (frame SZ1024 u).length ≤ UBSIZE) :
    loadUBT (Crash.written (Crash.zeros UBSIZE) u) = .ok u := by
  rw [frame_length] at hfit
  have hU : UBSIZE = 1024 := rfl
  rw [written_zeros, loadUBT_hdr (render_good hw) (by omega)]
  exact (parseUBT_ok_iff _ _).mpr ⟨rfl, hw⟩

/-! ## a block without its two framing lines is not a user block -/

theorem splitOn_length (c : Char) (s : List Char) : (splitOn c s).length = s.count c + 1 := by
  induction s with
  | nil => rfl
  | cons x xs ih =>
    simp only [splitOn]
    split_ifs with h
    · subst h; simp [ih]
    · have hx : (x == c) = false := by simpa using h
      rcases hs : splitOn c xs with _ | ⟨p, ps⟩
      · rw [hs] at ih; simp at ih
      · rw [hs] at ih; simp [count_cons, hx] at ih ⊢; omega

theorem loadUBT_few_lines {file : Bytes} (hascii : ∀ c ∈ file, c.toNat < 128)
    (hcount : file.count '\n' < 2) (v : UBT) : loadUBT file ≠ .ok v := by
  have h1 : (file.take 512).any (fun c => decide (c.toNat ≥ 128)) = false :=
    any_eq_false.mpr fun c hc => by simpa using hascii c (mem_of_mem_take hc)
  have hl := splitOn_length '\n' (file.take 512)
  have := (take_sublist 512 file).count_le '\n'
  have hnone : readHeadRaw file 512 = .ok none := by
    unfold readHeadRaw
    simp only [h1, Bool.false_eq_true, if_false]
    rcases hs : splitOn '\n' (file.take 512) with _ | ⟨x, _ | ⟨y, _ | ⟨z, _ | ⟨w, r⟩⟩⟩⟩
    · rfl
    · rfl
    · rfl
    · rw [hs] at hl; simp at hl; omega
    · rfl
  unfold loadUBT loadText
  rw [hnone]
  nofun

/-- a first write cut inside the framing lines leaves no user block; `k = 0`: nor do zeros -/
theorem loadUBT_torn_small (n : Nat) {k : Nat} (hk : k < 13) (y : List Char) (v : UBT) :
    loadUBT (torn k (replicate n '\x00') (HDR ++ y)) ≠ .ok v := by
  rw [torn, take_append_of_le_length (HDR_length ▸ hk.le), drop_replicate]
  apply loadUBT_few_lines
  · intro c hc
    rcases mem_append.mp hc with h | h
    · exact (by decide : ∀ d ∈ HDR, d.toNat < 128) c (mem_of_mem_take h)
    · rw [eq_of_mem_replicate h]; decide
  · have h12 : (HDR.take 12).count '\n' = 1 := by decide
    have := (take_sublist_take_left (l := HDR) (show k ≤ 12 by omega)).count_le '\n'
    rw [count_append, count_replicate, if_neg (by decide)]
    omega

/-- **A torn first write of a user block** either does not load or loads the block written. -/
theorem torn_create_classified (u : UBT) (hw : u.wf = true)
    (hfit : (frame SZ1024 u).length ≤ UBSIZE) (k : Nat) (v : UBT)
    (hv : loadUBT (torn k (Crash.zeros UBSIZE) (frame SZ1024 u)) = .ok v) : v = u := by
  rw [frame_length] at hfit
  have hU : UBSIZE = 1024 := rfl
  rw [frame_eq, zeros_eq] at hv
  rcases Nat.lt_or_ge k 13 with hk | hk
  · exact absurd hv (loadUBT_torn_small _ hk _ v)
  · -- the bytes behind the two framing lines are untouched zeros or new text
    have hz : replicate UBSIZE '\x00' = replicate 13 '\x00' ++ ([] ++ replicate (UBSIZE - 14 + 1) '\x00') := by
      rw [nil_append, ← replicate_add, hU]
    rw [hz, loadUBT_torn _ k length_replicate (Or.inr hk) (by decide) (render_good hw) (Nat.zero_le _) (by omega)
      (by omega), torn, drop_nil, append_nil] at hv
    exact parseUBT_take hw hv

/-- the two user blocks of a commit: `uOld` as made by `IH5UserBlock.create` (no hash, empty
`ub_exts`), `uNew` the same with the hash `h` (and possibly the manifest extension). -/
structure CommitPair (uOld uNew : UBT) (h : List Char) : Prop where
  wfOld : uOld.wf = true
  wfNew : uNew.wf = true
  hashOld : uOld.hash = none
  extOld : uOld.ext = none
  rid : uNew.rid = uOld.rid
  idx : uNew.idx = uOld.idx
  pid : uNew.pid = uOld.pid
  prev : uNew.prev = uOld.prev
  hashNew : uNew.hash = some h
  hlen : 19 ≤ h.length
  fits : (frame SZ1024 uNew).length ≤ UBSIZE

namespace CommitPair
variable {uOld uNew : UBT} {h : List Char} (c : CommitPair uOld uNew h)
include c

/-- the two blocks agree up to the value of `hdf5_hashsum`; there the old one ends with `TAIL0` -/
theorem render_old : render uOld = headText uOld ++ TAIL0 := by
  rw [render_split, c.hashOld, c.extOld]; rfl

/-- … and the new one goes on with the hash in quotes -/
theorem render_new :
    render uNew = headText uOld ++ '"' :: (h ++ '"' :: (K6 ++ renderExt uNew.ext ++ S_close)) := by
  rw [render_split, c.hashNew]
  simp [headText, c.rid, c.idx, c.pid, c.prev, tailText, optStr, q, append_assoc]

theorem length_lt : (render uOld).length < (render uNew).length := by
  have := c.hlen
  rw [c.render_old, c.render_new, length_append, length_append, TAIL0_length, length_cons, length_append,
    length_cons]
  omega

theorem fits_old : (frame SZ1024 uOld).length ≤ UBSIZE := by
  have := c.fits
  have := c.length_lt
  rw [frame_length] at *
  omega

/-- a cut of the commit write leaves the old text (cut before the hash value), a text that does
not parse (cut inside the region where the old tail `TAIL0` still shows), or a prefix of the new text -/
theorem parse_torn (j : Nat) (v : UBT)
    (hv : parseUBT (torn j (render uOld) (render uNew)) = .ok v) : v = uOld ∨ v = uNew := by
  have hnew := c.render_new
  have hq : '"' ∉ h := ((wf_parts c.wfNew).2.2.2.2.1 h c.hashNew).2
  rw [c.render_old, hnew, torn_append rfl,
    show torn j (headText uOld) (headText uOld) = headText uOld from take_append_drop j _] at hv
  generalize j - (headText uOld).length = i at hv
  rcases Nat.lt_or_ge i 20 with h2 | h2
  · rcases i with _ | i
    · rw [torn_zero, ← c.render_old, (parseUBT_ok_iff _ _).mpr ⟨rfl, c.wfOld⟩] at hv
      exact Or.inl (Except.ok.inj hv).symm
    · have hp := parseUBT_ok hv
      rw [torn, take_succ_cons, take_append_of_le_length (by have := c.hlen; omega),
        parseP_head_none c.wfOld (optP_mix _ (fun hm => hq (mem_of_mem_take hm)) (by omega) (by omega))] at hp
      cases hp
  · rw [torn, drop_eq_nil_of_le (TAIL0_length ▸ h2), append_nil, ← take_length_add_append, ← hnew] at hv
    exact Or.inr (parseUBT_take c.wfNew hv)

theorem loadUBT_torn (k : Nat) :
    loadUBT (torn k (Crash.written (Crash.zeros UBSIZE) uOld) (frame SZ1024 uNew)) =
      parseUBT (torn (k - 13) (render uOld) (render uNew)) := by
  have hfit := c.fits
  rw [frame_length] at hfit
  have hU : UBSIZE = 1024 := rfl
  have hlt := c.length_lt
  rw [written_zeros, frame_eq, UBlock.loadUBT_torn _ k HDR_length (Or.inl rfl) (render_good c.wfOld)
    (render_good c.wfNew) hlt.le (by omega) (by omega)]

end CommitPair

/-- **A torn commit write** either does not load, or loads the old (uncommitted) block, or loads
the new (committed) block — never anything else. -/
theorem torn_classified {uOld uNew : UBT} {h : List Char} (c : CommitPair uOld uNew h)
    (k : Nat) (v : UBT)
    (hv : loadUBT (torn k (Crash.written (Crash.zeros UBSIZE) uOld) (frame SZ1024 uNew)) = .ok v) :
    v = uOld ∨ v = uNew :=
  c.parse_torn _ v (c.loadUBT_torn k ▸ hv)

theorem loadUBT_committed {uOld uNew : UBT} {h : List Char} (c : CommitPair uOld uNew h) :
    loadUBT (Crash.written (Crash.written (Crash.zeros UBSIZE) uOld) uNew) = .ok uNew := by
  have hlt := c.length_lt
  rw [Crash.written.eq_def _ uNew, c.loadUBT_torn, frame_length, torn, take_of_length_le (by omega),
    drop_eq_nil_of_le (by omega), append_nil]
  exact (parseUBT_ok_iff _ _).mpr ⟨rfl, c.wfNew⟩


theorem loadUBT_zeros (n : Nat) (v : UBT) : loadUBT (Crash.zeros n) ≠ .ok v := by
  have := loadUBT_torn_small n (Nat.zero_lt_succ 12) [] v
  rwa [torn_zero] at this

theorem loadUB_ok {b : Bytes} {u : UBT} (h : loadUBT b = .ok u) : loadUB b = .ok u.toUB := by
  rw [loadUB, h]; rfl

theorem loadUB_cases (b : Bytes) :
    (∃ e, loadUB b = .error e) ∨ ∃ u, loadUBT b = .ok u ∧ loadUB b = .ok u.toUB := by
  rcases hu : loadUBT b with e | u
  · exact Or.inl ⟨e, by rw [loadUB, hu]; rfl⟩
  · exact Or.inr ⟨u, rfl, loadUB_ok hu⟩

end MetadorModel.UBlock

namespace MetadorModel.Crash
open List MetadorModel.Chain MetadorModel.UBlock

variable {P M : Type}

theorem loadFile_of_cont {d : Disk P M} {n : Name} {c : CFile P} (h : d.cont n = some c) :
    loadFile d n = (loadUB c.head).toOption.map fun u => ⟨u, c.payload, c.h5ok, d.mf n⟩ := by
  unfold loadFile
  rw [h]
  dsimp only
  cases loadUB c.head <;> rfl

theorem Reach.frame {d0 d : Disk P M} {nn : Name} {uOld uNew : UBT} {pf : P}
    (h : Reach d0 nn uOld uNew pf d) (n : Name) (hn : n ≠ nn) :
    d.cont n = d0.cont n ∧ d.mf n = d0.mf n := by
  cases h <;> simp [Disk.setC, Disk.setM, hn]

theorem Reach.loadFile_other {d0 d : Disk P M} {nn : Name} {uOld uNew : UBT} {pf : P}
    (h : Reach d0 nn uOld uNew pf d) {ns : List Name} (hn : nn ∉ ns) :
    ns.map (loadFile d) = ns.map (loadFile d0) := by
  refine map_congr_left fun n hmem => ?_
  obtain ⟨h1, h2⟩ := h.frame n fun e => hn (e ▸ hmem)
  unfold loadFile
  rw [h1, h2]

end MetadorModel.Crash
