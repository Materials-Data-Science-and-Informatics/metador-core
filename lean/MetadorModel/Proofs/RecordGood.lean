import MetadorModel.Proofs.RecordReopen
/-! The handle stays on a coherent chain along every history (C03): coherence is preserved
by create / open / write / create_patch / commit_patch / discard_patch / merge_files. -/
namespace MetadorModel.Record
open MetadorModel.FindFiles

/-! ## the uuid counter never goes back -/

theorem createRec_next (s : State) (c : Bool) (n : Name) (t : Bool) (o : List Name) :
    s.next ≤ (createRec s c n t o).st.next := by
  rcases createRec_spec s c n t o with ⟨_, h⟩ | ⟨_, e, _, _, h⟩ | ⟨_, _, _, h⟩ <;> rw [h]
  · exact Nat.le_refl _
  · exact Nat.le_refl _
  · exact Nat.le_add_right _ _

theorem commitPlain_next (s : State) : s.next ≤ (commitPlain s).st.next := by
  rcases commitPlain_spec s with hf | ⟨_, _, _, _, _, _, _, _, h⟩
  · exact hf.2
  · rw [h]; exact Nat.le_refl _

theorem commitMF_next (s : State) : s.next ≤ (commitMF s).st.next := by
  rcases commitMF_spec s with hf | ⟨_, _, _, _, _, _, _, _, _, _, _, h, _⟩
  · exact hf.2
  · rw [h]; exact Nat.le_add_right _ _

theorem commitPatch_next (s : State) : s.next ≤ (commitPatch s).st.next := by
  unfold commitPatch; split
  · exact commitMF_next s
  · exact commitPlain_next s

theorem close_next (s : State) (c : Bool) : s.next ≤ (close s c).st.next := by
  rcases close_spec s c with ⟨_, h⟩ | ⟨_, _, _, _, h⟩ | ⟨_, _, _, _, h⟩ | ⟨_, _, h⟩ <;> rw [h]
  · exact Nat.le_refl _
  · exact commitPatch_next s
  · exact commitPatch_next s
  · exact Nat.le_refl _

theorem openExisting_next (s : State) (c : Bool) (paths : List Name) (m : Mode) :
    s.next ≤ (openExisting s c paths m).st.next := by
  rcases openExisting_spec s c paths m with hf | ⟨files, b, man, _, _, ⟨_, h⟩ | ⟨_, _, h⟩⟩
  · exact hf.2
  · rw [h]; exact Nat.le_refl _
  · rw [h]; exact createPatch_next ⟨s.disk, openedHandle files b c m man, s.next⟩

theorem step_next (s : State) (op : Op) : s.next ≤ (step s op).st.next := by
  cases op with
  | openRec c t m =>
    rcases openRec_cases s c t m with hf | ⟨n, _, h⟩ | ⟨paths, h⟩
    · exact hf.2
    · rw [step, h]; exact createRec_next _ _ _ _ _
    · rw [step, h]; exact openExisting_next _ _ _ _
  | write k =>
    rcases write_spec s k with hf | ⟨_, _, _, _, _, ⟨_, _, _, h⟩ | ⟨_, h⟩⟩
    · exact hf.2
    · rw [step, h]; exact Nat.le_refl _
    · rw [step, h]; exact Nat.le_refl _
  | read => rcases read_eq s with h | h <;> (rw [step, h]; exact Nat.le_refl _)
  | createPatch => exact createPatch_next s
  | commitPatch => exact commitPatch_next s
  | discardPatch =>
    rcases discardPatch_spec s with hf | ⟨_, _, _, _, _, _, _, h⟩
    · exact hf.2
    · rw [step, h]; exact Nat.le_refl _
  | close c => exact close_next s c
  | merge t =>
    rcases mergeFiles_spec s t with hf | ⟨_, _, _, _, _, _, h⟩
    · exact hf.2
    · exact Nat.le_of_lt h
  | deleteFiles n =>
    show s.next ≤ (deleteFiles s n).st.next
    unfold deleteFiles
    split <;> exact Nat.le_refl _


/-- the invariant of all API histories: `Inv` (C02), uuids on disk were drawn from the counter,
an open handle sits on a coherent chain, a writable container implies patching is allowed,
and a handle that allows patching but has no writable container ends in a committed one -/
structure Good0 (s : State) : Prop where
  inv : Inv s
  pidsBelow : ∀ f ub p, getF s.disk f = some (.cont ub p) → ub.pid < s.next
  coh : s.h.closed = false → Coherent s.disk s.h.files
  rwAllow : hasWritable s.h = true → s.h.allow = true
  lastCommitted : s.h.closed = false → s.h.allow = true → hasWritable s.h = false →
    ∀ f ul, lastFile s.h.files = some (f, ul) → ul.hash.isSome = true

theorem good0_of_refused {s : State} {r : Res} (hg : Good0 s) (hf : Refused s r) : Good0 r.st := by
  have hi := ((Failed.lawful hf.1).2 hg.inv).2
  obtain ⟨⟨_, hd, hh, _⟩, hn⟩ := hf
  refine ⟨hi, ?_, ?_, ?_, ?_⟩
  · intro f ub p h; rw [hd] at h; exact Nat.lt_of_lt_of_le (hg.pidsBelow f ub p h) hn
  · rw [hd, hh]; exact hg.coh
  · rw [hh]; exact hg.rwAllow
  · rw [hh]; exact hg.lastCommitted

theorem pidsBelow_setF {d : Disk} {k k' : Nat} (h : ∀ f ub p, getF d f = some (.cont ub p) → ub.pid < k)
    (hk : k ≤ k') {g : Name} {v : File} (hv : ∀ ub p, v = .cont ub p → ub.pid < k') :
    ∀ f ub p, getF (setF d g v) f = some (.cont ub p) → ub.pid < k' := by
  intro f ub p hf
  by_cases hfg : f = g
  · rw [hfg, getF_setF_eq] at hf; exact hv ub p (Option.some.inj hf)
  · rw [getF_setF_ne _ _ _ _ hfg] at hf; exact Nat.lt_of_lt_of_le (h f ub p hf) hk

theorem good0_createRec (s : State) (c : Bool) (n : Name) (o : List Name) (hg : Good0 s) :
    Good0 (createRec s c n false o).st := by
  rcases createRec_notrunc s c n o with hf | ⟨_, _, hfresh, heq⟩
  · exact good0_of_refused hg hf
  · have hi := ((createRec_notrunc_lawful s c n o).2 hg.inv).2
    rw [heq] at hi ⊢
    exact ⟨hi, pidsBelow_setF hg.pidsBelow (Nat.le_add_right _ _) (fun ub p h => by cases h; simp [newBaseUB]),
      fun _ => coherent_fresh _ _ _, fun _ => rfl, fun _ _ hw => by simp [hasWritable, freshHandle] at hw⟩

theorem good0_createPatch (s : State) (hg : Good0 s) : Good0 (createPatch s).st := by
  rcases createPatch_spec s with hf | ⟨f0, u0, rest, fl, ul, hfiles, hl, hcl, hal, hnw, hfresh, heq⟩
  · exact good0_of_refused hg hf
  · have hi := ((createPatch_lawful s).2 hg.inv).2
    rw [heq] at hi ⊢
    have hcoh := hg.coh hcl
    refine ⟨hi, pidsBelow_setF hg.pidsBelow (Nat.le_succ _) (fun ub p h => by cases h; simp [newPatchUB]),
      fun _ => ?_, fun _ => hal, fun _ _ hw => by simp [hasWritable] at hw⟩
    apply coherent_append_patch hcoh hl (hg.lastCommitted hcl hal hnw fl ul hl) hfresh
    intro x hx
    obtain ⟨p, hp⟩ := hcoh.onDisk x.1 x.2 hx
    exact Nat.ne_of_lt (hg.pidsBelow _ _ _ hp)

theorem good0_write (s : State) (k : Nat) (hg : Good0 s) : Good0 (write s k).st := by
  rcases write_spec s k with hf | ⟨f, u, hl, hw, hcl, ⟨ub, p, hg0, heq⟩ | ⟨_, heq⟩⟩
  · exact good0_of_refused hg hf
  · have hi := ((write_lawful s k).2 hg.inv).2
    rw [heq] at hi ⊢
    have hcoh := hg.coh hcl
    obtain ⟨q, hq⟩ := hcoh.onDisk f u (lastFile_mem _ _ hl)
    cases hg0.symm.trans hq
    obtain ⟨ubd, pd, hgd, hnone⟩ := hg.inv.last_uncommitted hw hl
    cases hg0.symm.trans hgd
    exact ⟨hi, pidsBelow_setF hg.pidsBelow (Nat.le_refl _) (fun ub p h => by cases h; exact hg.pidsBelow _ _ _ hg0),
      fun _ => coherent_write hcoh hl hnone, hg.rwAllow, fun _ _ hnw => by rw [hw] at hnw; cases hnw⟩
  · rw [heq]; exact hg

/-- after a commit that gives the newest container `f` the user block `ub'` (same links, checksum
of the payload): coherent chain, nothing writable, newest container committed -/
theorem good0_committed {s s' : State} (hg : Good0 s) {f : Name} {ub ub' : UB} {p : List Nat}
    (hl : lastFile s.h.files = some (f, ub)) (hcl : s.h.closed = false)
    (hs : SameLink ub ub') (hh : ub'.hash = some p) (hi : Inv s') (hn : s.next ≤ s'.next)
    (hd : ∀ g, g ≠ f → (∀ x, g ≠ manifestFile x) → getF s'.disk g = getF s.disk g)
    (hf : getF s'.disk f = some (.cont ub' p))
    (hm : ∀ x ub q, getF s'.disk (manifestFile x) ≠ some (.cont ub q))
    (hfiles : s'.h.files = setLastUB s.h.files ub') (hrw : s'.h.lastRW = false) : Good0 s' := by
  have hcoh := hg.coh hcl
  obtain ⟨q, hq⟩ := hcoh.onDisk f ub (lastFile_mem _ _ hl)
  have hc1 := coherent_commit_last hcoh hl hs hh
  have hnw : hasWritable s'.h = false := by simp [hasWritable, hrw]
  refine ⟨hi, fun g ubg pg h => ?_, fun _ => ?_, fun h => (by rw [hnw] at h; cases h), fun _ _ _ g ug hlg => ?_⟩
  · by_cases hgf : g = f
    · rw [hgf, hf] at h; cases h
      exact Nat.lt_of_lt_of_le (hs.2.2.1 ▸ hg.pidsBelow _ ub _ hq) hn
    · by_cases hgm : ∃ x, g = manifestFile x
      · obtain ⟨x, rfl⟩ := hgm; exact absurd h (hm x ubg pg)
      · rw [hd g hgf (fun x hx => hgm ⟨x, hx⟩)] at h
        exact Nat.lt_of_lt_of_le (hg.pidsBelow g ubg pg h) hn
  · rw [hfiles]
    refine coherent_congr (fun x hx => ?_) hc1
    obtain ⟨q', hq'⟩ := hc1.onDisk x.1 x.2 hx
    by_cases hx1 : x.1 = f
    · rw [hx1, hf, getF_setF_eq]
    · rw [getF_setF_ne _ _ _ _ hx1] at hq' ⊢
      exact hd _ hx1 fun y hy => hg.inv.not_manifest (hy ▸ hq')
  · rw [hfiles, lastFile_setLastUB _ _ _ _ hl] at hlg
    cases hlg; rw [hh]; rfl

theorem good0_commitPlain (s : State) (hg : Good0 s) : Good0 (commitPlain s).st := by
  rcases commitPlain_spec s with hf | ⟨f, ub, p, hl, hcl, hal, hw, hp, heq⟩
  · exact good0_of_refused hg hf
  · have hi := ((commitPlain_lawful s).2 hg.inv).2
    rw [heq] at hi ⊢
    obtain ⟨u', hu'⟩ := getF_of_payloadOf hp
    refine good0_committed (ub' := { ub with hash := some p }) hg hl hcl ⟨rfl, rfl, rfl, rfl⟩ rfl hi (Nat.le_refl _)
      (fun g h _ => getF_setF_ne _ _ _ _ h) (getF_setF_eq _ _ _) (fun _ _ _ => hi.not_manifest) rfl rfl

theorem good0_commitMF (s : State) (hg : Good0 s) : Good0 (commitMF s).st := by
  rcases commitMF_spec s with hf | ⟨f, ub, p, hl, hcl, hal, hw, hp, _, hd, hh, hnx, _, _⟩
  · exact good0_of_refused hg hf
  · have hi := ((commitMF_lawful s).2 hg.inv).2
    refine good0_committed (ub' := mfCommitUB ub s.next p) hg hl hcl ⟨rfl, rfl, rfl, rfl⟩ rfl hi
      (hnx ▸ Nat.le_add_right _ _) (fun g h1 h2 => ?_) ?_ (fun _ _ _ => hi.not_manifest) (by rw [hh]) (by rw [hh])
    · rw [hd, getF_setF_ne _ _ _ _ (h2 f), getF_setF_ne _ _ _ _ h1]
    · rw [hd, getF_setF_ne _ _ _ _ (manifestFile_ne f).symm, getF_setF_eq]

theorem good0_commitPatch (s : State) (hg : Good0 s) : Good0 (commitPatch s).st := by
  unfold commitPatch; split
  · exact good0_commitMF s hg
  · exact good0_commitPlain s hg

theorem good0_discardPatch (s : State) (hg : Good0 s) : Good0 (discardPatch s).st := by
  rcases discardPatch_spec s with hf | ⟨f, ub, hl, hcl, hal, hw, hlen, heq⟩
  · exact good0_of_refused hg hf
  · have hi := ((discardPatch_lawful s).2 hg.inv).2
    rw [heq] at hi ⊢
    obtain ⟨hc', hlast⟩ := coherent_discard (hg.coh hcl) hl hlen
    refine ⟨hi, fun g ubg pg h => ?_, fun _ => hc', fun h => (by simp [hasWritable] at h),
      fun _ _ _ g ug hlg => hlast g ug hlg⟩
    by_cases hf : g = f
    · rw [hf, show ({ s with disk := eraseF s.disk f, h := _ } : State).disk = eraseF s.disk f from rfl,
        getF_eraseF_eq] at h
      cases h
    · exact hg.pidsBelow g ubg pg (getF_eraseF_ne s.disk f g hf ▸ h)

theorem good0_close (s : State) (c : Bool) (hg : Good0 s) : Good0 (close s c).st := by
  have hclosed : ∀ (s' : State), Good0 s' → Good0 { s' with h := closedHandle s'.h } := fun s' hg' =>
    ⟨⟨hg'.inv.diskOk, fun h => (nomatch h)⟩, hg'.pidsBelow, fun h => (nomatch h), fun h => (nomatch h),
      fun h => (nomatch h)⟩
  rcases close_spec s c with ⟨_, heq⟩ | ⟨_, _, _, _, heq⟩ | ⟨_, _, _, _, heq⟩ | ⟨_, _, heq⟩ <;> rw [heq]
  · exact hg
  · exact good0_commitPatch s hg
  · exact hclosed _ (good0_commitPatch s hg)
  · exact hclosed _ hg

theorem good0_openExisting (s : State) (c : Bool) (paths : List Name) (m : Mode) (hg : Good0 s) :
    Good0 (openExisting s c paths m).st := by
  rcases openExisting_spec s c paths m with hf | ⟨files, b, man, hopen, _, ⟨hnc, heq⟩ | ⟨hw, _, heq⟩⟩
  · exact good0_of_refused hg hf
  · have hi := ((openExistingK_default s c paths m ▸ openExistingK_lawful s c paths m {}).2 hg.inv).2
    rw [heq] at hi ⊢
    obtain ⟨_, _, ⟨fl, ul, hl, hb⟩, _⟩ := openFiles_ok hopen
    refine ⟨hi, hg.pidsBelow, fun _ => openFiles_sound hopen, fun hw => ?_, fun _ hal hnw => ?_⟩
    · simp only [hasWritable, openedHandle, Bool.and_eq_true] at hw
      rw [hw.2] at hb
      exact (Bool.and_eq_true _ _ ▸ hb.symm).1
    · simp only [openedHandle] at hal
      rw [hal, Bool.true_and, Bool.not_eq_eq_eq_not, Bool.not_false] at hnc
      rw [hnc] at hnw; cases hnw
  · rw [heq]
    apply good0_createPatch
    obtain ⟨_, _, ⟨fl, ul, hl, hb⟩, _⟩ := openFiles_ok hopen
    rw [Bool.and_eq_true, Bool.not_eq_eq_eq_not, Bool.not_true] at hw
    have hb' : b = false := by
      cases files with
      | nil => cases hl
      | cons x r => simpa [hasWritable, openedHandle] using hw.2
    refine ⟨⟨hg.inv.diskOk, fun h => (by rw [hw.2] at h; cases h)⟩, hg.pidsBelow,
      fun _ => openFiles_sound hopen, fun h => (by rw [hw.2] at h; cases h), fun _ _ _ f u hlf => ?_⟩
    cases hl.symm.trans hlf
    rw [hb', hw.1] at hb
    cases hh : ul.hash with
    | none => rw [hh] at hb; cases hb
    | some v => rfl

theorem good0_mergeFiles (s : State) (t : Name) (hg : Good0 s) : Good0 (mergeFiles s t).st := by
  rcases mergeFiles_spec s t with hf | ⟨hcl, hnw, hfresh, hh, hadd, ⟨ub, p, hub, hpid⟩, hnx⟩
  · exact good0_of_refused hg hf
  · have hi := ((mergeFiles_lawful s t).2 hg.inv).2
    have hcoh := hg.coh hcl
    refine ⟨hi, fun g ubg pg h => ?_, fun _ => ?_, hh ▸ hg.rwAllow, hh ▸ hg.lastCommitted⟩
    · by_cases h1 : g = baseFile t
      · rw [h1, hub] at h; cases h
        rcases hpid with hp | ⟨fl, ul, hl, hp⟩
        · omega
        · obtain ⟨q, hq⟩ := hcoh.onDisk fl ul (lastFile_mem _ _ hl)
          have := hg.pidsBelow _ _ _ hq
          omega
      · by_cases h2 : g = manifestFile (baseFile t)
        · rcases hadd.side with hs | ⟨_, a, b, hs⟩
          · have := hg.pidsBelow _ _ _ (hs ▸ h2 ▸ h); omega
          · rw [h2, hs] at h; cases h
        · have := hg.pidsBelow _ _ _ (hadd.frame g h1 h2 ▸ h); omega
    · rw [hh]
      refine coherent_congr (fun x hx => ?_) hcoh
      obtain ⟨q, hq⟩ := hcoh.onDisk x.1 x.2 hx
      refine hadd.frame _ (fun he => ?_) (fun he => ?_)
      · rw [he, hfresh] at hq; cases hq
      · exact hg.inv.not_manifest (he ▸ hq)

theorem good0_step (s : State) (op : Op) (hsafe : op.safe = true) (hg : Good0 s) : Good0 (step s op).st := by
  cases op with
  | openRec c t m =>
    rcases openRec_cases s c t m with hf | ⟨n, _, h⟩ | ⟨paths, h⟩
    · exact good0_of_refused hg hf
    · have hm : (m == .w) = false := by cases m <;> first | rfl | cases hsafe
      rw [step, h, hm]; exact good0_createRec _ _ _ _ hg
    · rw [step, h]; exact good0_openExisting _ _ _ _ hg
  | write k => exact good0_write s k hg
  | read => rcases read_eq s with h | h <;> (rw [step, h]; exact hg)
  | createPatch => exact good0_createPatch s hg
  | commitPatch => exact good0_commitPatch s hg
  | discardPatch => exact good0_discardPatch s hg
  | close c => exact good0_close s c hg
  | merge t => exact good0_mergeFiles s t hg
  | deleteFiles n => cases hsafe

theorem good0_run (ops : List Op) (s : State) (hg : Good0 s) (hsafe : ∀ o ∈ ops, o.safe = true) :
    Good0 (run s ops) := by
  induction ops generalizing s with
  | nil => exact hg
  | cons o r ih =>
    simp only [run]
    exact ih _ (good0_step s o (hsafe o (by simp)) hg) (fun o' ho' => hsafe o' (by simp [ho']))

/-- the empty directory with no handle -/
theorem good0_init : Good0 {} :=
  ⟨⟨(by intro f ub p h; simp [getF] at h), (by intro h; simp [hasWritable] at h)⟩,
    (by intro f ub p h; simp [getF] at h), (by intro h; cases h), (by intro h; simp [hasWritable] at h),
    (by intro h; cases h)⟩

end MetadorModel.Record
