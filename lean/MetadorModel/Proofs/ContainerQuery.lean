import MetadorModel.Proofs.ContainerDelete
/-!
# `MetadorMeta.query / __contains__ / get` and `MetadorContainerTOC.query` in terms of the raw tree
-/
namespace MetadorModel.Container

/-- version compatibility as `_get_raw` / `TOCSchemas.versions` test it: no version requested, or
the requested `(name, v)` *supports* the reference (`PluginRef.supports`: same name, same major,
requested minor ≥ minor of the reference) -/
def VerOK (name : String) (ver : Option Ver) (r : SRef) : Prop :=
  match ver with
  | none => True
  | some v => supports ⟨name, v⟩ r = true

instance (name : String) (ver : Option Ver) (r : SRef) : Decidable (VerOK name ver r) := by
  unfold VerOK; cases ver <;> infer_instance

/-- the rule implemented by `query`: an object of schema `q` answers a request for `(name, ver)` when
`q` itself is called `name` (compatible version), or a proper ancestor of `q` is -/
def Answers (e : Env) (name : String) (ver : Option Ver) (q : SRef) : Prop :=
  (q.name = name ∧ VerOK name ver q) ∨ ∃ A, A ∈ ppath e q ∧ A ≠ q ∧ A.name = name ∧ VerOK name ver A

theorem getRaw_eq_some {h : Handle} {name : String} {ver : Option Ver} {st : Stored} :
    h.getRaw name ver = some st ↔ alGet h.objs name = some st ∧ VerOK name ver st.schema := by
  unfold Handle.getRaw VerOK
  cases hg : alGet h.objs name with
  | none => simp
  | some st' =>
    cases ver with
    | none => simp
    | some v =>
      simp only [Option.some.injEq]
      split_ifs with hs
      · constructor
        · rintro h; cases h; exact ⟨rfl, hs⟩
        · rintro ⟨h, -⟩; rw [h]
      · constructor
        · intro h; cases h
        · rintro ⟨rfl, h⟩; exact absurd h hs

theorem mem_tocVersions {c : Caches} {name : String} {ver : Option Ver} {A : SRef} :
    A ∈ tocVersions c name ver ↔ (alGet c.children A).isSome ∧ A.name = name ∧ VerOK name ver A := by
  unfold tocVersions VerOK
  rw [alGet_isSome_iff]
  cases ver with
  | none => simp [alKeys]
  | some v => simp [alKeys]; intro _ _; exact and_comm

theorem mem_query {e : Env} {s : St} (hi : Inv e s) {h : Handle} (hh : HOK s h) (name : String)
    (ver : Option Ver) (q : SRef) :
    q ∈ h.query s.c name ver ↔
      (∃ u, get? s.raw (h.baseDir ++ [.obj q u]) ≠ none) ∧ Answers e name ver q := by
  obtain ⟨⟨b, m, hb, hbase, -, -⟩, hobjs, hnd⟩ := hh
  have hobjAt : ∀ r u, get? s.raw (h.baseDir ++ [.obj r u]) ≠ none → ObjAt s.raw (h.baseDir ++ [.obj r u]) r u :=
    fun r u hg => ⟨b, m, hb, by rw [hbase]; simp, hg⟩
  have havail : q ∈ h.objs.map (·.2.schema) ↔ ∃ u, get? s.raw (h.baseDir ++ [.obj q u]) ≠ none := by
    simp only [List.mem_map]
    constructor
    · rintro ⟨⟨n, st⟩, hm, rfl⟩
      obtain ⟨r, u, -, rfl, hg⟩ := (hobjs n st).mp ((mem_iff_alGet hnd n st).mp hm)
      exact ⟨u, hg⟩
    · rintro ⟨u, hg⟩
      exact ⟨(q.name, ⟨u, q, h.baseDir ++ [.obj q u]⟩),
        (mem_iff_alGet hnd _ _).mpr ((hobjs _ _).mpr ⟨q, u, rfl, rfl, hg⟩), rfl⟩
  have hcompat : ∀ (hq : ∃ u, get? s.raw (h.baseDir ++ [.obj q u]) ≠ none),
      (q ∈ ((tocVersions s.c name ver).map (tocChildren s.c)).flatten ↔
        ∃ A, A ∈ ppath e q ∧ A ≠ q ∧ A.name = name ∧ VerOK name ver A) := by
    rintro ⟨u, hg⟩
    have hused : UsedIn s.raw q := ⟨_, u, hobjAt q u hg⟩
    simp only [List.mem_flatten, List.mem_map]
    constructor
    · rintro ⟨l, ⟨A, hA, rfl⟩, hq⟩
      obtain ⟨hsome, hn, hv⟩ := mem_tocVersions.mp hA
      obtain ⟨cs, hcs⟩ := alGet_some_of_isSome hsome
      simp only [tocChildren, hcs, Option.getD_some] at hq
      obtain ⟨-, hp, hne⟩ := ((hi.scache.index.chi_val A cs hcs).2 q).mp hq
      exact ⟨A, hp, fun h => hne h.symm, hn, hv⟩
    · rintro ⟨A, hp, hne, hn, hv⟩
      have hsome : (alGet s.c.children A).isSome := (hi.scache.index.dom A).mpr ⟨q, hused, hp⟩
      obtain ⟨cs, hcs⟩ := alGet_some_of_isSome hsome
      refine ⟨_, ⟨A, mem_tocVersions.mpr ⟨hsome, hn, hv⟩, rfl⟩, ?_⟩
      simp only [tocChildren, hcs, Option.getD_some]
      exact ((hi.scache.index.chi_val A cs hcs).2 q).mpr ⟨hused, hp, fun h => hne h.symm⟩
  unfold Handle.query Answers
  simp only [List.mem_append, List.mem_filter, decide_eq_true_eq]
  constructor
  · rintro (hex | ⟨hav, hco⟩)
    · cases hgr : h.getRaw name ver with
      | none => simp [hgr] at hex
      | some st =>
        simp only [hgr, List.mem_singleton] at hex
        subst hex
        obtain ⟨hg, hv⟩ := getRaw_eq_some.mp hgr
        obtain ⟨r, u, hn, rfl, hex⟩ := (hobjs name st).mp hg
        exact ⟨⟨u, hex⟩, Or.inl ⟨hn, hv⟩⟩
    · have hq := havail.mp hav
      exact ⟨hq, Or.inr ((hcompat hq).mp hco)⟩
  · rintro ⟨⟨u, hg⟩, hex | hco⟩
    · left
      have : h.getRaw name ver = some ⟨u, q, h.baseDir ++ [.obj q u]⟩ :=
        getRaw_eq_some.mpr ⟨(hobjs _ _).mpr ⟨q, u, hex.1, rfl, hg⟩, hex.2⟩
      simp [this]
    · exact Or.inr ⟨havail.mpr ⟨u, hg⟩, (hcompat ⟨u, hg⟩).mpr hco⟩

/-- `(name, version) in node.meta` -/
theorem contains_iff {e : Env} {s : St} (hi : Inv e s) {h : Handle} (hh : HOK s h) (name : String)
    (ver : Option Ver) :
    h.contains s.c name ver = true ↔
      name ≠ "" ∧ ∃ q u, get? s.raw (h.baseDir ++ [.obj q u]) ≠ none ∧ Answers e name ver q := by
  unfold Handle.contains
  by_cases hn : name = ""
  · simp [hn]
  · simp only [hn, if_false, Bool.not_eq_true', ne_eq, not_false_eq_true, true_and]
    rw [← Bool.not_eq_true, List.isEmpty_iff]
    constructor
    · intro hne
      obtain ⟨q, hq⟩ := List.exists_mem_of_ne_nil _ hne
      obtain ⟨⟨u, hg⟩, ha⟩ := (mem_query hi hh name ver q).mp hq
      exact ⟨q, u, hg, ha⟩
    · rintro ⟨q, u, hg, ha⟩ hnil
      have := (mem_query hi hh name ver q).mpr ⟨⟨u, hg⟩, ha⟩
      rw [hnil] at this; simp at this

theorem supports_self (q : SRef) : supports ⟨q.name, q.ver⟩ q = true := by
  simp [supports]

/-- what `get` makes of one query answer -/
def getStep (s : St) (h : Handle) (cls : SRef) (q : SRef) : Option GetResult :=
  match h.getRaw q.name (some q.ver) with
  | none => none
  | some st =>
    match get? s.raw st.path with
    | some (.ds (.data tok)) => some ⟨cls, st, tok⟩
    | _ => none

theorem getAll_eq {e : Env} {s : St} {h : Handle} {name : String} {ver : Option Ver} {info : SInfo}
    (hreq : e.requireSchema name ver = .ok info) :
    h.getAll e s name ver = .ok ((h.query s.c name ver).filterMap (getStep s h info.ref)) := by
  unfold Handle.getAll
  cases hq : h.query s.c name ver with
  | nil => rfl
  | cons q qs => simp only [hreq]; rfl

theorem getAll_err {e : Env} {s : St} {h : Handle} {name : String} {ver : Option Ver} {err : Err}
    (hreq : e.requireSchema name ver = .error err) :
    h.getAll e s name ver = if h.query s.c name ver = [] then .ok [] else .error err := by
  unfold Handle.getAll
  cases hq : h.query s.c name ver with
  | nil => rfl
  | cons q qs => simp [hreq]

theorem obj_content {e : Env} {s : St} (hi : Inv e s) {h : Handle} (hh : HOK s h) {q : SRef} {u : Nat}
    (hg : get? s.raw (h.baseDir ++ [.obj q u]) ≠ none) :
    ∃ tok, get? s.raw (h.baseDir ++ [.obj q u]) = some (.ds (.data tok)) := by
  obtain ⟨⟨b, m, hb, hbase, -, -⟩, -, -⟩ := hh
  have hp : h.baseDir ++ [.obj q u] = b ++ [.metaDir m, .obj q u] := by rw [hbase]; simp
  rw [hp] at hg ⊢
  exact hi.treeOK.obj_data hb hg

/-- the possible answers of `get(name, ver)`: one per attached object that answers the query,
parsed with the resolved class of the *requested* schema, carrying the stored bytes -/
theorem mem_getAll {e : Env} {s : St} (hi : Inv e s) {h : Handle} (hh : HOK s h) {name : String}
    {ver : Option Ver} {info : SInfo} (hreq : e.requireSchema name ver = .ok info) (g : GetResult) :
    (∃ l, h.getAll e s name ver = .ok l ∧ g ∈ l) ↔
      ∃ q u tok, get? s.raw (h.baseDir ++ [.obj q u]) = some (.ds (.data tok)) ∧ Answers e name ver q ∧
        g = ⟨info.ref, ⟨u, q, h.baseDir ++ [.obj q u]⟩, tok⟩ := by
  rw [getAll_eq hreq]
  have hstep : ∀ q, q ∈ h.query s.c name ver → ∀ g, getStep s h info.ref q = some g ↔
      ∃ u tok, get? s.raw (h.baseDir ++ [.obj q u]) = some (.ds (.data tok)) ∧
        g = ⟨info.ref, ⟨u, q, h.baseDir ++ [.obj q u]⟩, tok⟩ := by
    intro q hq g
    obtain ⟨⟨u, hg⟩, -⟩ := (mem_query hi hh name ver q).mp hq
    obtain ⟨tok, htok⟩ := obj_content hi hh hg
    have hraw : h.getRaw q.name (some q.ver) = some ⟨u, q, h.baseDir ++ [.obj q u]⟩ :=
      getRaw_eq_some.mpr ⟨(hh.objs _ _).mpr ⟨q, u, rfl, rfl, hg⟩, supports_self q⟩
    simp only [getStep, hraw, htok, Option.some.injEq]
    constructor
    · rintro rfl; exact ⟨u, tok, htok, rfl⟩
    · rintro ⟨u', tok', htok', rfl⟩
      obtain ⟨b, m, hb, hbase, -, -⟩ := hh.base
      have := hi.mok.onename b m q u q u' hb (by rw [hbase] at hg; simpa using hg)
        (by rw [hbase] at htok'; simp at htok'; rw [htok']; simp) rfl
      obtain ⟨-, rfl⟩ := this
      rw [htok] at htok'; cases htok'; rfl
  constructor
  · rintro ⟨l, hl, hgl⟩
    cases hl
    obtain ⟨q, hq, hgq⟩ := List.mem_filterMap.mp hgl
    obtain ⟨u, tok, htok, rfl⟩ := (hstep q hq g).mp hgq
    exact ⟨q, u, tok, htok, ((mem_query hi hh name ver q).mp hq).2, rfl⟩
  · rintro ⟨q, u, tok, htok, ha, rfl⟩
    have hq : q ∈ h.query s.c name ver := (mem_query hi hh name ver q).mpr ⟨⟨u, by rw [htok]; simp⟩, ha⟩
    exact ⟨_, rfl, List.mem_filterMap.mpr ⟨q, hq, (hstep q hq _).mpr ⟨u, tok, htok, rfl⟩⟩⟩

/-- the exact schema is yielded first: when an object of the requested schema name (in a
compatible version) is attached, `get` returns that one -/
theorem get_exact {e : Env} {s : St} {h : Handle} (hh : HOK s h) {name : String}
    {ver : Option Ver} {info : SInfo} (hreq : e.requireSchema name ver = .ok info) {q : SRef} {u : Nat}
    {tok : String} (hn : q.name = name) (hv : VerOK name ver q)
    (htok : get? s.raw (h.baseDir ++ [.obj q u]) = some (.ds (.data tok))) :
    h.get e s name ver = .ok (some ⟨info.ref, ⟨u, q, h.baseDir ++ [.obj q u]⟩, tok⟩) := by
  have hg : get? s.raw (h.baseDir ++ [.obj q u]) ≠ none := by rw [htok]; simp
  have hraw0 : h.getRaw name ver = some ⟨u, q, h.baseDir ++ [.obj q u]⟩ :=
    getRaw_eq_some.mpr ⟨(hh.objs _ _).mpr ⟨q, u, hn, rfl, hg⟩, hv⟩
  have hraw : h.getRaw q.name (some q.ver) = some ⟨u, q, h.baseDir ++ [.obj q u]⟩ :=
    getRaw_eq_some.mpr ⟨(hh.objs _ _).mpr ⟨q, u, rfl, rfl, hg⟩, supports_self q⟩
  unfold Handle.get
  rw [getAll_eq hreq]
  have : h.query s.c name ver = q :: (h.objs.map (·.2.schema)).filter
      (· ∈ ((tocVersions s.c name ver).map (tocChildren s.c)).flatten) := by
    simp [Handle.query, hraw0]
  rw [this]
  simp [getStep, hraw, htok, Except.map]

theorem metaBase_obj_objAt {e : Env} {s : St} (hi : Inv e s) {x : Path} {k : Bool} (hx : isInternal x = false)
    (hk : nodeKind s x = some k) {q : SRef} {u : Nat} (hg : get? s.raw (metaBase x k ++ [.obj q u]) ≠ none) :
    ObjAt s.raw (metaBase x k ++ [.obj q u]) q u := by
  obtain ⟨b, m, hb, hbase, -, -⟩ := (openHandle_HOK hi.treeOK hx hk).base
  have hb' : metaBase x k = b ++ [.metaDir m] := hbase
  exact ⟨b, m, hb, by rw [hb']; simp, hg⟩

/-- the node `x` carries an object that answers the query -/
def Carries (e : Env) (s : St) (x : Path) (name : String) (ver : Option Ver) : Prop :=
  ∃ k q u, nodeKind s x = some k ∧ get? s.raw (metaBase x k ++ [.obj q u]) ≠ none ∧ Answers e name ver q

theorem tocQuery_mem {e : Env} {s : St} (hi : Inv e s) {start : Path} (hs : isInternal start = false)
    {name : String} {ver : Option Ver} {l : List Path} (h : tocQuery s start name ver = .ok l) (x : Path) :
    x ∈ l ↔ (start <+: x ∧ isInternal x = false ∧ Carries e s x name ver) := by
  unfold tocQuery at h
  by_cases hn : name = ""
  · simp [hn] at h
  · simp only [hn, if_false] at h
    cases hk : nodeKind s start with
    | none => simp [hk] at h
    | some k =>
      simp only [hk] at h
      have hcont : ∀ y d, isInternal y = false → nodeKind s y = some d →
          ((openHandle s y d).contains s.c name ver = true ↔ Carries e s y name ver) := by
        intro y d hy hd
        rw [contains_iff hi (openHandle_HOK hi.treeOK hy hd)]
        have hb : (openHandle s y d).baseDir = metaBase y d := rfl
        rw [hb]
        constructor
        · rintro ⟨-, q, u, hg, ha⟩; exact ⟨d, q, u, hd, hg, ha⟩
        · rintro ⟨d', q, u, hd', hg, ha⟩
          rw [hd] at hd'; cases hd'
          exact ⟨hn, q, u, hg, ha⟩
      have hhere : x ∈ (if (openHandle s start k).contains s.c name ver = true then [start] else []) ↔
          (x = start ∧ Carries e s start name ver) := by
        rw [← hcont start k hs hk]
        split_ifs with hc <;> simp [hc]
      -- nothing lives below a dataset
      have hds : k = true → ∀ y, start <+: y → nodeKind s y ≠ none → y = start := by
        rintro rfl y hpre hy
        by_contra hne
        obtain ⟨v, hv⟩ := nodeKind_true hk
        exact hy (by simp [nodeKind, none_below_ds hi.pclosed hv hpre hne])
      cases k with
      | true =>
        simp only [if_true] at h
        cases h
        rw [hhere]
        constructor
        · rintro ⟨rfl, hc⟩; exact ⟨List.prefix_refl _, hs, hc⟩
        · rintro ⟨hpre, -, hc⟩
          have ⟨d, _, _, hd, _, _⟩ := hc
          have := hds rfl x hpre (by rw [hd]; simp)
          subst this; exact ⟨rfl, hc⟩
      | false =>
        simp only [Bool.false_eq_true, if_false] at h
        cases h
        rw [List.mem_append, hhere, List.mem_filterMap]
        constructor
        · rintro (⟨rfl, hc⟩ | ⟨⟨y, d⟩, hy, hyx⟩)
          · exact ⟨List.prefix_refl _, hs, hc⟩
          · obtain ⟨n, hg, hpre, hne, hint, rfl⟩ := (mem_userNodesFrom hi.keys).mp hy
            have hyint := isInternal_of_drop hs hpre hint
            simp only at hyx
            by_cases hc : (openHandle s y (kindOf n)).contains s.c name ver = true
            · rw [if_pos hc] at hyx
              cases hyx
              exact ⟨hpre, hyint, (hcont _ _ hyint (nodeKind_eq_kindOf hg)).mp hc⟩
            · rw [if_neg hc] at hyx; cases hyx
        · rintro ⟨hpre, hxi, hc⟩
          by_cases hxs : x = start
          · subst hxs; exact Or.inl ⟨rfl, hc⟩
          · right
            obtain ⟨d, q, u, hd, hg, ha⟩ := hc
            obtain ⟨n, hn'⟩ : ∃ n, get? s.raw x = some n := by
              cases hx : get? s.raw x with
              | none => simp [nodeKind, hx] at hd
              | some n => exact ⟨n, rfl⟩
            have hd' : d = kindOf n := by
              have := nodeKind_eq_kindOf hn'
              rw [hd] at this; exact Option.some.inj this
            subst hd'
            refine ⟨(x, kindOf n), (mem_userNodesFrom hi.keys).mpr ⟨n, hn', hpre, hxs, isInternal_drop hpre hxi, rfl⟩, ?_⟩
            simp only
            rw [if_pos ((hcont x _ hxi hd).mpr ⟨_, q, u, hd, hg, ha⟩)]

/-- one `set` / `del` / `get` on a handle leaves every object of the directory in place, with its
bytes, unless it is the `del` of that object's schema name -/
theorem metaStep_keeps {e : Env} (he : WFEnv e) {s : St} (hi : Inv e s) {h : Handle} (hh : HOK s h) (o : MetaOp)
    {q : SRef} {u : Nat} {tok : String}
    (hobj : get? s.raw (h.baseDir ++ [.obj q u]) = some (.ds (.data tok)))
    (hnd : ∀ n, o = .del n → n ≠ q.name) :
    (metaStep e h o s).1.2.baseDir = h.baseDir ∧
    get? (metaStep e h o s).2.raw (h.baseDir ++ [.obj q u]) = some (.ds (.data tok)) := by
  obtain ⟨b, m, hb, hbase, -, -⟩ := hh.base
  have hpath : h.baseDir ++ [.obj q u] = b ++ [.metaDir m, .obj q u] := by rw [hbase]; simp
  have hobjAt : ObjAt s.raw (h.baseDir ++ [.obj q u]) q u := ⟨b, m, hb, hpath, by rw [hobj]; simp⟩
  have hhead : (h.baseDir ++ [Key.obj q u]).head? ≠ some .toc := hpath ▸ objPath_head hb
  refine metaStep_post he hi hh o
    (P := fun h' s' => h'.baseDir = h.baseDir ∧ get? s'.raw (h.baseDir ++ [.obj q u]) = some (.ds (.data tok)))
    ⟨rfl, hobj⟩ (fun name ver tok' i h' s' _ hinfo hfree hrun => ?_) fun name st h' s' ho hg hrun => ?_
  · -- the new object has a fresh uuid
    obtain ⟨_, _, hrun', -, -, hbase', -, hframe⟩ := setRaw_spec he hi hh hinfo tok' hfree
    cases hrun.symm.trans hrun'
    refine ⟨hbase', (hframe _ hhead (fun h' => by have := congrArg List.length h'; simp at this) fun h' => ?_).trans hobj⟩
    have := (List.append_inj' h' rfl).2
    simp only [List.cons.injEq, Key.obj.injEq, and_true] at this
    exact absurd (hi.mok.bound _ q u hobjAt) (by rw [this.2]; exact lt_irrefl _)
  · obtain ⟨_, _, hrun', -, -, hbase', -, -, hobjs', hmono⟩ := delRaw_spec he hi hh hg
    cases hrun.symm.trans hrun'
    obtain ⟨r', u', hn', rfl, -⟩ := (hh.objs name st).mp hg
    have hne : h.baseDir ++ [Key.obj q u] ≠ h.baseDir ++ [Key.obj r' u'] := fun h' => by
      have := (List.append_inj' h' rfl).2
      simp only [List.cons.injEq, Key.obj.injEq, and_true] at this
      exact hnd name ho (by rw [← hn', this.1])
    obtain ⟨_, _, _, _, hg'⟩ := (hobjs' _ _ _).mpr ⟨hobjAt, hne⟩
    exact ⟨hbase', ((hmono _ hhead).resolve_left hg').trans hobj⟩

/-- … and so does any sequence of operations on the kept handle that does not delete it -/
theorem metaSeq_keeps {e : Env} (he : WFEnv e) : ∀ (ops : List MetaOp) {s : St} {h : Handle},
    Inv e s → HOK s h → ∀ {q : SRef} {u : Nat} {tok : String},
    get? s.raw (h.baseDir ++ [.obj q u]) = some (.ds (.data tok)) →
    (∀ n, MetaOp.del n ∈ ops → n ≠ q.name) →
    get? (metaSeqTrace e h ops s).2.raw (h.baseDir ++ [.obj q u]) = some (.ds (.data tok)) := by
  intro ops
  induction ops with
  | nil => intro s h _ _ q u tok hobj _; exact hobj
  | cons o ops ih =>
    intro s h hi hh q u tok hobj hnd
    obtain ⟨hi1, hh1⟩ := metaStep_inv he hi hh o
    obtain ⟨hb1, hobj1⟩ := metaStep_keeps he hi hh o hobj (fun n hn => hnd n (by simp [hn]))
    simp only [metaSeqTrace]
    have := ih hi1 hh1 (q := q) (u := u) (tok := tok) (by rw [hb1]; exact hobj1)
      (fun n hn => hnd n (List.mem_cons_of_mem _ hn))
    rw [hb1] at this; exact this

end MetadorModel.Container
