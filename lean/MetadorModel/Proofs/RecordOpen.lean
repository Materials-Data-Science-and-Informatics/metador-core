import MetadorModel.Proofs.RecordInv
/-! `_open` only looks at the files it is given, and the manifest check only at their sidecars and
at the file named by `manifest_file=`: congruence lemmas (C02 snapshot validity, C03 reopen). -/
namespace MetadorModel.Record
open MetadorModel.FindFiles

theorem loadAll_congr (d d' : Disk) : ∀ (paths : List Name),
    (∀ f ∈ paths, getF d' f = getF d f) → loadAll d' paths = loadAll d paths
  | [], _ => rfl
  | f :: r, h => by
    simp only [loadAll]
    rw [h f (by simp), loadAll_congr d d' r (fun g hg => h g (by simp [hg]))]

theorem checkUB_congr {d d' : Disk} {f : Name} (h : getF d' f = getF d f) (rid : Nat) (ub : UB)
    (prev : Option UB) (ch : Bool) : checkUB d' rid f ub prev ch = checkUB d rid f ub prev ch := by
  simp only [checkUB, payloadOf_congr h]

theorem checkChain_cons_cons (d : Disk) (rid : Nat) (p : UB) (f : Name) (ub : UB) (y : Name × UB)
    (r : List (Name × UB)) :
    checkChain d rid p ((f, ub) :: y :: r) =
      (checkUB d rid f ub (some p) true && checkChain d rid ub (y :: r)) := rfl

theorem checkChain_congr (d d' : Disk) (rid : Nat) : ∀ (l : List (Name × UB)) (p : UB),
    (∀ x ∈ l, getF d' x.1 = getF d x.1) → checkChain d' rid p l = checkChain d rid p l
  | [], _, _ => rfl
  | [(f, ub)], p, h => checkUB_congr (h (f, ub) (by simp)) rid ub (some p) false
  | (f, ub) :: y :: r, p, h => by
    rw [checkChain_cons_cons, checkChain_cons_cons, checkUB_congr (h (f, ub) (by simp)),
      checkChain_congr d d' rid (y :: r) ub (fun x hx => h x (by simp [hx]))]

theorem openFilesK_congr (d d' : Disk) (paths : List Name) (rw bl : Bool)
    (h : ∀ f ∈ paths, getF d' f = getF d f) : openFilesK d' paths rw bl = openFilesK d paths rw bl := by
  unfold openFilesK
  rw [loadAll_congr d d' paths h]
  cases hl : loadAll d paths with
  | error e => rfl
  | ok ubs =>
    dsimp only
    have hmem : ∀ x ∈ sortByIdx ubs, getF d' x.1 = getF d x.1 := fun x hx =>
      h _ ((loadAll_ok d paths ubs hl).1 ▸ List.mem_map_of_mem ((sortByIdx_perm ubs).mem_iff.mp hx))
    cases hs : sortByIdx ubs with
    | nil => rfl
    | cons x rest =>
      rw [hs] at hmem
      dsimp only
      rw [checkUB_congr (hmem x (by simp)),
        checkChain_congr d d' x.2.rid rest x.2 (fun y hy => hmem y (by simp [hy]))]

theorem prevFile_mem : ∀ (l : List (Name × UB)) (x : Name × UB), prevFile l = some x → x ∈ l
  | [], x, h => nomatch h
  | [_], x, h => nomatch h
  | [a, _], x, h => by cases h; simp
  | _ :: y :: z :: r, x, h => List.mem_cons_of_mem _ (prevFile_mem (y :: z :: r) x h)

theorem loadManifestK_congr (d d' : Disk) (files : List (Name × UB)) (mf : Option Name)
    (h : ∀ x ∈ files, getF d' (manifestFile x.1) = getF d (manifestFile x.1))
    (hm : ∀ g, mf = some g → getF d' g = getF d g) :
    loadManifestK d' files mf = loadManifestK d files mf := by
  unfold loadManifestK
  cases hl : lastFile files with
  | none => rfl
  | some y =>
    dsimp only
    have h1 : getF d' (mf.getD (manifestFile y.1)) = getF d (mf.getD (manifestFile y.1)) := by
      cases mf with
      | none => exact h y (lastFile_mem _ _ hl)
      | some g => exact hm g rfl
    rw [h1]
    cases hp : prevFile files with
    | none => rfl
    | some z =>
      dsimp only
      rw [h z (prevFile_mem _ _ hp)]

end MetadorModel.Record
