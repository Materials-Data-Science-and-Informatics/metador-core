import MetadorModel.Model.Tree
namespace MetadorModel.Tree
variable {κ β α : Type} [DecidableEq κ]

theorem aget_aput (k k' : κ) (v : β) (l : List (κ × β)) :
    aget k' (aput k v l) = if k' = k then some v else aget k' l := by
  induction l with
  | nil => simp [aput, aget, eq_comm]
  | cons e l ih =>
    obtain ⟨a, b⟩ := e
    by_cases h : a = k
    · subst h
      by_cases h2 : k' = a
      · simp [aput, aget, h2]
      · have : ¬ a = k' := fun h3 => h2 h3.symm
        simp [aput, aget, h2, this]
    · by_cases h2 : k' = k
      · subst h2; simp [aput, aget, h, ih]
      · simp [aput, aget, h, ih, h2]

theorem aget_aput_same (k : κ) (v : β) (m : List (κ × β)) : aget k (aput k v m) = some v := by
  rw [aget_aput, if_pos rfl]

theorem aget_aput_other (k q : κ) (v : β) (m : List (κ × β)) (h : q ≠ k) : aget q (aput k v m) = aget q m := by
  rw [aget_aput, if_neg h]

theorem aget_aerase (k k' : κ) (l : List (κ × β)) :
    aget k' (aerase k l) = if k' = k then none else aget k' l := by
  induction l with
  | nil => simp [aerase, aget]
  | cons e l ih =>
    obtain ⟨a, b⟩ := e
    by_cases h : a = k
    · subst h; by_cases h2 : k' = a
      · subst h2; simp [aerase, ih]
      · have : ¬ a = k' := fun h3 => h2 h3.symm
        simp [aerase, aget, ih, h2, this]
    · by_cases h2 : k' = k
      · subst h2; simp [aerase, aget, h, ih]
      · simp [aerase, aget, h, ih, h2]

theorem isPre_iff (a b : Path) : isPre a b = true ↔ ∃ s, b = a ++ s := by
  induction a generalizing b with
  | nil => simp [isPre]
  | cons x xs ih =>
    cases b with
    | nil => simp [isPre]
    | cons y ys =>
      by_cases h : x = y
      · subst h; simp [isPre, ih]
      · simp [isPre, h]
        intro h'; exact absurd h'.symm h

theorem isPre_refl (a : Path) : isPre a a = true := (isPre_iff a a).2 ⟨[], by simp⟩
theorem isPre_append (a s : Path) : isPre a (a ++ s) = true := (isPre_iff _ _).2 ⟨s, rfl⟩

theorem aget_removeSub (p q : Path) (m : List (Path × α)) :
    aget q (removeSub p m) = if isPre p q then none else aget q m := by
  induction m with
  | nil => simp [removeSub, aget]
  | cons e m ih =>
    obtain ⟨a, b⟩ := e
    simp only [removeSub] at ih ⊢
    by_cases h : isPre p a = true
    · simp only [List.filter, h, Bool.not_true]
      rw [ih]
      by_cases h2 : a = q
      · subst h2; simp [h]
      · simp [aget, h2]
    · simp only [List.filter, h, Bool.not_false, aget]
      by_cases h2 : a = q
      · subst h2; simp [h]
      · simp [h2, ih]

theorem mem_properPrefixes (x p : Path) : x ∈ properPrefixes p ↔ ∃ s, s ≠ [] ∧ p = x ++ s := by
  induction p generalizing x with
  | nil => simp [properPrefixes]
  | cons k rest ih =>
    simp only [properPrefixes, List.mem_cons, List.mem_map]
    constructor
    · rintro (h | ⟨y, hy, rfl⟩)
      · subst h; exact ⟨k :: rest, by simp, by simp⟩
      · obtain ⟨s, hs, rfl⟩ := (ih y).1 hy
        exact ⟨s, hs, by simp⟩
    · rintro ⟨s, hs, h⟩
      cases x with
      | nil => left; rfl
      | cons a x' =>
        right
        simp at h
        obtain ⟨rfl, h⟩ := h
        exact ⟨x', (ih x').2 ⟨s, hs, h⟩, rfl⟩

theorem aget_ensureAll (d : α) (qs : List Path) (m : List (Path × α)) (q : Path) :
    aget q (ensureAll d qs m) = match aget q m with
      | some v => some v
      | none => if q ∈ qs then some d else none := by
  induction qs generalizing m with
  | nil => simp [ensureAll]; cases aget q m <;> rfl
  | cons x qs ih =>
    simp only [ensureAll]
    rw [ih]
    cases hx : aget x m with
    | some w =>
      simp only
      cases hq : aget q m with
      | some v => rfl
      | none =>
        have : q ≠ x := by rintro rfl; simp [hx] at hq
        simp [this]
    | none =>
      simp only [aget_aput]
      by_cases h : q = x
      · subst h; simp [hx]
      · simp [h]

theorem aget_ensure (d : α) (p : Path) (m : List (Path × α)) (q : Path) :
    aget q (ensure d p m) = match aget q m with
      | some v => some v
      | none => if q ∈ properPrefixes p then some d else none := by
  unfold ensure
  rw [aget_ensureAll]

theorem mem_properPrefixes' (x p : Path) : x ∈ properPrefixes p ↔ (isPre x p = true ∧ x ≠ p) := by
  rw [mem_properPrefixes, isPre_iff]
  constructor
  · rintro ⟨s, hs, rfl⟩
    refine ⟨⟨s, rfl⟩, ?_⟩
    intro h
    exact hs (by simpa using h)
  · rintro ⟨⟨s, rfl⟩, h⟩
    refine ⟨s, ?_, rfl⟩
    rintro rfl
    simp at h

end MetadorModel.Tree
