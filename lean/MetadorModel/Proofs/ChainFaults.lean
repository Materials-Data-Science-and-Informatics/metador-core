import MetadorModel.Proofs.Chain
/-! Consequences of `Coherent` used by the fault corollaries of C04 and by C11. -/
namespace MetadorModel.Chain
open List

variable {P M : Type} {H : P → Digest} {HM : M → Digest} {mfAware ab : Bool}

/-- a container newer than all of `fs` added: the set opens, if at all, as `s` followed by it -/
theorem validate_snoc {fs fs' s x : List (File P M)} {f : File P M}
    (hs : validate H HM mfAware ab fs = .ok s) (hx : validate H HM mfAware ab fs' = .ok x)
    (hp : fs' ~ fs ++ [f]) (hidx : ∀ g ∈ s, g.ub.idx < f.ub.idx) : x = s ++ [f] := by
  obtain ⟨ps, cs⟩ := (validate_ok_iff H HM mfAware ab fs s).mp hs
  obtain ⟨px, cx⟩ := (validate_ok_iff H HM mfAware ab fs' x).mp hx
  refine sortedLt_unique (px.trans (hp.trans (ps.symm.append_right [f]))) (cx.sortedLt H HM) ?_
  exact pairwise_append.mpr ⟨cs.sortedLt H HM, pairwise_singleton _ _,
    fun a ha b hb => mem_singleton.mp hb ▸ hidx a ha⟩

theorem Coherent.chain {b : File P M} {rest : List (File P M)} (h : Coherent H HM mfAware ab (b :: rest)) :
    ChainFrom b rest := h.2.2.2.1

theorem Coherent.basePrev {b : File P M} {rest : List (File P M)} (h : Coherent H HM mfAware false (b :: rest)) :
    b.ub.prev = none := h.2.1 rfl

theorem Coherent.ne_nil {s : List (File P M)} (h : Coherent H HM mfAware ab s) : s ≠ [] := by
  rintro rfl; exact absurd h (by simp [Coherent])

theorem Coherent.nodup {s : List (File P M)} (h : Coherent H HM mfAware ab s) :
    (s.map (fun f => f.ub.pid)).Nodup := by
  cases s with
  | nil => simp
  | cons b rest => exact h.2.2.2.2.2.2.1

theorem Coherent.h5 {s : List (File P M)} (h : Coherent H HM mfAware ab s) :
    ∀ f ∈ s, f.h5ok = true := by
  cases s with
  | nil => simp
  | cons b rest => exact h.1

theorem Coherent.sameRecord {s : List (File P M)} (h : Coherent H HM mfAware ab s) :
    ∀ f ∈ s, ∀ g ∈ s, f.ub.rid = g.ub.rid := by
  cases s with
  | nil => simp
  | cons b rest =>
    have hr := h.2.2.1
    have : ∀ f ∈ b :: rest, f.ub.rid = b.ub.rid := by
      intro f hf
      rcases mem_cons.mp hf with rfl | hf
      · rfl
      · exact hr f hf
    intro f hf g hg
    rw [this f hf, this g hg]

theorem Coherent.hash_mem {s : List (File P M)} (h : Coherent H HM mfAware ab s) :
    ∀ f ∈ s, f.ub.hash = none ∨ HashOK H f := by
  cases s with
  | nil => simp
  | cons b rest =>
    intro f hf
    rw [← dropLast_append_lastOf b rest] at hf
    rcases mem_append.mp hf with hf | hf
    · exact Or.inr (h.2.2.2.2.1 f hf)
    · rw [mem_singleton] at hf; subst hf; exact h.2.2.2.2.2.1

theorem Coherent.hash_init {init : List (File P M)} {l : File P M}
    (h : Coherent H HM mfAware ab (init ++ [l])) : ∀ f ∈ init, HashOK H f := by
  cases init with
  | nil => simp
  | cons b r =>
    intro f hf
    have hd : (b :: (r ++ [l])).dropLast = b :: r := by
      rw [← cons_append, dropLast_concat]
    exact h.2.2.2.2.1 f (hd ▸ hf)

theorem Coherent.last_manifest {init : List (File P M)} {l : File P M}
    (h : Coherent H HM mfAware ab (init ++ [l])) (hm : mfAware = true) :
    ∀ e, l.ub.ext = some e → ∃ m, l.mf = some m ∧ e.mhash = HM m := by
  cases init with
  | nil => exact (h.2.2.2.2.2.2.2 hm).2
  | cons b r =>
    have := (h.2.2.2.2.2.2.2 hm).2
    have hl : lastOf b (r.append [l]) = l := lastOf_append b r l
    rwa [hl] at this

theorem ChainFrom.pred {p : File P M} {r : List (File P M)} (h : ChainFrom p r) :
    ∀ g ∈ r, ∃ x ∈ p :: r, g.ub.prev = some x.ub.pid := by
  induction r generalizing p with
  | nil => simp
  | cons y r' ih =>
    obtain ⟨h1, h2⟩ := h
    intro g hg
    rcases mem_cons.mp hg with rfl | hg
    · exact ⟨p, mem_cons_self, h1.2⟩
    · obtain ⟨x, hx, hgx⟩ := ih h2 g hg
      exact ⟨x, mem_cons_of_mem _ hx, hgx⟩

theorem ChainFrom.noFork {p : File P M} {r : List (File P M)} (h : ChainFrom p r)
    (hn : ((p :: r).map (fun f => f.ub.pid)).Nodup) :
    r.Pairwise (fun a b => a.ub.prev ≠ b.ub.prev) := by
  induction r generalizing p with
  | nil => simp
  | cons y r' ih =>
    obtain ⟨h1, h2⟩ := h
    rw [map_cons, nodup_cons] at hn
    rw [pairwise_cons]
    refine ⟨?_, ih h2 hn.2⟩
    intro g hg
    obtain ⟨x, hx, hgx⟩ := h2.pred g hg
    rw [h1.2, hgx]
    intro heq
    injection heq with heq
    exact hn.1 (heq ▸ mem_map_of_mem hx)

/-- the base names no predecessor, every other container a different member of the set -/
theorem Coherent.noFork {s : List (File P M)} (h : Coherent H HM mfAware false s) :
    s.Pairwise (fun a b => a.ub.prev ≠ b.ub.prev) := by
  cases s with
  | nil => simp
  | cons b rest =>
    rw [pairwise_cons]
    refine ⟨?_, h.chain.noFork h.nodup⟩
    intro g hg
    obtain ⟨x, -, hgx⟩ := h.chain.pred g hg
    rw [h.basePrev, hgx]; simp

theorem Coherent.pred {s : List (File P M)} (h : Coherent H HM mfAware false s) :
    ∀ g ∈ s, g.ub.prev = none ∨ ∃ x ∈ s, g.ub.prev = some x.ub.pid := by
  cases s with
  | nil => simp
  | cons b rest =>
    intro g hg
    rcases mem_cons.mp hg with rfl | hg
    · exact Or.inl h.basePrev
    · exact Or.inr (h.chain.pred g hg)

theorem Coherent.chain_split {l₁ l₂ : List (File P M)} {b : File P M}
    (h : Coherent H HM mfAware ab (b :: (l₁ ++ l₂))) : ChainFrom (lastOf b l₁) l₂ :=
  (chainFrom_append.mp h.chain).2

theorem Coherent.dropNewest {init : List (File P M)} {l : File P M}
    (h : Coherent H HM mfAware ab (init ++ [l])) (hne : init ≠ [])
    (hmf : mfAware = true → ∀ b r, init = b :: r → ∀ e, (lastOf b r).ub.ext = some e →
      ∃ m, (lastOf b r).mf = some m ∧ e.mhash = HM m) :
    Coherent H HM mfAware ab init := by
  cases init with
  | nil => exact absurd rfl hne
  | cons b r =>
    have hinit := h.hash_init
    have hsub : ∀ f, f ∈ r → f ∈ r ++ [l] := fun f hf => mem_append_left _ hf
    obtain ⟨c1, c2, c3, c4, c5, c6, c7, c8⟩ := h
    refine ⟨fun f hf => c1 f (mem_append_left _ hf), c2,
      fun f hf => c3 f (hsub f hf), (chainFrom_append.mp c4).1, ?_, ?_, ?_, ?_⟩
    · intro f hf; exact hinit f (dropLast_subset _ hf)
    · exact Or.inr (hinit _ (lastOf_mem b r))
    · have : (b :: r).map (fun f => f.ub.pid) <+ ((b :: r) ++ [l]).map (fun f => f.ub.pid) :=
        (sublist_append_left _ _).map _
      exact c7.sublist this
    · intro hm
      exact ⟨fun f hf => (c8 hm).1 f (hsub f hf), hmf hm b r rfl⟩

end MetadorModel.Chain
