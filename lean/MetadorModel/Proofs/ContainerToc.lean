import MetadorModel.Proofs.ContainerTree
/-!
# TOC bookkeeping of the container model: specification of the `/metador_container` subtree and
of the in-memory caches as a function of the linked objects / used schemas, and its
preservation by `TOCSchemas._register/_unregister`, `TOCLinks.register/unregister`.

The file opens with what every later container file needs: the `run_*` equations of the state-and-error monad
`M`, the parent path `ppath e r` of a schema, and `WFEnv`, the assumptions on the plugin environment under which
all container properties are stated.
-/
namespace MetadorModel.Container

section Run
variable {α β : Type}
@[simp] theorem run_pure (a : α) (s : St) : (pure a : M α) s = (.ok a, s) := rfl
@[simp] theorem run_bind (m : M α) (f : α → M β) (s : St) :
    (m >>= f) s = match m s with
      | (.ok a, s') => f a s'
      | (.error e, s') => (.error e, s') := rfl
@[simp] theorem run_raise (e : Err) (s : St) : (raise e : M α) s = (.error e, s) := rfl
@[simp] theorem run_getSt (s : St) : getSt s = (.ok s, s) := rfl
@[simp] theorem run_modifySt (f : St → St) (s : St) : modifySt f s = (.ok (), f s) := rfl
@[simp] theorem run_modC (f : Caches → Caches) (s : St) : modC f s = (.ok (), { s with c := f s.c }) := rfl
theorem run_liftRaw (f : Tree → Except Err Tree) (s : St) :
    liftRaw f s = match f s.raw with
      | .ok t => (.ok (), { s with raw := t })
      | .error e => (.error e, s) := rfl
@[simp] theorem run_ofOpt_some (e : Err) (a : α) (s : St) : ofOpt e (some a) s = (.ok a, s) := rfl
@[simp] theorem run_ofOpt_none (e : Err) (s : St) : (ofOpt e (none : Option α)) s = (.error e, s) := rfl
end Run

/-- `schemas.parent_path(r)` of the environment (`[]` for a reference that is not installed) -/
def ppath (e : Env) (r : SRef) : List SRef :=
  match e.info r with
  | some i => i.parents
  | none => []

/-- requirements on the schema environment (checked on the real plugin system by the harness) -/
structure WFEnv (e : Env) : Prop where
  /-- parent paths end in the schema itself -/
  last : ∀ r i, e.info r = some i → i.parents.getLast? = some r
  /-- no schema occurs twice in a parent path -/
  nodup : ∀ r i, e.info r = some i → i.parents.Nodup
  /-- every non-empty prefix of a parent path is the parent path of its last element -/
  closed : ∀ r i a b, e.info r = some i → i.parents = a ++ b → a ≠ [] →
    ∃ p, a.getLast? = some p ∧ ppath e p = a
  /-- the providing package lists the schema -/
  prov : ∀ r i, e.info r = some i → r ∈ e.pkgPlugins i.pkg
  /-- a schema is listed by one package only -/
  disj : ∀ pk pk' r, r ∈ e.pkgPlugins pk → r ∈ e.pkgPlugins pk' → pk = pk'
  /-- … and only once -/
  plugins_nodup : ∀ pk, (e.pkgPlugins pk).Nodup

theorem info_ref {e : Env} {r : SRef} {i : SInfo} (h : e.info r = some i) : i.ref = r := by
  unfold Env.info at h
  have := List.find?_some h
  simpa using this

/-- the container-local schema index is exactly what the set `U` of used schemas determines -/
structure IndexOK (e : Env) (U : SRef → Prop) (par chi : List (SRef × List SRef)) : Prop where
  dom : ∀ P, (alGet chi P).isSome ↔ ∃ S, U S ∧ P ∈ ppath e S
  domp : ∀ P, (alGet par P).isSome ↔ (alGet chi P).isSome
  par_val : ∀ P l, alGet par P = some l → l = ppath e P
  chi_val : ∀ P cs, alGet chi P = some cs → cs.Nodup ∧ ∀ S, S ∈ cs ↔ (U S ∧ P ∈ ppath e S ∧ S ≠ P)

/-- the index for `U` in which `ref` counts in addition for its ancestors in `done`: the states the
loops of `_update_parents_children` pass through, adding (`done` grows) and removing (it shrinks) -/
structure IndexWith (e : Env) (U : SRef → Prop) (ref : SRef) (done : List SRef)
    (par chi : List (SRef × List SRef)) : Prop where
  dom : ∀ P, (alGet chi P).isSome ↔ ((∃ S, U S ∧ P ∈ ppath e S) ∨ P ∈ done)
  domp : ∀ P, (alGet par P).isSome ↔ (alGet chi P).isSome
  par_val : ∀ P l, alGet par P = some l → l = ppath e P
  chi_val : ∀ P cs, alGet chi P = some cs → cs.Nodup ∧
    ∀ S, S ∈ cs ↔ ((U S ∧ P ∈ ppath e S ∧ S ≠ P) ∨ (S = ref ∧ P ∈ done ∧ P ≠ ref))

theorem alGet_setDefault {α β : Type} [DecidableEq α] (l : List (α × β)) (a : α) (d : β) (x : α) :
    alGet (if (alGet l a).isNone then alSet l a d else l) x =
      if x = a then some ((alGet l a).getD d) else alGet l x := by
  cases hc : alGet l a with
  | none => simp only [Option.isNone_none, if_true, alGet_alSet, Option.getD_none]
  | some v =>
    simp only [Option.isNone_some, Bool.false_eq_true, if_false, Option.getD_some]
    by_cases hx : x = a
    · rw [if_pos hx, hx, hc]
    · rw [if_neg hx]

/-- after a change of the tables at the key `p` only, the four clauses need checking at `p` only -/
theorem IndexWith.update {e : Env} {U : SRef → Prop} {ref : SRef} {D D' : List SRef}
    {par chi par' chi' : List (SRef × List SRef)} (hm : IndexWith e U ref D par chi) (p : SRef)
    (hD : ∀ P, P ≠ p → (P ∈ D' ↔ P ∈ D))
    (hpar : ∀ P, P ≠ p → alGet par' P = alGet par P)
    (hchi : ∀ P, P ≠ p → alGet chi' P = alGet chi P)
    (hdom : (alGet chi' p).isSome ↔ ((∃ S, U S ∧ p ∈ ppath e S) ∨ p ∈ D'))
    (hdomp : (alGet par' p).isSome ↔ (alGet chi' p).isSome)
    (hpv : ∀ l, alGet par' p = some l → l = ppath e p)
    (hcv : ∀ cs, alGet chi' p = some cs → cs.Nodup ∧
      ∀ S, S ∈ cs ↔ ((U S ∧ p ∈ ppath e S ∧ S ≠ p) ∨ (S = ref ∧ p ∈ D' ∧ p ≠ ref))) :
    IndexWith e U ref D' par' chi' := by
  refine ⟨fun P => ?_, fun P => ?_, fun P l h => ?_, fun P cs h => ?_⟩ <;> by_cases hP : P = p
  · rw [hP]; exact hdom
  · rw [hchi P hP, hD P hP]; exact hm.dom P
  · rw [hP]; exact hdomp
  · rw [hpar P hP, hchi P hP]; exact hm.domp P
  · rw [hP] at h ⊢; exact hpv l h
  · rw [hpar P hP] at h; exact hm.par_val P l h
  · rw [hP] at h ⊢; exact hcv cs h
  · rw [hchi P hP] at h
    refine ⟨(hm.chi_val P cs h).1, fun S => ?_⟩
    rw [(hm.chi_val P cs h).2 S, hD P hP]

/-- the adding loop of `_update_parents_children` keeps `IndexWith` while `done` grows to all parents of `ref` -/
theorem upcAdd_mid (e : Env) (he : WFEnv e) (U : SRef → Prop) (ref : SRef) (i : SInfo)
    (hi : e.info ref = some i) :
    ∀ (rest done : List SRef) (par chi : List (SRef × List SRef)),
      i.parents = done ++ rest → IndexWith e U ref done par chi →
      IndexWith e U ref i.parents (upcAdd ref par chi done rest).1 (upcAdd ref par chi done rest).2
  | [], done, par, chi, hl, hm => by
    simp only [List.append_nil] at hl
    simp only [upcAdd]
    rw [hl]; exact hm
  | p :: rest, done, par, chi, hl, hm => by
    simp only [upcAdd]
    apply upcAdd_mid e he U ref i hi rest (done ++ [p])
    · simp [hl]
    · -- one iteration of the loop
      have hpp : ppath e p = done ++ [p] := by
        obtain ⟨p', hp', hpp⟩ := he.closed ref i (done ++ [p]) rest hi (by simp [hl]) (by simp)
        simp at hp'; subst hp'; exact hpp
      have hpdone : p ∉ done := fun hmem =>
        (List.nodup_append.mp (hl ▸ he.nodup ref i hi)).2.2 p hmem p (by simp) rfl
      -- the children of `p` so far: `p` is not yet among the ancestors counted for `ref`
      have hcs0 : ((alGet chi p).getD []).Nodup ∧
          ∀ S, S ∈ (alGet chi p).getD [] ↔ (U S ∧ p ∈ ppath e S ∧ S ≠ p) := by
        cases hc : alGet chi p with
        | none =>
          have hnd : ¬ ∃ S, U S ∧ p ∈ ppath e S := fun h => by
            have := (hm.dom p).mpr (Or.inl h)
            rw [hc] at this; cases this
          exact ⟨List.nodup_nil, fun S => ⟨fun h => absurd h (List.not_mem_nil),
            fun h => (hnd ⟨S, h.1, h.2.1⟩).elim⟩⟩
        | some cs =>
          obtain ⟨h1, h2⟩ := hm.chi_val p cs hc
          exact ⟨h1, fun S => (h2 S).trans (or_iff_left fun h => hpdone h.2.1)⟩
      have hchi_get : ∀ x, alGet (if p ≠ ref then
            alSet (if (alGet chi p).isNone then alSet chi p [] else chi) p
              (setAdd ((alGet (if (alGet chi p).isNone then alSet chi p [] else chi) p).getD []) ref)
          else if (alGet chi p).isNone then alSet chi p [] else chi) x =
          if x = p then some (if p ≠ ref then setAdd ((alGet chi p).getD []) ref else (alGet chi p).getD [])
          else alGet chi x := by
        intro x
        by_cases hp : p ≠ ref
        · rw [if_pos hp, if_pos hp, alGet_alSet, alGet_setDefault, alGet_setDefault, if_pos rfl, Option.getD_some]
          by_cases hx : x = p
          · rw [if_pos hx, if_pos hx]
          · rw [if_neg hx, if_neg hx, if_neg hx]
        · rw [if_neg hp, if_neg hp, alGet_setDefault]
      refine hm.update p (fun P hP => by simp [hP]) (fun P hP => by rw [alGet_setDefault, if_neg hP])
        (fun P hP => by rw [hchi_get, if_neg hP]) ?_ ?_ (fun l hl => ?_) (fun cs hcs => ?_)
      · rw [hchi_get, if_pos rfl]
        exact ⟨fun _ => Or.inr (by simp), fun _ => rfl⟩
      · rw [hchi_get, alGet_setDefault, if_pos rfl, if_pos rfl]
        exact ⟨fun _ => rfl, fun _ => rfl⟩
      · rw [alGet_setDefault, if_pos rfl] at hl
        cases hc : alGet par p with
        | none => rw [hc] at hl; cases hl; exact hpp.symm
        | some l0 => rw [hc] at hl; cases hl; exact hm.par_val p l0 hc
      · rw [hchi_get, if_pos rfl] at hcs
        cases hcs
        by_cases hp : p ≠ ref
        · rw [if_pos hp]
          refine ⟨nodup_setAdd hcs0.1 _, fun S => ?_⟩
          rw [mem_setAdd, hcs0.2]
          exact or_congr_right ⟨fun h => ⟨h, by simp, hp⟩, And.left⟩
        · rw [if_neg hp]
          exact ⟨hcs0.1, fun S => (hcs0.2 S).trans (or_iff_left fun h => hp h.2.2).symm⟩

theorem ppath_eq {e : Env} {r : SRef} {i : SInfo} (h : e.info r = some i) : ppath e r = i.parents := by
  simp [ppath, h]

theorem mem_ppath_self {e : Env} (he : WFEnv e) {r : SRef} {i : SInfo} (h : e.info r = some i) :
    r ∈ ppath e r := by
  rw [ppath_eq h]
  exact List.mem_of_getLast? (he.last r i h)

theorem IndexOK.congr {e : Env} {U U' : SRef → Prop} {par chi : List (SRef × List SRef)}
    (h : IndexOK e U par chi) (hU : ∀ r, U' r ↔ U r) : IndexOK e U' par chi := by
  have : U' = U := funext fun r => propext (hU r)
  rw [this]; exact h

theorem indexWith_nil {e : Env} {U : SRef → Prop} {ref : SRef} {par chi : List (SRef × List SRef)} :
    IndexWith e U ref [] par chi ↔ IndexOK e U par chi :=
  ⟨fun h => ⟨fun P => by simpa using h.dom P, h.domp, h.par_val, fun P cs hcs =>
      ⟨(h.chi_val P cs hcs).1, fun S => by simpa using (h.chi_val P cs hcs).2 S⟩⟩,
   fun h => ⟨fun P => by simpa using h.dom P, h.domp, h.par_val, fun P cs hcs =>
      ⟨(h.chi_val P cs hcs).1, fun S => by simpa using (h.chi_val P cs hcs).2 S⟩⟩⟩

/-- counting `ref` for all its ancestors is having it in the set -/
theorem indexWith_all {e : Env} {U : SRef → Prop} {ref : SRef} {i : SInfo}
    (hi : e.info ref = some i) {par chi : List (SRef × List SRef)} :
    IndexWith e U ref i.parents par chi ↔ IndexOK e (fun S => U S ∨ S = ref) par chi := by
  have hpp := ppath_eq hi
  have hdom : ∀ P, ((∃ S, U S ∧ P ∈ ppath e S) ∨ P ∈ i.parents) ↔ ∃ S, (U S ∨ S = ref) ∧ P ∈ ppath e S := by
    intro P
    constructor
    · rintro (⟨S, hS, hx⟩ | hx)
      · exact ⟨S, Or.inl hS, hx⟩
      · exact ⟨ref, Or.inr rfl, hpp ▸ hx⟩
    · rintro ⟨S, hS | rfl, hx⟩
      · exact Or.inl ⟨S, hS, hx⟩
      · exact Or.inr (hpp ▸ hx)
  have hmem : ∀ P S, ((U S ∧ P ∈ ppath e S ∧ S ≠ P) ∨ (S = ref ∧ P ∈ i.parents ∧ P ≠ ref)) ↔
      ((U S ∨ S = ref) ∧ P ∈ ppath e S ∧ S ≠ P) := by
    intro P S
    constructor
    · rintro (⟨hS, hx, hne⟩ | ⟨rfl, hx, hne⟩)
      · exact ⟨Or.inl hS, hx, hne⟩
      · exact ⟨Or.inr rfl, hpp ▸ hx, fun h => hne h.symm⟩
    · rintro ⟨hS | rfl, hx, hne⟩
      · exact Or.inl ⟨hS, hx, hne⟩
      · exact Or.inr ⟨rfl, hpp ▸ hx, fun h => hne h.symm⟩
  exact ⟨fun h => ⟨fun P => (h.dom P).trans (hdom P), h.domp, h.par_val, fun P cs hcs =>
      ⟨(h.chi_val P cs hcs).1, fun S => ((h.chi_val P cs hcs).2 S).trans (hmem P S)⟩⟩,
    fun h => ⟨fun P => (h.dom P).trans (hdom P).symm, h.domp, h.par_val, fun P cs hcs =>
      ⟨(h.chi_val P cs hcs).1, fun S => ((h.chi_val P cs hcs).2 S).trans (hmem P S).symm⟩⟩⟩

/-- `_update_parents_children(ref, parents)` turns the index for `U` into the index for `U ∪ {ref}` -/
theorem upcAdd_index {e : Env} (he : WFEnv e) {U : SRef → Prop} {ref : SRef} {i : SInfo}
    (hi : e.info ref = some i) {par chi : List (SRef × List SRef)} (h : IndexOK e U par chi) :
    IndexOK e (fun S => U S ∨ S = ref) (upcAdd ref par chi [] i.parents).1 (upcAdd ref par chi [] i.parents).2 :=
  (indexWith_all hi).mp (upcAdd_mid e he U ref i hi i.parents [] par chi (by simp) (indexWith_nil.mpr h))

/-- `o` is `some n` when `P` holds and `none` otherwise -/
def Holds (o : Option Node) (P : Prop) (n : Node) : Prop := (P → o = some n) ∧ (¬ P → o = none)

theorem Holds.congr {o o' : Option Node} {P P' : Prop} {n : Node} (h : Holds o P n) (ho : o' = o)
    (hp : P' ↔ P) : Holds o' P' n :=
  ⟨fun hp' => ho ▸ h.1 (hp.mp hp'), fun hp' => ho ▸ h.2 (fun x => hp' (hp.mpr x))⟩

theorem Holds.intro_some {o : Option Node} {P : Prop} {n : Node} (ho : o = some n) (hp : P) : Holds o P n :=
  ⟨fun _ => ho, fun h => absurd hp h⟩

/-- the paths that may exist below `/metador_container` (relative to it) -/
inductive TocShape : Path → Prop
  | root : TocShape []
  | version : TocShape [.version]
  | uuid : TocShape [.uuid]
  | links : TocShape [.links]
  | linkDir (r) : TocShape [.links, .ep r]
  | link (r u) : TocShape [.links, .ep r, .link u]
  | schemas : TocShape [.schemas]
  | schemaDir (r) : TocShape [.schemas, .ep r]
  | json (r) : TocShape [.schemas, .ep r, .jsonschema]
  | compat (r) : TocShape [.schemas, .ep r, .compat]
  | packages : TocShape [.packages]
  | pkg (p) : TocShape [.packages, .pkg p]

/-- the package `pk` provides a registered schema -/
def RegP (e : Env) (U : SRef → Prop) (pk : PkgId) : Prop := ∃ r i, U r ∧ e.info r = some i ∧ i.pkg = pk

/-- The `/metador_container` subtree of `t` is exactly what the linked objects `L`
(`L p r u`: object at path `p`, schema `r`, uuid `u`) and the registered schemas `U` demand. -/
structure TocRaw (e : Env) (L : Path → SRef → Nat → Prop) (U : SRef → Prop) (t : Tree) : Prop where
  root : get? t tocP = some .grp
  ver : get? t versionP = some (.ds (.text "1.0"))
  uid : get? t uuidP = some (.ds (.text "uuid"))
  links : Holds (get? t linksP) (∃ p r u, L p r u) .grp
  ldir : ∀ r, Holds (get? t (linkDir r)) (∃ p u, L p r u) .grp
  link_some : ∀ p r u, L p r u → get? t (linkPath r u) = some (.ds (.target p))
  link_none : ∀ r u, (¬ ∃ p, L p r u) → get? t (linkPath r u) = none
  schemas : Holds (get? t schemasP) (∃ r, U r) .grp
  sdir : ∀ r, Holds (get? t (schemaDir r)) (U r) .grp
  json : ∀ r, Holds (get? t (schemaDir r ++ [.jsonschema])) (U r) (.ds (.jsonschema r))
  compat : ∀ r, Holds (get? t (schemaDir r ++ [.compat])) (U r) (.ds (.compat (ppath e r)))
  packages : Holds (get? t packagesP) (∃ r, U r) .grp
  pkg : ∀ pk, Holds (get? t (pkgPath pk)) (RegP e U pk) (.ds (.pkginfo pk (e.pkgPlugins pk)))
  shape : ∀ rest, get? t (.toc :: rest) ≠ none → TocShape rest

/-- The caches of `TOCSchemas` / `TOCPackages` are what the registered schemas `U` demand. -/
structure SchemaCache (e : Env) (U : SRef → Prop) (c : Caches) : Prop where
  schemas : ∀ r, r ∈ c.schemas ↔ U r
  schemas_nodup : c.schemas.Nodup
  index : IndexOK e U c.parents c.children
  pkginfos : ∀ pk pl, alGet c.pkginfos pk = some pl ↔ (RegP e U pk ∧ pl = e.pkgPlugins pk)
  providers : ∀ r ps, alGet c.providers r = some ps ↔ ∃ pk, ps = [pk] ∧ RegP e U pk ∧ r ∈ e.pkgPlugins pk
  /-- (`_used` keeps a stale empty entry for a package that was unregistered) -/
  used_dom : ∀ pk, RegP e U pk → (alGet c.used pk).isSome
  used_val : ∀ pk rs, alGet c.used pk = some rs → rs.Nodup ∧
    ∀ r, r ∈ rs ↔ (U r ∧ ∃ i, e.info r = some i ∧ i.pkg = pk)

/-- The cache of `TOCLinks` is what the linked objects demand. -/
def LinkCache (L : Path → SRef → Nat → Prop) (c : Caches) : Prop :=
  ∀ u tp, alGet c.tocPath u = some tp ↔ ∃ p r, L p r u ∧ tp = linkPath r u

/-- uuids identify linked objects -/
def LUniq (L : Path → SRef → Nat → Prop) : Prop :=
  ∀ p p' r r' u, L p r u → L p' r' u → p = p' ∧ r = r'

/-! the three parts of `TocRaw` -/
structure TocBase (t : Tree) : Prop where
  root : get? t tocP = some .grp
  ver : get? t versionP = some (.ds (.text "1.0"))
  uid : get? t uuidP = some (.ds (.text "uuid"))
  shape : ∀ rest, get? t (.toc :: rest) ≠ none → TocShape rest

structure TocLnk (L : Path → SRef → Nat → Prop) (t : Tree) : Prop where
  links : Holds (get? t linksP) (∃ p r u, L p r u) .grp
  ldir : ∀ r, Holds (get? t (linkDir r)) (∃ p u, L p r u) .grp
  link_some : ∀ p r u, L p r u → get? t (linkPath r u) = some (.ds (.target p))
  link_none : ∀ r u, (¬ ∃ p, L p r u) → get? t (linkPath r u) = none

structure TocSch (e : Env) (U : SRef → Prop) (t : Tree) : Prop where
  schemas : Holds (get? t schemasP) (∃ r, U r) .grp
  sdir : ∀ r, Holds (get? t (schemaDir r)) (U r) .grp
  json : ∀ r, Holds (get? t (schemaDir r ++ [.jsonschema])) (U r) (.ds (.jsonschema r))
  compat : ∀ r, Holds (get? t (schemaDir r ++ [.compat])) (U r) (.ds (.compat (ppath e r)))
  packages : Holds (get? t packagesP) (∃ r, U r) .grp
  pkg : ∀ pk, Holds (get? t (pkgPath pk)) (RegP e U pk) (.ds (.pkginfo pk (e.pkgPlugins pk)))

theorem tocRaw_iff {e : Env} {L : Path → SRef → Nat → Prop} {U : SRef → Prop} {t : Tree} :
    TocRaw e L U t ↔ (TocBase t ∧ TocLnk L t ∧ TocSch e U t) := by
  constructor
  · intro h
    exact ⟨⟨h.root, h.ver, h.uid, h.shape⟩, ⟨h.links, h.ldir, h.link_some, h.link_none⟩,
      ⟨h.schemas, h.sdir, h.json, h.compat, h.packages, h.pkg⟩⟩
  · rintro ⟨hb, hl, hs⟩
    exact ⟨hb.root, hb.ver, hb.uid, hl.links, hl.ldir, hl.link_some, hl.link_none,
      hs.schemas, hs.sdir, hs.json, hs.compat, hs.packages, hs.pkg, hb.shape⟩

theorem TocSch.frame {e : Env} {U : SRef → Prop} {t t' : Tree} (h : TocSch e U t)
    (hf : ∀ q, (schemasP <+: q ∨ packagesP <+: q) → get? t' q = get? t q) : TocSch e U t' := by
  refine ⟨?_, fun r => ?_, fun r => ?_, fun r => ?_, ?_, fun pk => ?_⟩
  · exact h.schemas.congr (hf _ (Or.inl (List.prefix_refl _))) Iff.rfl
  · exact (h.sdir r).congr (hf _ (Or.inl (by simp [schemasP, schemaDir]))) Iff.rfl
  · exact (h.json r).congr (hf _ (Or.inl (by simp [schemasP, schemaDir]))) Iff.rfl
  · exact (h.compat r).congr (hf _ (Or.inl (by simp [schemasP, schemaDir]))) Iff.rfl
  · exact h.packages.congr (hf _ (Or.inr (List.prefix_refl _))) Iff.rfl
  · exact (h.pkg pk).congr (hf _ (Or.inr (by simp [packagesP, pkgPath]))) Iff.rfl

theorem TocSch.congr {e : Env} {U U' : SRef → Prop} {t : Tree} (h : TocSch e U t) (hU : ∀ r, U' r ↔ U r) :
    TocSch e U' t := by
  have : U' = U := funext fun r => propext (hU r)
  rw [this]; exact h

theorem TocLnk.frame {L : Path → SRef → Nat → Prop} {t t' : Tree} (h : TocLnk L t)
    (hf : ∀ q, linksP <+: q → get? t' q = get? t q) : TocLnk L t' :=
  ⟨h.links.congr (hf _ (List.prefix_refl _)) Iff.rfl,
   fun r => (h.ldir r).congr (hf _ (by simp [linksP, linkDir])) Iff.rfl,
   fun p r u hL => (hf _ (by simp [linksP, linkPath])).trans (h.link_some p r u hL),
   fun r u hL => (hf _ (by simp [linksP, linkPath])).trans (h.link_none r u hL)⟩

/-- loop of `_add_providers` for a package `pk` that no registered package shares schemas with -/
theorem addProviders_spec {e : Env} (he : WFEnv e) (Q : PkgId → Prop) (pk : PkgId) :
    ∀ (l done : List SRef) (prov : List (SRef × List PkgId)),
      (∀ r ∈ l, r ∈ e.pkgPlugins pk) →
      (∀ r ps, alGet prov r = some ps ↔
        ((∃ pk', ps = [pk'] ∧ Q pk' ∧ pk' ≠ pk ∧ r ∈ e.pkgPlugins pk') ∨ (ps = [pk] ∧ r ∈ done))) →
      ∀ r ps, alGet (addProviders prov pk l) r = some ps ↔
        ((∃ pk', ps = [pk'] ∧ Q pk' ∧ pk' ≠ pk ∧ r ∈ e.pkgPlugins pk') ∨ (ps = [pk] ∧ r ∈ done ++ l))
  | [], done, prov, _, h => by simpa [addProviders] using h
  | x :: l, done, prov, hl, h => by
    simp only [addProviders]
    have hx : x ∈ e.pkgPlugins pk := hl x (by simp)
    have := addProviders_spec he Q pk l (done ++ [x])
      (alSet prov x (setAdd ((alGet prov x).getD []) pk)) (fun r hr => hl r (by simp [hr])) (by
        intro r ps
        rw [alGet_alSet]
        by_cases hr : r = x
        · subst hr
          simp only [if_true, Option.some.injEq, List.mem_append, List.mem_singleton, or_true, and_true]
          have hval : setAdd ((alGet prov r).getD []) pk = [pk] := by
            cases hg : alGet prov r with
            | none => simp [setAdd]
            | some ps0 =>
              rcases (h r ps0).mp hg with ⟨pk', -, -, hne, hmem⟩ | ⟨rfl, -⟩
              · exact absurd (he.disj _ _ _ hmem hx) hne
              · simp [setAdd]
          rw [hval]
          constructor
          · intro h'; exact Or.inr h'.symm
          · rintro (⟨pk', -, -, hne, hmem⟩ | h')
            · exact absurd (he.disj _ _ _ hmem hx) hne
            · exact h'.symm
        · simp only [hr, if_false, h r ps, List.mem_append, List.mem_singleton, or_false])
    intro r ps
    rw [this r ps]
    simp [List.append_assoc]

theorem isMid_head {p q : Path} (h : isMid [] p q = true) : q.head? = p.head? := by
  obtain ⟨hq, ⟨b, rfl⟩, -⟩ := isMid_nil_iff.mp h
  cases q with
  | nil => exact absurd rfl hq
  | cons x q => rfl

theorem rawCreate_frame {t t' : Tree} {p : Path} {n : Node} (h : rawCreate t p n = .ok t')
    (q : Path) (hq : q.head? ≠ p.head?) : get? t' q = get? t q := by
  by_cases hq0 : q = []
  · subst hq0; simp
  · rw [rawCreate_get? h q]
    have : q ≠ p := by rintro rfl; exact hq rfl
    rw [if_neg this]
    cases hg : get? t q with
    | some x => rfl
    | none =>
      have : isMid [] p q = false := by
        cases hm : isMid [] p q
        · rfl
        · exact absurd (isMid_head hm) hq
      simp [this]

theorem rawDel_frame {t t' : Tree} {p : Path} (h : rawDel t p = .ok t')
    (q : Path) (hq : q.head? ≠ p.head?) : get? t' q = get? t q := by
  by_cases hq0 : q = []
  · subst hq0; simp
  · rw [rawDel_get? h q]
    have : under p q = false := by
      cases hu : under p q
      · rfl
      · exfalso
        obtain ⟨hp, -, -⟩ := rawDel_inv h
        obtain ⟨b, rfl⟩ := under_iff.mp hu
        cases p with
        | nil => exact hp rfl
        | cons x p => exact hq rfl
    simp [this]

theorem TocRaw.congr {e : Env} {L L' : Path → SRef → Nat → Prop} {U U' : SRef → Prop} {t : Tree}
    (h : TocRaw e L U t) (hL : ∀ p r u, L' p r u ↔ L p r u) (hU : ∀ r, U' r ↔ U r) : TocRaw e L' U' t := by
  have e1 : L' = L := by funext p r u; exact propext (hL p r u)
  have e2 : U' = U := by funext r; exact propext (hU r)
  rw [e1, e2]; exact h

theorem SchemaCache.congr {e : Env} {U U' : SRef → Prop} {c : Caches}
    (h : SchemaCache e U c) (hU : ∀ r, U' r ↔ U r) : SchemaCache e U' c := by
  have e2 : U' = U := by funext r; exact propext (hU r)
  rw [e2]; exact h

theorem Holds.not_ds {o : Option Node} {P : Prop} (h : Holds o P .grp) (v : Val) : o ≠ some (.ds v) := by
  by_cases hp : P
  · rw [h.1 hp]; exact fun h => by cases h
  · rw [h.2 hp]; exact fun h => by cases h

@[simp] theorem forEachM_nil {α} (f : α → M Unit) : forEachM [] f = pure () := rfl
@[simp] theorem forEachM_cons {α} (a : α) (l : List α) (f : α → M Unit) :
    forEachM (a :: l) f = (do f a; forEachM l f) := rfl

/-- caches after `TOCSchemas._register(ref)` when the providing package is already registered -/
def regCachesOld (c : Caches) (ref : SRef) (i : SInfo) (cur : List SRef) : Caches :=
  { c with schemas := setAdd c.schemas ref,
           parents := (upcAdd ref c.parents c.children [] i.parents).1,
           children := (upcAdd ref c.parents c.children [] i.parents).2,
           used := alSet c.used i.pkg (setAdd cur ref) }

/-- caches after `TOCSchemas._register(ref)` when the providing package gets registered too -/
def regCachesNew (e : Env) (c : Caches) (ref : SRef) (i : SInfo) : Caches :=
  { c with schemas := setAdd c.schemas ref,
           parents := (upcAdd ref c.parents c.children [] i.parents).1,
           children := (upcAdd ref c.parents c.children [] i.parents).2,
           pkginfos := alSet c.pkginfos i.pkg (e.pkgPlugins i.pkg),
           providers := addProviders c.providers i.pkg (e.pkgPlugins i.pkg),
           used := alSet (alSet c.used i.pkg []) i.pkg (setAdd [] ref) }

theorem RegP_add {e : Env} {U : SRef → Prop} {ref : SRef} {i : SInfo} (hi : e.info ref = some i) (pk : PkgId) :
    RegP e (fun r => U r ∨ r = ref) pk ↔ (RegP e U pk ∨ pk = i.pkg) := by
  constructor
  · rintro ⟨r, j, hU | rfl, hj, rfl⟩
    · exact Or.inl ⟨r, j, hU, hj, rfl⟩
    · rw [hi] at hj; cases hj; exact Or.inr rfl
  · rintro (⟨r, j, hU, hj, rfl⟩ | rfl)
    · exact ⟨r, j, Or.inl hU, hj, rfl⟩
    · exact ⟨ref, i, Or.inr rfl, hi, rfl⟩

/-- lookups after creations: `N q` is the dataset written at `q`, and the paths in `G` are their ancestors,
made groups where they were missing -/
def AddP (t t' : Tree) (N : Path → Option Node) (G : Path → Prop) : Prop :=
  ∀ q, q ≠ [] → (∀ n, N q = some n → get? t' q = some n) ∧
    (N q = none → (G q → get? t' q = some ((get? t q).getD .grp)) ∧ (¬ G q → get? t' q = get? t q))

theorem AddP.of_create {t t' : Tree} {p : Path} {n : Node} (h : rawCreate t p n = .ok t') :
    AddP t t' (fun q => if q = p then some n else none) (fun q => isMid [] p q = true) := by
  intro q hq
  rw [rawCreate_get? h q]
  by_cases hqp : q = p
  · simp [hqp]
  · simp only [if_neg hqp, reduceCtorEq, false_imp_iff, implies_true, true_and, forall_const]
    cases get? t q <;> simp

theorem AddP.trans {t t1 t2 : Tree} {N1 N2 : Path → Option Node} {G1 G2 : Path → Prop}
    (h1 : AddP t t1 N1 G1) (h2 : AddP t1 t2 N2 G2) :
    AddP t t2 (fun q => (N2 q).orElse fun _ => N1 q) (fun q => G1 q ∨ G2 q) := by
  intro q hq
  obtain ⟨w1, k1⟩ := h1 q hq
  obtain ⟨w2, k2⟩ := h2 q hq
  dsimp only
  cases hN2 : N2 q with
  | some m => exact ⟨fun n hn => by cases hn; exact w2 m hN2, fun h => by cases h⟩
  | none =>
    simp only [Option.orElse_none]
    obtain ⟨g2, n2⟩ := k2 hN2
    refine ⟨fun m hm => ?_, fun hN1 => ?_⟩
    · by_cases hG2 : G2 q
      · rw [g2 hG2, w1 m hm]; rfl
      · rw [n2 hG2, w1 m hm]
    · obtain ⟨g1, n1⟩ := k1 hN1
      by_cases hG1 : G1 q <;> by_cases hG2 : G2 q <;> simp only [hG1, hG2, or_self, or_true, true_or,
        not_true_eq_false, not_false_eq_true, forall_const, false_imp_iff, and_true, true_and]
      · rw [g2 hG2, g1 hG1]; rfl
      · rw [n2 hG2, g1 hG1]
      · rw [g2 hG2, n1 hG1]
      · rw [n2 hG2, n1 hG1]

/-- what was there stays, unless a dataset is written over it -/
theorem AddP.old {t t' : Tree} {N : Path → Option Node} {G : Path → Prop} (ha : AddP t t' N G) {q : Path}
    {x : Node} (hq : q ≠ []) (hN : N q = none) (hx : get? t q = some x) : get? t' q = some x := by
  by_cases hG : G q
  · rw [((ha q hq).2 hN).1 hG, hx]; rfl
  · rw [((ha q hq).2 hN).2 hG, hx]

theorem AddP.keep {t t' : Tree} {N : Path → Option Node} {G : Path → Prop} (ha : AddP t t' N G) {q : Path}
    (hq : q ≠ []) (hN : N q = none) (hG : ¬ G q) : get? t' q = get? t q := ((ha q hq).2 hN).2 hG

theorem ite_some_orElse {α : Type} (c : Prop) [Decidable c] (x : α) (y : Option α) :
    ((if c then some x else none).orElse fun _ => y) = if c then some x else y := by
  split_ifs <;> rfl

theorem AddP.congr {t t' : Tree} {N N' : Path → Option Node} {G G' : Path → Prop} (ha : AddP t t' N G)
    (hN : ∀ q, N' q = N q) (hG : ∀ q, G' q ↔ G q) : AddP t t' N' G' := by
  rw [funext hN, funext fun q => propext (hG q)]; exact ha

theorem AddP.not_ds {t t' : Tree} {N : Path → Option Node} {G : Path → Prop} (ha : AddP t t' N G) {q : Path}
    (hq : q ≠ []) (hN : N q = none) (h : ∀ v, get? t q ≠ some (.ds v)) (v : Val) : get? t' q ≠ some (.ds v) := by
  cases hx : get? t q with
  | some x => rw [ha.old hq hN hx]; exact hx ▸ h v
  | none =>
    by_cases hG : G q
    · rw [((ha q hq).2 hN).1 hG, hx]; nofun
    · rw [ha.keep hq hN hG, hx]; nofun

theorem Holds.add_grp {t t' : Tree} {N : Path → Option Node} {G : Path → Prop} {q : Path} {P P' : Prop}
    (h : Holds (get? t q) P .grp) (ha : AddP t t' N G) (hq : q ≠ []) (hN : N q = none)
    (hP : P' ↔ P ∨ G q) : Holds (get? t' q) P' .grp := by
  by_cases hG : G q
  · refine Holds.intro_some ?_ (hP.mpr (Or.inr hG))
    rw [((ha q hq).2 hN).1 hG]
    by_cases hp : P
    · rw [h.1 hp]; rfl
    · rw [h.2 hp]; rfl
  · exact h.congr (ha.keep hq hN hG) (hP.trans (or_iff_left hG))

theorem Holds.add_ds {t t' : Tree} {N : Path → Option Node} {G : Path → Prop} {q : Path} {P P' : Prop} {n : Node}
    (h : Holds (get? t q) P n) (ha : AddP t t' N G) (hq : q ≠ []) (hG : ¬ G q)
    (hN : ∀ m, N q = some m → m = n) (hP : P' ↔ P ∨ (N q).isSome) : Holds (get? t' q) P' n := by
  cases hNq : N q with
  | none => exact h.congr (ha.keep hq hNq hG) (hP.trans (by simp [hNq]))
  | some m => exact Holds.intro_some (by rw [(ha q hq).1 m hNq, hN m hNq]) (hP.mpr (Or.inr (by simp [hNq])))

theorem TocBase.of_addP {t t' : Tree} {N : Path → Option Node} {G : Path → Prop} (hb : TocBase t)
    (ha : AddP t t' N G) (hk : N tocP = none ∧ N versionP = none ∧ N uuidP = none)
    (hNs : ∀ rest, (N (.toc :: rest)).isSome → TocShape rest) (hGs : ∀ rest, G (.toc :: rest) → TocShape rest) :
    TocBase t' := by
  refine ⟨ha.old (by simp [tocP]) hk.1 hb.root, ha.old (by simp [versionP]) hk.2.1 hb.ver,
    ha.old (by simp [uuidP]) hk.2.2 hb.uid, fun rest hne => ?_⟩
  cases hN : N (.toc :: rest) with
  | some m => exact hNs rest (by rw [hN]; rfl)
  | none =>
    by_cases hG : G (.toc :: rest)
    · exact hGs rest hG
    · exact hb.shape rest (by rw [← ha.keep (by simp) hN hG]; exact hne)

theorem alGet_some_of_isSome {α β : Type} [DecidableEq α] {l : List (α × β)} {a : α}
    (h : (alGet l a).isSome) : ∃ b, alGet l a = some b := by
  cases hg : alGet l a with
  | none => simp [hg] at h
  | some b => exact ⟨b, rfl⟩

/-- the two clauses about `_used` after the entry of the package of `ref` was replaced by `new`
(`U'` differs from `U` at `ref` only, and only schemas of that package are affected) -/
theorem used_update {e : Env} {U U' : SRef → Prop} {c : Caches} {ref : SRef} {i : SInfo}
    {used' : List (PkgId × List SRef)} {new : List SRef} (hi : e.info ref = some i) (hs : SchemaCache e U c)
    (hU : ∀ r, r ≠ ref → (U' r ↔ U r))
    (hget : ∀ pk, alGet used' pk = if pk = i.pkg then some new else alGet c.used pk) (hnd : new.Nodup)
    (hnew : ∀ r, r ∈ new ↔ (U' r ∧ ∃ j, e.info r = some j ∧ j.pkg = i.pkg)) :
    (∀ pk, RegP e U' pk → (alGet used' pk).isSome) ∧
    (∀ pk rs, alGet used' pk = some rs → rs.Nodup ∧
      ∀ r, r ∈ rs ↔ (U' r ∧ ∃ j, e.info r = some j ∧ j.pkg = pk)) := by
  have hoff : ∀ pk, pk ≠ i.pkg → ∀ r, (U' r ∧ ∃ j, e.info r = some j ∧ j.pkg = pk) ↔
      (U r ∧ ∃ j, e.info r = some j ∧ j.pkg = pk) := fun pk hpk r =>
    and_congr_left fun ⟨j, hj, hjp⟩ => hU r fun e' => hpk (by
      rw [e', hi] at hj; cases hj; exact hjp.symm)
  refine ⟨fun pk ⟨r, j, hr, hj, hjp⟩ => ?_, fun pk rs hrs => ?_⟩ <;> rw [hget] at * <;> by_cases hpk : pk = i.pkg
  · rw [if_pos hpk]; rfl
  · rw [if_neg hpk]
    exact hs.used_dom pk ⟨r, j, ((hoff pk hpk r).mp ⟨hr, j, hj, hjp⟩).1, hj, hjp⟩
  · rw [if_pos hpk] at hrs
    cases hrs
    exact ⟨hnd, hpk ▸ hnew⟩
  · rw [if_neg hpk] at hrs
    exact ⟨(hs.used_val pk rs hrs).1, fun r => ((hs.used_val pk rs hrs).2 r).trans (hoff pk hpk r).symm⟩

theorem schemaCache_regOld {e : Env} (he : WFEnv e) {U : SRef → Prop} {c : Caches} {ref : SRef} {i : SInfo}
    {cur : List SRef} (hi : e.info ref = some i) (hs : SchemaCache e U c) (hreg : RegP e U i.pkg)
    (hu : alGet c.used i.pkg = some cur) :
    SchemaCache e (fun r => U r ∨ r = ref) (regCachesOld c ref i cur) := by
  have hregiff : ∀ pk, RegP e (fun r => U r ∨ r = ref) pk ↔ RegP e U pk := fun pk =>
    (RegP_add hi pk).trans (or_iff_left_of_imp fun h => h ▸ hreg)
  have hused := used_update hi hs (fun r hr => or_iff_left hr)
    (fun pk => alGet_alSet c.used i.pkg (setAdd cur ref) pk) (nodup_setAdd (hs.used_val _ _ hu).1 _) fun r => by
      rw [mem_setAdd, (hs.used_val _ _ hu).2 r]
      exact ⟨fun h => h.elim (fun h => ⟨Or.inl h.1, h.2⟩) fun h => ⟨Or.inr h, i, h ▸ hi, rfl⟩,
        fun h => h.1.elim (fun hU => Or.inl ⟨hU, h.2⟩) Or.inr⟩
  constructor
  · intro r; simp [regCachesOld, mem_setAdd, hs.schemas r]
  · exact nodup_setAdd hs.schemas_nodup _
  · exact upcAdd_index he hi hs.index
  · intro pk pl; simp only [regCachesOld, hregiff]; exact hs.pkginfos pk pl
  · intro r ps; simp only [regCachesOld, hregiff]; exact hs.providers r ps
  · exact hused.1
  · exact hused.2

theorem schemaCache_regNew {e : Env} (he : WFEnv e) {U : SRef → Prop} {c : Caches} {ref : SRef} {i : SInfo}
    (hi : e.info ref = some i) (hs : SchemaCache e U c) (hreg : ¬ RegP e U i.pkg) :
    SchemaCache e (fun r => U r ∨ r = ref) (regCachesNew e c ref i) := by
  have hprov : ∀ r ps, alGet (addProviders c.providers i.pkg (e.pkgPlugins i.pkg)) r = some ps ↔
      ∃ pk, ps = [pk] ∧ RegP e (fun r => U r ∨ r = ref) pk ∧ r ∈ e.pkgPlugins pk := by
    intro r ps
    have := addProviders_spec he (RegP e U) i.pkg (e.pkgPlugins i.pkg) [] c.providers (fun _ h => h) (by
      intro r ps
      rw [hs.providers r ps]
      constructor
      · rintro ⟨pk, rfl, hpk, hmem⟩
        exact Or.inl ⟨pk, rfl, hpk, fun h => hreg (h ▸ hpk), hmem⟩
      · rintro (⟨pk, rfl, hpk, -, hmem⟩ | ⟨-, hmem⟩)
        · exact ⟨pk, rfl, hpk, hmem⟩
        · simp at hmem) r ps
    rw [this]
    simp only [List.nil_append]
    constructor
    · rintro (⟨pk, rfl, hpk, -, hmem⟩ | ⟨rfl, hmem⟩)
      · exact ⟨pk, rfl, (RegP_add hi pk).mpr (Or.inl hpk), hmem⟩
      · exact ⟨i.pkg, rfl, (RegP_add hi _).mpr (Or.inr rfl), hmem⟩
    · rintro ⟨pk, rfl, hpk, hmem⟩
      rcases (RegP_add hi pk).mp hpk with h | rfl
      · exact Or.inl ⟨pk, rfl, h, fun h' => hreg (h' ▸ h), hmem⟩
      · exact Or.inr ⟨rfl, hmem⟩
  have hused := used_update (used' := alSet (alSet c.used i.pkg []) i.pkg (setAdd [] ref)) (new := setAdd [] ref)
    hi hs (fun r hr => or_iff_left hr)
    (fun pk => by rw [alGet_alSet, alGet_alSet]; by_cases h : pk = i.pkg <;> simp [h]) (by simp [setAdd]) fun r => by
      simp only [setAdd, List.not_mem_nil, if_false, List.nil_append, List.mem_singleton]
      exact ⟨fun h => ⟨Or.inr h, i, h ▸ hi, rfl⟩,
        fun h => h.1.elim (fun hU => absurd ⟨r, h.2.choose, hU, h.2.choose_spec⟩ hreg) id⟩
  constructor
  · intro r; simp [regCachesNew, mem_setAdd, hs.schemas r]
  · exact nodup_setAdd hs.schemas_nodup _
  · exact upcAdd_index he hi hs.index
  · intro pk pl
    simp only [regCachesNew, alGet_alSet, RegP_add hi]
    by_cases hpk : pk = i.pkg
    · subst hpk
      simp only [if_true, Option.some.injEq, or_true, true_and]
      exact eq_comm
    · simp only [hpk, if_false, or_false]; exact hs.pkginfos pk pl
  · exact hprov
  · exact hused.1
  · exact hused.2

/-- what an operation on the TOC part guarantees for the rest of the state -/
structure TocStep (s s' : St) : Prop where
  keys : KeysOK s.raw → KeysOK s'.raw
  pclosed : PClosed s.raw → PClosed s'.raw
  frame : ∀ q, q.head? ≠ some .toc → get? s'.raw q = get? s.raw q
  next : s'.next = s.next

theorem TocStep.refl (s : St) : TocStep s s := ⟨id, id, fun _ _ => rfl, rfl⟩

theorem TocStep.trans {s1 s2 s3 : St} (h1 : TocStep s1 s2) (h2 : TocStep s2 s3) : TocStep s1 s3 :=
  ⟨fun h => h2.keys (h1.keys h), fun h => h2.pclosed (h1.pclosed h),
   fun q hq => (h2.frame q hq).trans (h1.frame q hq), h2.next.trans h1.next⟩

theorem TocStep.of_create {s : St} {p : Path} {n : Node} {t' : Tree} (h : rawCreate s.raw p n = .ok t')
    (hp : p.head? = some .toc) (c' : Caches) : TocStep s ⟨t', c', s.next⟩ :=
  ⟨rawCreate_keys h, rawCreate_pclosed h, fun q hq => rawCreate_frame h q (by rw [hp]; exact hq), rfl⟩

theorem TocStep.of_del {s : St} {p : Path} {t' : Tree} (h : rawDel s.raw p = .ok t')
    (hp : p.head? = some .toc) (c' : Caches) : TocStep s ⟨t', c', s.next⟩ :=
  ⟨rawDel_keys h, rawDel_pclosed h, fun q hq => rawDel_frame h q (by rw [hp]; exact hq), rfl⟩

section AddPaths
-- the path constants and `isMid` unfold under `simp` in this section: its many `(by simp)` side goals (two concrete
-- TOC paths differ, one is or is not a parent of the other) hold by this evaluation
attribute [local simp] tocP versionP uuidP linksP schemasP packagesP linkDir linkPath schemaDir pkgPath
  List.cons_prefix_cons isMid

/-- the link dataset written by `TOCLinks.register` -/
theorem tocRaw_addLink {e : Env} {L : Path → SRef → Nat → Prop} {U : SRef → Prop} {t t' : Tree}
    {ref : SRef} {u : Nat} {p0 : Path} (hr : TocRaw e L U t) (hfresh : ¬ ∃ p r, L p r u)
    (h : rawCreate t (linkPath ref u) (.ds (.target p0)) = .ok t') :
    TocRaw e (fun p r u' => L p r u' ∨ (p = p0 ∧ r = ref ∧ u' = u)) U t' := by
  obtain ⟨hb, hl, hs⟩ := tocRaw_iff.mp hr
  have ha := AddP.of_create h
  refine tocRaw_iff.mpr ⟨hb.of_addP ha (by simp) (fun rest hN => ?_) (fun rest hG => ?_),
    ⟨hl.links.add_grp ha (by simp) (by simp) (by simpa using ⟨p0, ref, u, Or.inr ⟨rfl, rfl, rfl⟩⟩),
     fun r => (hl.ldir r).add_grp ha (by simp) (by simp) ?_, fun p r u' hL => ?_, fun r u' hno => ?_⟩,
    hs.frame fun q hq => ?_⟩
  · have : rest = [.links, .ep ref, .link u] := by simpa using hN
    rw [this]; exact .link _ _
  · have : rest = [] ∨ rest = [.links] ∨ rest = [.links, .ep ref] := by simpa using hG
    rcases this with rfl | rfl | rfl
    exacts [.root, .links, .linkDir _]
  · simp only [linkDir, linkPath, isMid]
    constructor
    · rintro ⟨p, u', hL | ⟨-, rfl, -⟩⟩
      · exact Or.inl ⟨p, u', hL⟩
      · exact Or.inr (by simp)
    · rintro (⟨p, u', hL⟩ | hG)
      · exact ⟨p, u', Or.inl hL⟩
      · exact ⟨p0, u, Or.inr ⟨rfl, by simpa using hG, rfl⟩⟩
  · rcases hL with hL | ⟨rfl, rfl, rfl⟩
    · exact ha.old (by simp) (by
        have : ¬ (r = ref ∧ u' = u) := fun ⟨_, hu⟩ => hfresh ⟨p, r, hu ▸ hL⟩
        simpa using this) (hl.link_some p r u' hL)
    · exact (ha _ (by simp)).1 _ (by simp)
  · have hne : ¬ (r = ref ∧ u' = u) := fun ⟨hr', hu⟩ => hno ⟨p0, Or.inr ⟨rfl, hr', hu⟩⟩
    rw [ha.keep (by simp) (by simpa using hne) (by simp)]
    exact hl.link_none r u' fun ⟨p, hp⟩ => hno ⟨p, Or.inl hp⟩
  · rcases hq with ⟨c, rfl⟩ | ⟨c, rfl⟩ <;> exact ha.keep (by simp) (by simp) (by simp)

/-- the TOC after `TOCSchemas._register` of a new schema; `b`: the package record was written too -/
theorem tocRaw_register {e : Env} {L : Path → SRef → Nat → Prop} {U : SRef → Prop} {t t' : Tree}
    {ref : SRef} {i : SInfo} {b : Bool} (hi : e.info ref = some i) (hr : TocRaw e L U t) (hnew : ¬ U ref)
    (hb : b = true ↔ ¬ RegP e U i.pkg)
    (ha : AddP t t'
      (fun q => if b = true ∧ q = pkgPath i.pkg then some (.ds (.pkginfo i.pkg (e.pkgPlugins i.pkg)))
        else if q = schemaDir ref ++ [.compat] then some (.ds (.compat i.parents))
        else if q = schemaDir ref ++ [.jsonschema] then some (.ds (.jsonschema ref)) else none)
      (fun q => (q = tocP ∨ q = schemasP ∨ q = schemaDir ref) ∨ (b = true ∧ (q = tocP ∨ q = packagesP)))) :
    TocRaw e L (fun r => U r ∨ r = ref) t' := by
  obtain ⟨hbase, hl, hs⟩ := tocRaw_iff.mp hr
  have hpp : ppath e ref = i.parents := ppath_eq hi
  refine tocRaw_iff.mpr ⟨hbase.of_addP ha (by simp) (fun rest hN => ?_) (fun rest hG => ?_),
    hl.frame fun q hq => ?_, ⟨?_, fun r => ?_, fun r => ?_, fun r => ?_, ?_, fun pk => ?_⟩⟩
  · split_ifs at hN with h1 h2 h3
    · obtain rfl : rest = [.packages, .pkg i.pkg] := by simpa using h1.2
      exact .pkg _
    · obtain rfl : rest = [.schemas, .ep ref, .compat] := by simpa using h2
      exact .compat _
    · obtain rfl : rest = [.schemas, .ep ref, .jsonschema] := by simpa using h3
      exact .json _
    · cases hN
  · rcases hG with (h | h | h) | ⟨-, h | h⟩
    · obtain rfl : rest = [] := by simpa using h
      exact .root
    · obtain rfl : rest = [.schemas] := by simpa using h
      exact .schemas
    · obtain rfl : rest = [.schemas, .ep ref] := by simpa using h
      exact .schemaDir _
    · obtain rfl : rest = [] := by simpa using h
      exact .root
    · obtain rfl : rest = [.packages] := by simpa using h
      exact .packages
  · obtain ⟨c, rfl⟩ := hq
    exact ha.keep (by simp) (by simp) (by simp)
  · exact hs.schemas.add_grp ha (by simp) (by simp) ⟨fun _ => Or.inr (by simp), fun _ => ⟨ref, Or.inr rfl⟩⟩
  · exact (hs.sdir r).add_grp ha (by simp) (by simp) (or_congr_right (by simp))
  · refine (hs.json r).add_ds ha (by simp) (by simp) (fun m hm => ?_) (or_congr_right ?_)
    · by_cases hrr : r = ref
      · subst hrr; simpa using hm.symm
      · simp [hrr] at hm
    · by_cases hrr : r = ref <;> simp [hrr]
  · refine (hs.compat r).add_ds ha (by simp) (by simp) (fun m hm => ?_) (or_congr_right ?_)
    · by_cases hrr : r = ref
      · subst hrr; simpa [hpp] using hm.symm
      · simp [hrr] at hm
    · by_cases hrr : r = ref <;> simp [hrr]
  · refine hs.packages.add_grp ha (by simp) (by simp) ⟨fun _ => ?_, fun _ => ⟨ref, Or.inr rfl⟩⟩
    by_cases hreg : RegP e U i.pkg
    · obtain ⟨r, _, hUr, _⟩ := hreg
      exact Or.inl ⟨r, hUr⟩
    · exact Or.inr (by simp [hb.mpr hreg])
  · refine (hs.pkg pk).add_ds ha (by simp) (by simp) (fun m hm => ?_) ?_
    · by_cases hpk : b = true ∧ pk = i.pkg
      · obtain ⟨hbt, rfl⟩ := hpk; simpa [hbt] using hm.symm
      · simp [hpk] at hm
    · rw [RegP_add hi]
      constructor
      · rintro (h | rfl)
        · exact Or.inl h
        · by_cases hbt : b = true
          · exact Or.inr (by simp [hbt])
          · exact Or.inl (by_contra fun hn => hbt (hb.mpr hn))
      · rintro (h | h)
        · exact Or.inl h
        · refine Or.inr ?_
          by_contra hn
          simp [hn] at h

/-- `TOCSchemas._register(ref)` -/
theorem schemaRegister_spec {e : Env} (he : WFEnv e) {L : Path → SRef → Nat → Prop} {U : SRef → Prop}
    {s : St} {ref : SRef} {i : SInfo} (hi : e.info ref = some i)
    (hr : TocRaw e L U s.raw) (hs : SchemaCache e U s.c) :
    ∃ s', schemaRegister e ref s = (.ok (), s') ∧
      TocRaw e L (fun r => U r ∨ r = ref) s'.raw ∧ SchemaCache e (fun r => U r ∨ r = ref) s'.c ∧
      s'.c.tocPath = s.c.tocPath ∧ TocStep s s' := by
  by_cases hU : U ref
  · -- already in use: nothing happens
    have hmem : ref ∈ s.c.schemas := (hs.schemas ref).mpr hU
    have hUiff : ∀ r, (U r ∨ r = ref) ↔ U r := fun r => or_iff_left_of_imp fun h => h ▸ hU
    exact ⟨s, by simp [schemaRegister, hmem], hr.congr (fun _ _ _ => Iff.rfl) hUiff, hs.congr hUiff, rfl,
      TocStep.refl s⟩
  · have hnmem : ref ∉ s.c.schemas := fun h => hU ((hs.schemas ref).mp h)
    have hmid : ∀ q, q = tocP ∨ q = schemasP ∨ q = schemaDir ref ∨ q = packagesP →
        ∀ v, get? s.raw q ≠ some (.ds v) := by
      rintro q (rfl | rfl | rfl | rfl) v
      · rw [hr.root]; nofun
      · exact hr.schemas.not_ds v
      · exact (hr.sdir ref).not_ds v
      · exact hr.packages.not_ds v
    -- the ancestors of the three datasets written
    have hmS : ∀ {q k}, isMid [] (schemaDir ref ++ [k]) q = true → q = tocP ∨ q = schemasP ∨ q = schemaDir ref :=
      fun hm => by simpa using hm
    have hmP : ∀ {q}, isMid [] (pkgPath i.pkg) q = true → q = tocP ∨ q = packagesP := fun hm => by simpa using hm
    obtain ⟨t1, h1⟩ := rawCreate_ok (t := s.raw) (p := schemaDir ref ++ [.jsonschema]) (n := .ds (.jsonschema ref))
      (by simp) ((hr.json ref).2 hU) fun q v hm => hmid q (by rcases hmS hm with h | h | h <;> simp [h]) v
    have ha1 := AddP.of_create h1
    obtain ⟨t2, h2⟩ := rawCreate_ok (t := t1) (p := schemaDir ref ++ [.compat]) (n := .ds (.compat i.parents))
      (by simp) (by rw [ha1.keep (by simp) (by simp) (by simp)]; exact (hr.compat ref).2 hU) fun q v hm =>
        ha1.not_ds (isMid_ne_nil hm) (by rcases hmS hm with h | h | h <;> simp [h])
          (hmid q (by rcases hmS hm with h | h | h <;> simp [h])) v
    have ha2 := ha1.trans (AddP.of_create h2)
    have step12 : TocStep s ⟨t2, s.c, s.next⟩ :=
      (TocStep.of_create h1 (by simp) s.c).trans (TocStep.of_create (s := ⟨t1, s.c, s.next⟩) h2 (by simp) s.c)
    by_cases hreg : RegP e U i.pkg
    · -- the providing package is registered already
      have hp : alGet s.c.providers ref = some [i.pkg] :=
        (hs.providers ref [i.pkg]).mpr ⟨i.pkg, rfl, hreg, he.prov ref i hi⟩
      obtain ⟨cur, hu⟩ := alGet_some_of_isSome (hs.used_dom i.pkg hreg)
      exact ⟨⟨t2, regCachesOld s.c ref i cur, s.next⟩, by simp [schemaRegister, hnmem, hi, run_liftRaw, h1, h2, hp, hu, regCachesOld, -schemaDir],
        tocRaw_register (b := false) hi hr hU (by simp [hreg])
          (ha2.congr (fun q => by simp only [Bool.false_eq_true, false_and, if_false, ite_some_orElse])
            fun q => by simp),
        schemaCache_regOld he hi hs hreg hu, rfl, step12.keys, step12.pclosed, step12.frame, rfl⟩
    · -- the package record is written as well
      have hp : alGet s.c.providers ref = none := by
        cases hg : alGet s.c.providers ref with
        | none => rfl
        | some ps =>
          obtain ⟨pk, -, hpk, hmem⟩ := (hs.providers ref ps).mp hg
          have := he.disj _ _ _ hmem (he.prov ref i hi)
          exact absurd (this ▸ hpk) hreg
      obtain ⟨t3, h3⟩ := rawCreate_ok (t := t2) (p := pkgPath i.pkg)
        (n := .ds (.pkginfo i.pkg (e.pkgPlugins i.pkg))) (by simp)
        (by rw [ha2.keep (by simp) (by simp) (by simp)]; exact (hr.pkg i.pkg).2 hreg) fun q v hm =>
          ha2.not_ds (isMid_ne_nil hm) (by rcases hmP hm with h | h <;> simp [h])
            (hmid q (by rcases hmP hm with h | h <;> simp [h])) v
      have hcache := schemaCache_regNew he hi hs hreg
      have hp' : alGet (addProviders s.c.providers i.pkg (e.pkgPlugins i.pkg)) ref = some [i.pkg] :=
        (hcache.providers ref [i.pkg]).mpr ⟨i.pkg, rfl, (RegP_add hi _).mpr (Or.inr rfl), he.prov ref i hi⟩
      exact ⟨⟨t3, regCachesNew e s.c ref i, s.next⟩, by simp [schemaRegister, hnmem, hi, run_liftRaw, h1, h2, hp, h3, hp', pkgRegister, regCachesNew, alGet_alSet, -schemaDir, -pkgPath],
        tocRaw_register (b := true) hi hr hU (by simp [hreg])
          ((ha2.trans (AddP.of_create h3)).congr
            (fun q => by simp only [true_and, ite_some_orElse]) fun q => by simp),
        hcache, rfl,
        step12.trans (TocStep.of_create (s := ⟨t2, s.c, s.next⟩) h3 (by simp) (regCachesNew e s.c ref i))⟩

end AddPaths

/-- `TOCLinks.register(obj)` -/
theorem linkRegister_spec {e : Env} (he : WFEnv e) {L : Path → SRef → Nat → Prop} {U : SRef → Prop}
    {s : St} {ref : SRef} {i : SInfo} {u : Nat} {p0 : Path} (hi : e.info ref = some i)
    (hr : TocRaw e L U s.raw) (hs : SchemaCache e U s.c) (hl : LinkCache L s.c)
    (hfresh : ¬ ∃ p r, L p r u) :
    ∃ s', linkRegister e ref u p0 s = (.ok (), s') ∧
      TocRaw e (fun p r u' => L p r u' ∨ (p = p0 ∧ r = ref ∧ u' = u)) (fun r => U r ∨ r = ref) s'.raw ∧
      SchemaCache e (fun r => U r ∨ r = ref) s'.c ∧
      LinkCache (fun p r u' => L p r u' ∨ (p = p0 ∧ r = ref ∧ u' = u)) s'.c ∧ TocStep s s' := by
  obtain ⟨s1, hrun, hr1, hs1, htp, hstep⟩ := schemaRegister_spec he hi hr hs
  have hnone : get? s1.raw (linkPath ref u) = none := hr1.link_none ref u (fun ⟨p, hp⟩ => hfresh ⟨p, ref, hp⟩)
  obtain ⟨t2, h2⟩ := rawCreate_ok (t := s1.raw) (p := linkPath ref u) (n := .ds (.target p0))
    (by simp [linkPath]) hnone (by
      intro q v hm
      simp only [linkPath, isMid, List.nil_append, Bool.or_false, Bool.or_eq_true, beq_iff_eq] at hm
      rcases hm with rfl | rfl | rfl
      · have := hr1.root; simp only [tocP] at this; rw [this]; exact fun h => by cases h
      · exact hr1.links.not_ds v
      · exact (hr1.ldir ref).not_ds v)
  refine ⟨⟨t2, { s1.c with tocPath := alSet s1.c.tocPath u (linkPath ref u) }, s1.next⟩, ?_,
    tocRaw_addLink hr1 hfresh h2, ?_, ?_, ?_⟩
  · simp [linkRegister, hrun, run_liftRaw, h2]
  · exact ⟨hs1.schemas, hs1.schemas_nodup, hs1.index, hs1.pkginfos, hs1.providers, hs1.used_dom, hs1.used_val⟩
  · intro u' tp
    show alGet (alSet s1.c.tocPath u (linkPath ref u)) u' = some tp ↔ _
    rw [alGet_alSet, htp]
    by_cases hu : u' = u
    · subst hu
      rw [if_pos rfl]
      constructor
      · intro h; cases h; exact ⟨p0, ref, Or.inr ⟨rfl, rfl, rfl⟩, rfl⟩
      · rintro ⟨p, r, hL | ⟨-, rfl, -⟩, rfl⟩
        · exact absurd ⟨p, r, hL⟩ hfresh
        · rfl
    · rw [if_neg hu, hl u' tp]
      constructor
      · rintro ⟨p, r, hL, rfl⟩; exact ⟨p, r, Or.inl hL, rfl⟩
      · rintro ⟨p, r, hL | ⟨-, -, h⟩, rfl⟩
        · exact ⟨p, r, hL, rfl⟩
        · exact absurd h hu
  · exact hstep.trans (TocStep.of_create (s := s1) h2 (by simp [linkPath]) _)

/-- the removing loop keeps `IndexWith` while the list of ancestors still to be visited shrinks to `[]`; an entry
is dropped from the tables when no used schema other than `ref` needs it -/
theorem upcRemove_rem (e : Env) (he : WFEnv e) (U' : SRef → Prop) (ref : SRef)
    (hUref : ¬ U' ref) (hUenv : ∀ r, U' r → ∃ i, e.info r = some i)
    (schemas : List SRef) (hsch : ∀ r, r ∈ schemas ↔ U' r) :
    ∀ (rest : List SRef) (par chi : List (SRef × List SRef)),
      rest.Nodup → IndexWith e U' ref rest par chi →
      ∃ par' chi', upcRemove ref schemas par chi rest = .ok (par', chi') ∧ IndexWith e U' ref [] par' chi'
  | [], par, chi, _, hm => ⟨par, chi, rfl, hm⟩
  | p :: rest, par, chi, hnd, hm => by
    have hprest : p ∉ rest := (List.nodup_cons.mp hnd).1
    have hndr : rest.Nodup := (List.nodup_cons.mp hnd).2
    obtain ⟨cs, hcs⟩ := alGet_some_of_isSome ((hm.dom p).mpr (Or.inr (by simp)))
    obtain ⟨hcsnd, hcsmem⟩ := hm.chi_val p cs hcs
    simp only [upcRemove, hcs]
    -- children[p] after discarding `ref`
    set cs' := if p ≠ ref then setRemove cs ref else cs with hcs'
    have hcs'mem : ∀ S, S ∈ cs' ↔ (U' S ∧ p ∈ ppath e S ∧ S ≠ p) := by
      intro S
      by_cases hp : p ≠ ref
      · rw [hcs', if_pos hp, mem_setRemove, hcsmem S]
        exact ⟨fun h => h.1.resolve_right fun h' => h.2 h'.1, fun h => ⟨Or.inl h, fun hS => hUref (hS ▸ h.1)⟩⟩
      · rw [hcs', if_neg hp, hcsmem S]
        exact or_iff_left fun h => hp h.2.2
    have hcs'nd : cs'.Nodup := by
      rw [hcs']; split_ifs
      · exact nodup_setRemove hcsnd _
      · exact hcsnd
    have hchi1_get : ∀ x, alGet (if p ≠ ref then alSet chi p cs' else chi) x =
        if x = p then some cs' else alGet chi x := by
      intro x
      by_cases hp : p ≠ ref
      · rw [if_pos hp, alGet_alSet]
      · rw [if_neg hp]
        by_cases hx : x = p
        · rw [if_pos hx, hx, hcs, hcs', if_neg hp]
        · rw [if_neg hx]
    have hD : ∀ P, P ≠ p → (P ∈ rest ↔ P ∈ p :: rest) := fun P hP => by simp [hP]
    have hcv : ∀ cs0, some cs' = some cs0 → cs0.Nodup ∧
        ∀ S, S ∈ cs0 ↔ ((U' S ∧ p ∈ ppath e S ∧ S ≠ p) ∨ (S = ref ∧ p ∈ rest ∧ p ≠ ref)) := fun cs0 h0 => by
      cases h0
      exact ⟨hcs'nd, fun S => (hcs'mem S).trans (or_iff_left fun h => hprest h.2.1).symm⟩
    -- the index with `p` kept
    have keep : (∃ S, U' S ∧ p ∈ ppath e S) →
        IndexWith e U' ref rest par (if p ≠ ref then alSet chi p cs' else chi) := fun hex =>
      hm.update p hD (fun _ _ => rfl) (fun P hP => by rw [hchi1_get, if_neg hP])
        (by rw [hchi1_get, if_pos rfl]; exact ⟨fun _ => Or.inl hex, fun _ => rfl⟩)
        (by rw [hchi1_get, if_pos rfl]; exact ⟨fun _ => rfl, fun _ => (hm.domp p).mpr (by rw [hcs]; rfl)⟩)
        (hm.par_val p) (fun cs0 h0 => hcv cs0 (by rw [hchi1_get, if_pos rfl] at h0; exact h0))
    -- the index with `p` dropped
    have drop : (¬ ∃ S, U' S ∧ p ∈ ppath e S) →
        IndexWith e U' ref rest (alErase par p) (alErase (if p ≠ ref then alSet chi p cs' else chi) p) :=
      fun hnex =>
      hm.update p hD (fun P hP => by rw [alGet_alErase, if_neg hP])
        (fun P hP => by rw [alGet_alErase, if_neg hP, hchi1_get, if_neg hP])
        (by rw [alGet_alErase, if_pos rfl]
            exact ⟨fun h => (Bool.false_ne_true h).elim, fun h => h.elim (fun h => (hnex h).elim) fun h => (hprest h).elim⟩)
        (by rw [alGet_alErase, alGet_alErase, if_pos rfl, if_pos rfl])
        (fun l hl => by rw [alGet_alErase, if_pos rfl] at hl; cases hl)
        (fun cs0 h0 => by rw [alGet_alErase, if_pos rfl] at h0; cases h0)
    by_cases hpU : p ∈ schemas
    · -- `p` itself is still in use
      simp only [hpU, if_true]
      have hex : ∃ S, U' S ∧ p ∈ ppath e S := by
        have hU := (hsch p).mp hpU
        obtain ⟨i, hi⟩ := hUenv p hU
        exact ⟨p, hU, mem_ppath_self he hi⟩
      exact upcRemove_rem e he U' ref hUref hUenv schemas hsch rest par _ hndr (keep hex)
    · simp only [hpU, if_false]
      by_cases hall : cs'.all (fun ch => ch ∉ schemas) = true
      · -- no used descendant left: the entry goes
        simp only [hall, if_true]
        have hparp : (alGet par p).isNone = false := by
          have := (hm.domp p).mpr (by rw [hcs]; rfl)
          cases hx : alGet par p with
          | none => rw [hx] at this; cases this
          | some l => rfl
        simp only [hparp, Bool.false_eq_true, if_false]
        have hnex : ¬ ∃ S, U' S ∧ p ∈ ppath e S := by
          rintro ⟨S, hS, hmem⟩
          have hne : S ≠ p := by rintro rfl; exact hpU ((hsch S).mpr hS)
          have hin : S ∈ cs' := (hcs'mem S).mpr ⟨hS, hmem, hne⟩
          have := List.all_eq_true.mp hall S hin
          simp only [decide_eq_true_eq] at this
          exact this ((hsch S).mpr hS)
        exact upcRemove_rem e he U' ref hUref hUenv schemas hsch rest _ _ hndr (drop hnex)
      · simp only [hall, if_false, Bool.false_eq_true]
        have hex : ∃ S, U' S ∧ p ∈ ppath e S := by
          simp only [List.all_eq_true, decide_eq_true_eq, not_forall, Classical.not_not] at hall
          obtain ⟨S, hin, hS⟩ := hall
          exact ⟨S, (hsch S).mp (by simpa using hS), ((hcs'mem S).mp hin).2.1⟩
        exact upcRemove_rem e he U' ref hUref hUenv schemas hsch rest par _ hndr (keep hex)

/-- `_update_parents_children(ref, None)` turns the index for `U` into the index for `U \ {ref}` -/
theorem upcRemove_index {e : Env} (he : WFEnv e) {U : SRef → Prop} {ref : SRef} {i : SInfo}
    (hi : e.info ref = some i) (hUenv : ∀ r, U r → ∃ i, e.info r = some i)
    {par chi : List (SRef × List SRef)} (h : IndexOK e U par chi) (hU : U ref)
    (schemas : List SRef) (hsch : ∀ r, r ∈ schemas ↔ (U r ∧ r ≠ ref)) :
    ∃ par' chi', upcRemove ref schemas par chi i.parents = .ok (par', chi') ∧
      IndexOK e (fun r => U r ∧ r ≠ ref) par' chi' := by
  have h' : IndexOK e (fun S => (U S ∧ S ≠ ref) ∨ S = ref) par chi := h.congr fun S =>
    ⟨fun h => h.elim And.left (· ▸ hU), fun h => (Classical.em (S = ref)).elim Or.inr fun hne => Or.inl ⟨h, hne⟩⟩
  obtain ⟨par', chi', hrun, hm'⟩ := upcRemove_rem e he (fun r => U r ∧ r ≠ ref) ref (fun h => h.2 rfl)
    (fun r hr => hUenv r hr.1) schemas hsch i.parents par chi (he.nodup ref i hi) ((indexWith_all hi).mpr h')
  exact ⟨par', chi', hrun, indexWith_nil.mp hm'⟩

/-- loop of `TOCPackages._unregister` over the plugin list of `pk` -/
theorem removeProviders_spec {e : Env} (he : WFEnv e) (Q : PkgId → Prop) (pk : PkgId) :
    ∀ (l : List SRef) (prov : List (SRef × List PkgId)),
      l.Nodup → (∀ r ∈ l, r ∈ e.pkgPlugins pk) →
      (∀ r ps, alGet prov r = some ps ↔
        ((∃ pk', ps = [pk'] ∧ Q pk' ∧ pk' ≠ pk ∧ r ∈ e.pkgPlugins pk') ∨ (ps = [pk] ∧ r ∈ l))) →
      ∃ prov', removeProviders prov pk l = .ok prov' ∧
        ∀ r ps, alGet prov' r = some ps ↔ (∃ pk', ps = [pk'] ∧ Q pk' ∧ pk' ≠ pk ∧ r ∈ e.pkgPlugins pk')
  | [], prov, _, _, h => ⟨prov, rfl, fun r ps => by simpa using h r ps⟩
  | x :: l, prov, hnd, hl, h => by
    have hx : alGet prov x = some [pk] := (h x [pk]).mpr (Or.inr ⟨rfl, by simp⟩)
    have hxl : x ∉ l := (List.nodup_cons.mp hnd).1
    simp only [removeProviders, hx, List.mem_singleton, not_true_eq_false, if_false, setRemove,
      List.filter_cons, ne_eq, decide_false, Bool.false_eq_true, List.filter_nil, List.isEmpty_nil, if_true]
    apply removeProviders_spec he Q pk l (alErase prov x) (List.nodup_cons.mp hnd).2 (fun r hr => hl r (by simp [hr]))
    intro r ps
    rw [alGet_alErase]
    by_cases hr : r = x
    · subst hr
      simp only [if_true, hxl, and_false, or_false]
      constructor
      · intro h; cases h
      · rintro ⟨pk', -, -, hne, hmem⟩
        exact absurd (he.disj _ _ _ hmem (hl r (by simp))) hne
    · simp only [hr, if_false, h r ps, List.mem_cons, false_or]

theorem children_isEmpty_iff {t : Tree} (hk : KeysOK t) (p : Path) :
    (children t p).isEmpty = true ↔ ∀ k, get? t (p ++ [k]) = none := by
  rw [List.isEmpty_iff]
  constructor
  · intro h k
    cases hg : get? t (p ++ [k]) with
    | none => rfl
    | some n =>
      have := (mem_children hk).mpr hg
      rw [h] at this; simp at this
  · intro h
    apply List.eq_nil_iff_forall_not_mem.mpr
    rintro ⟨k, n⟩ hm
    have := (mem_children hk).mp hm
    rw [h k] at this; cases this

theorem children_isEmpty_false {t : Tree} (hk : KeysOK t) {p : Path} {k : Key}
    (h : get? t (p ++ [k]) ≠ none) : (children t p).isEmpty = false := by
  cases hx : (children t p).isEmpty
  · rfl
  · exact absurd ((children_isEmpty_iff hk p).mp hx k) h

/-- lookups after deleting the subtrees rooted at the paths in `D` -/
def DelGet (t t' : Tree) (D : List Path) : Prop :=
  ∀ q, q ≠ [] → get? t' q = if D.any (fun d => under d q) then none else get? t q

theorem DelGet.nil (t : Tree) : DelGet t t [] := fun q _ => by simp

theorem DelGet.of_del {t t' : Tree} {p : Path} (h : rawDel t p = .ok t') : DelGet t t' [p] := by
  intro q hq
  rw [rawDel_get? h q]
  simp

theorem DelGet.trans {t t1 t2 : Tree} {D1 D2 : List Path} (h1 : DelGet t t1 D1) (h2 : DelGet t1 t2 D2) :
    DelGet t t2 (D1 ++ D2) := by
  intro q hq
  rw [h2 q hq, h1 q hq, List.any_append]
  cases D2.any (fun d => under d q) <;> cases D1.any (fun d => under d q) <;> simp

/-- caches after the first half of `TOCSchemas._unregister` -/
def unregCaches (c : Caches) (ref : SRef) (par chi : List (SRef × List SRef)) (pk : PkgId) (cur : List SRef) : Caches :=
  { c with schemas := setRemove c.schemas ref, parents := par, children := chi,
           used := alSet c.used pk (setRemove cur ref) }

theorem schemaUnregister_run {ref : SRef} {s : St} {t1 : Tree} {ps cur : List SRef}
    {par chi : List (SRef × List SRef)} {pk : PkgId} (s3 : St)
    (h1 : rawDel s.raw (schemaDir ref) = .ok t1)
    (hmem : ref ∈ s.c.schemas)
    (hps : alGet s.c.parents ref = some ps)
    (hupc : upcRemove ref (setRemove s.c.schemas ref) s.c.parents s.c.children ps = .ok (par, chi))
    (hprov : alGet s.c.providers ref = some [pk])
    (hcur : alGet s.c.used pk = some cur)
    (h3 : (if (setRemove cur ref).isEmpty then pkgUnregister pk else pure ())
      ⟨t1, unregCaches s.c ref par chi pk cur, s.next⟩ = (.ok (), s3)) :
    schemaUnregister ref s =
      (if (children s3.raw schemasP).isEmpty then liftRaw (fun t => rawDel t schemasP) else pure ()) s3 := by
  simp only [unregCaches] at h3
  simp [schemaUnregister, run_liftRaw, h1, hmem, hps, hupc, hprov, hcur]
  by_cases hc : setRemove cur ref = []
  · simp only [hc, List.isEmpty_nil, if_true] at h3
    simp [hc, h3]
  · have : (setRemove cur ref).isEmpty = false := by simpa using hc
    simp only [this, Bool.false_eq_true, if_false, run_pure, Prod.mk.injEq, true_and] at h3
    subst h3
    simp [hc]

theorem TocBase.sub {t t' : Tree} (h : TocBase t)
    (hsub : ∀ q, get? t' q = none ∨ get? t' q = get? t q)
    (hkeep : ∀ q, q = tocP ∨ q = versionP ∨ q = uuidP → get? t' q = get? t q) : TocBase t' := by
  refine ⟨?_, ?_, ?_, fun rest hne => ?_⟩
  · rw [hkeep _ (Or.inl rfl)]; exact h.root
  · rw [hkeep _ (Or.inr (Or.inl rfl))]; exact h.ver
  · rw [hkeep _ (Or.inr (Or.inr rfl))]; exact h.uid
  · rcases hsub (.toc :: rest) with h' | h'
    · exact absurd h' hne
    · exact h.shape rest (h' ▸ hne)

theorem under_false_of_not_prefix {p q : Path} (h : ¬ p <+: q) : under p q = false := by
  cases hu : under p q
  · rfl
  · exact absurd (under_iff.mp hu) h

/-- lookups after the subtrees at the paths satisfying `D` were deleted -/
def DelP (t t' : Tree) (D : Path → Prop) : Prop :=
  ∀ q, q ≠ [] → (D q → get? t' q = none) ∧ (¬ D q → get? t' q = get? t q)

theorem DelP.of_del {t t' : Tree} {p : Path} (h : rawDel t p = .ok t') : DelP t t' (p <+: ·) := fun q hq => by
  rw [rawDel_get? h q]
  exact ⟨fun hd => by rw [under_iff.mpr hd, if_pos rfl],
    fun hd => by rw [under_false_of_not_prefix hd, if_neg Bool.false_ne_true]⟩

theorem DelP.trans {t t1 t2 : Tree} {D1 D2 : Path → Prop} (h1 : DelP t t1 D1) (h2 : DelP t1 t2 D2) :
    DelP t t2 (fun q => D1 q ∨ D2 q) := fun q hq =>
  ⟨fun hd => (Classical.em (D2 q)).elim (h2 q hq).1 fun n2 =>
      ((h2 q hq).2 n2).trans ((h1 q hq).1 (hd.resolve_right n2)),
   fun hd => ((h2 q hq).2 fun d => hd (Or.inr d)).trans ((h1 q hq).2 fun d => hd (Or.inl d))⟩

theorem DelP.congr {t t' : Tree} {D D' : Path → Prop} (h : DelP t t' D) (hD : ∀ q, D' q ↔ D q) :
    DelP t t' D' := fun q hq =>
  ⟨fun d => (h q hq).1 ((hD q).mp d), fun d => (h q hq).2 fun d' => d ((hD q).mpr d')⟩

theorem DelP.keep {t t' : Tree} {D : Path → Prop} (h : DelP t t' D) {q : Path} (hq : ¬ D q) :
    get? t' q = get? t q := by
  by_cases h0 : q = []
  · subst h0; simp
  · exact (h q h0).2 hq

theorem DelP.sub {t t' : Tree} {D : Path → Prop} (h : DelP t t' D) (q : Path) :
    get? t' q = none ∨ get? t' q = get? t q := by
  by_cases hd : D q ∧ q ≠ []
  · exact Or.inl ((h q hd.2).1 hd.1)
  · exact Or.inr (by
      by_cases h0 : q = []
      · subst h0; simp
      · exact (h q h0).2 fun d => hd ⟨d, h0⟩)

theorem DelP.children_empty {t t' : Tree} {D : Path → Prop} (hd : DelP t t' D) (hk : KeysOK t') {p : Path}
    (h : ∀ k, get? t (p ++ [k]) ≠ none → D (p ++ [k])) : (children t' p).isEmpty = true := by
  rw [children_isEmpty_iff hk]
  intro k
  by_cases hD : D (p ++ [k])
  · exact (hd _ (by simp)).1 hD
  · rw [(hd _ (by simp)).2 hD]
    exact by_contra fun hc => hD (h k hc)

theorem TocBase.of_delP {t t' : Tree} {D : Path → Prop} (hb : TocBase t) (hd : DelP t t' D)
    (hk : ¬ D tocP ∧ ¬ D versionP ∧ ¬ D uuidP) : TocBase t' :=
  hb.sub hd.sub fun q hq => hd.keep (by rcases hq with rfl | rfl | rfl; exacts [hk.1, hk.2.1, hk.2.2])

/-- paths removed by `TOCSchemas._unregister(ref)` (`U'`: schemas still in use, `pk`: provider of `ref`) -/
def UnregDel (e : Env) (U' : SRef → Prop) (ref : SRef) (pk : PkgId) (q : Path) : Prop :=
  schemaDir ref <+: q ∨ (¬ RegP e U' pk ∧ pkgPath pk <+: q) ∨ ((¬ ∃ r, U' r) ∧ (packagesP <+: q ∨ schemasP <+: q))

theorem RegP_remove {e : Env} {U : SRef → Prop} {ref : SRef} {i : SInfo} (hi : e.info ref = some i)
    (pk : PkgId) (hpk : pk ≠ i.pkg) :
    RegP e (fun r => U r ∧ r ≠ ref) pk ↔ RegP e U pk := by
  constructor
  · rintro ⟨r, j, ⟨hU, -⟩, hj, rfl⟩; exact ⟨r, j, hU, hj, rfl⟩
  · rintro ⟨r, j, hU, hj, rfl⟩
    refine ⟨r, j, ⟨hU, ?_⟩, hj, rfl⟩
    rintro rfl
    rw [hi] at hj; cases hj; exact hpk rfl

/-- a clause of the TOC specification after a deletion: `D` says that the path was removed, `P'` is
the new condition -/
theorem Holds.of_del {o o' : Option Node} {P P' D : Prop} {n : Node} (h : Holds o P n)
    (hg : (D → o' = none) ∧ (¬ D → o' = o)) (h1 : P' → P ∧ ¬ D) (h2 : ¬ P' → ¬ D → ¬ P) : Holds o' P' n :=
  ⟨fun hp => (hg.2 (h1 hp).2).trans (h.1 (h1 hp).1),
   fun hp => (Classical.em D).elim hg.1 fun d => (hg.2 d).trans (h.2 (h2 hp d))⟩

theorem tocSch_unregister {e : Env} {U : SRef → Prop} {t t' : Tree} {ref : SRef} {i : SInfo}
    (hi : e.info ref = some i) (hs : TocSch e U t)
    (hget : DelP t t' (UnregDel e (fun r => U r ∧ r ≠ ref) ref i.pkg)) :
    TocSch e (fun r => U r ∧ r ≠ ref) t' := by
  -- which of the specified paths are removed
  have hdS : ∀ r sfx, UnregDel e (fun r => U r ∧ r ≠ ref) ref i.pkg (schemaDir r ++ sfx) ↔
      (ref = r ∨ ¬ ∃ r, U r ∧ r ≠ ref) := by
    intro r sfx
    simp [UnregDel, schemaDir, pkgPath, packagesP, schemasP, List.cons_prefix_cons]
  have hdP : ∀ pk, UnregDel e (fun r => U r ∧ r ≠ ref) ref i.pkg (pkgPath pk) ↔
      ((¬ RegP e (fun r => U r ∧ r ≠ ref) i.pkg ∧ i.pkg = pk) ∨ ¬ ∃ r, U r ∧ r ≠ ref) := by
    intro pk
    simp [UnregDel, schemaDir, pkgPath, packagesP, schemasP, List.cons_prefix_cons]
  have hdG : ∀ q, q = schemasP ∨ q = packagesP →
      (UnregDel e (fun r => U r ∧ r ≠ ref) ref i.pkg q ↔ ¬ ∃ r, U r ∧ r ≠ ref) := by
    rintro q (rfl | rfl) <;> simp [UnregDel, schemaDir, pkgPath, packagesP, schemasP, List.cons_prefix_cons]
  have hgrp : ∀ q, q = schemasP ∨ q = packagesP → Holds (get? t q) (∃ r, U r) .grp →
      Holds (get? t' q) (∃ r, U r ∧ r ≠ ref) .grp := fun q hq h =>
    h.of_del (hget q (by rcases hq with rfl | rfl <;> simp [schemasP, packagesP]))
      (fun hex => ⟨hex.imp fun _ h => h.1, fun hd => (hdG q hq).mp hd hex⟩)
      (fun hex hd => absurd hex (fun h => hd ((hdG q hq).mpr h)))
  have hfile : ∀ r sfx n, Holds (get? t (schemaDir r ++ sfx)) (U r) n →
      Holds (get? t' (schemaDir r ++ sfx)) (U r ∧ r ≠ ref) n := fun r sfx n h =>
    h.of_del (hget _ (by simp [schemaDir]))
      (fun hr => ⟨hr.1, fun hd => ((hdS r sfx).mp hd).elim (fun h => hr.2 h.symm) (fun h => h ⟨r, hr⟩)⟩)
      (fun hr hd hU => hr ⟨hU, fun h => hd ((hdS r sfx).mpr (Or.inl h.symm))⟩)
  refine ⟨hgrp _ (Or.inl rfl) hs.schemas, fun r => by simpa using hfile r [] _ (by simpa using hs.sdir r),
    fun r => hfile r _ _ (hs.json r), fun r => hfile r _ _ (hs.compat r), hgrp _ (Or.inr rfl) hs.packages, fun pk => ?_⟩
  refine (hs.pkg pk).of_del (hget _ (by simp [pkgPath])) (fun hr => ⟨?_, fun hd => ?_⟩) (fun hr hd hreg => ?_)
  · obtain ⟨r, j, hU, hj, hjp⟩ := hr
    exact ⟨r, j, hU.1, hj, hjp⟩
  · rcases (hdP pk).mp hd with ⟨hn, rfl⟩ | hn
    · exact hn hr
    · obtain ⟨r, _, h, _⟩ := hr
      exact hn ⟨r, h⟩
  · by_cases hpk : pk = i.pkg
    · subst hpk
      exact hd ((hdP _).mpr (Or.inl ⟨hr, rfl⟩))
    · exact hr ((RegP_remove hi pk hpk).mpr hreg)

/-- caches after `TOCSchemas._unregister(ref)`; `b`: the providing package was unregistered too -/
theorem schemaCache_unreg {e : Env} {U : SRef → Prop} {c : Caches} {ref : SRef} {i : SInfo}
    {cur : List SRef} {par chi : List (SRef × List SRef)} {prov' : List (SRef × List PkgId)}
    (hi : e.info ref = some i) (hs : SchemaCache e U c) (hU : U ref)
    (hu : alGet c.used i.pkg = some cur)
    (hidx : IndexOK e (fun r => U r ∧ r ≠ ref) par chi)
    (b : Bool) (hb : b = true ↔ ¬ RegP e (fun r => U r ∧ r ≠ ref) i.pkg)
    (hprov : b = true → ∀ r ps, alGet prov' r = some ps ↔
      (∃ pk', ps = [pk'] ∧ RegP e U pk' ∧ pk' ≠ i.pkg ∧ r ∈ e.pkgPlugins pk')) :
    SchemaCache e (fun r => U r ∧ r ≠ ref)
      (if b then { unregCaches c ref par chi i.pkg cur with
                    pkginfos := alErase c.pkginfos i.pkg, providers := prov' }
       else unregCaches c ref par chi i.pkg cur) := by
  have hregU : RegP e U i.pkg := ⟨ref, i, hU, hi, rfl⟩
  -- the parts that do not depend on `b`
  have hsch : ∀ r, r ∈ setRemove c.schemas ref ↔ (U r ∧ r ≠ ref) := by
    intro r; rw [mem_setRemove, hs.schemas r]
  obtain ⟨hused_dom, hused_val⟩ := used_update hi hs (fun r hr => and_iff_left hr)
    (fun pk => alGet_alSet c.used i.pkg (setRemove cur ref) pk) (nodup_setRemove (hs.used_val _ _ hu).1 _) fun r => by
      rw [mem_setRemove, (hs.used_val _ _ hu).2 r]
      exact and_right_comm
  cases b with
  | false =>
    have hreg : RegP e (fun r => U r ∧ r ≠ ref) i.pkg := by
      by_contra h; exact absurd (hb.mpr h) (by simp)
    have hreg_all : ∀ pk, RegP e (fun r => U r ∧ r ≠ ref) pk ↔ RegP e U pk := by
      intro pk
      by_cases h : pk = i.pkg
      · subst h; exact ⟨fun _ => hregU, fun _ => hreg⟩
      · exact RegP_remove hi pk h
    simp only [Bool.false_eq_true, if_false]
    refine ⟨hsch, nodup_setRemove hs.schemas_nodup _, hidx, ?_, ?_, hused_dom, hused_val⟩
    · intro pk pl; simp only [unregCaches, hreg_all]; exact hs.pkginfos pk pl
    · intro r ps; simp only [unregCaches, hreg_all]; exact hs.providers r ps
  | true =>
    have hnreg : ¬ RegP e (fun r => U r ∧ r ≠ ref) i.pkg := hb.mp rfl
    simp only [if_true]
    refine ⟨hsch, nodup_setRemove hs.schemas_nodup _, hidx, ?_, ?_, hused_dom, hused_val⟩
    · intro pk pl
      show alGet (alErase c.pkginfos i.pkg) pk = some pl ↔ _
      rw [alGet_alErase]
      by_cases h : pk = i.pkg
      · subst h; simp [hnreg]
      · simp only [h, if_false, RegP_remove hi pk h]; exact hs.pkginfos pk pl
    · intro r ps
      show alGet prov' r = some ps ↔ _
      rw [hprov rfl r ps]
      constructor
      · rintro ⟨pk', rfl, hreg', hne, hmem⟩
        exact ⟨pk', rfl, (RegP_remove hi pk' hne).mpr hreg', hmem⟩
      · rintro ⟨pk', rfl, hreg', hmem⟩
        have hne : pk' ≠ i.pkg := by rintro rfl; exact hnreg hreg'
        exact ⟨pk', rfl, (RegP_remove hi pk' hne).mp hreg', hne, hmem⟩

theorem TocBase.pkg_child {t : Tree} (hb : TocBase t) {k : Key} (h : get? t (packagesP ++ [k]) ≠ none) :
    ∃ pk, k = .pkg pk := by
  have := hb.shape [.packages, k] (by simpa [packagesP] using h)
  cases this; exact ⟨_, rfl⟩

theorem TocBase.schema_child {t : Tree} (hb : TocBase t) {k : Key} (h : get? t (schemasP ++ [k]) ≠ none) :
    ∃ r, k = .ep r := by
  have := hb.shape [.schemas, k] (by simpa [schemasP] using h)
  cases this; exact ⟨_, rfl⟩

theorem TocBase.link_child {t : Tree} (hb : TocBase t) {k : Key} (h : get? t (linksP ++ [k]) ≠ none) :
    ∃ r, k = .ep r := by
  have := hb.shape [.links, k] (by simpa [linksP] using h)
  cases this; exact ⟨_, rfl⟩

theorem TocBase.linkDir_child {t : Tree} (hb : TocBase t) {r : SRef} {k : Key}
    (h : get? t (linkDir r ++ [k]) ≠ none) : ∃ u, k = .link u := by
  have := hb.shape [.links, .ep r, k] (by simpa [linkDir] using h)
  cases this; exact ⟨_, rfl⟩

section Unlink
-- as in the section on adding: `(by simp)` compares concrete TOC paths by evaluation
attribute [local simp] tocP versionP uuidP linksP schemasP packagesP linkDir linkPath schemaDir pkgPath
  List.cons_prefix_cons

theorem toc_sch_not_links {q : Path} (h : schemasP <+: q ∨ packagesP <+: q) : ¬ linksP <+: q := by
  rcases h with ⟨b, rfl⟩ | ⟨b, rfl⟩ <;> simp

/-- `TOCSchemas._unregister(ref)` -/
theorem schemaUnregister_spec {e : Env} (he : WFEnv e) {U : SRef → Prop} {s : St} {ref : SRef} {i : SInfo}
    (hi : e.info ref = some i) (hUenv : ∀ r, U r → ∃ i, e.info r = some i)
    (hk : KeysOK s.raw) (hb : TocBase s.raw) (hsch : TocSch e U s.raw) (hs : SchemaCache e U s.c)
    (hU : U ref) :
    ∃ s', schemaUnregister ref s = (.ok (), s') ∧
      DelP s.raw s'.raw (UnregDel e (fun r => U r ∧ r ≠ ref) ref i.pkg) ∧
      SchemaCache e (fun r => U r ∧ r ≠ ref) s'.c ∧ s'.c.tocPath = s.c.tocPath ∧ TocStep s s' := by
  -- the schema directory goes first
  obtain ⟨t1, h1⟩ : ∃ t1, rawDel s.raw (schemaDir ref) = .ok t1 :=
    ⟨_, rawDel_ok (by simp) (by rw [(hsch.sdir ref).1 hU]; simp)⟩
  have hd1 := DelP.of_del h1
  have hk1 : KeysOK t1 := rawDel_keys h1 hk
  have hmem : ref ∈ s.c.schemas := (hs.schemas ref).mpr hU
  have hps : alGet s.c.parents ref = some i.parents := by
    have h1 : (alGet s.c.children ref).isSome := (hs.index.dom ref).mpr ⟨ref, hU, mem_ppath_self he hi⟩
    obtain ⟨l, hl⟩ := alGet_some_of_isSome ((hs.index.domp ref).mpr h1)
    rw [hl, hs.index.par_val ref l hl, ppath_eq hi]
  obtain ⟨par, chi, hupc, hidx⟩ := upcRemove_index he hi hUenv hs.index hU (setRemove s.c.schemas ref)
    (fun r => by rw [mem_setRemove, hs.schemas r])
  have hregU : RegP e U i.pkg := ⟨ref, i, hU, hi, rfl⟩
  have hprov : alGet s.c.providers ref = some [i.pkg] :=
    (hs.providers ref [i.pkg]).mpr ⟨i.pkg, rfl, hregU, he.prov ref i hi⟩
  obtain ⟨cur, hcur⟩ := alGet_some_of_isSome (hs.used_dom i.pkg hregU)
  have hcur_nil : setRemove cur ref = [] ↔ ¬ RegP e (fun r => U r ∧ r ≠ ref) i.pkg := by
    have hcur' : ∀ r, r ∈ setRemove cur ref ↔ ((U r ∧ r ≠ ref) ∧ ∃ j, e.info r = some j ∧ j.pkg = i.pkg) :=
      fun r => by rw [mem_setRemove, (hs.used_val _ _ hcur).2 r]; exact and_right_comm
    rw [List.eq_nil_iff_forall_not_mem]
    exact ⟨fun h ⟨r, j, hr, hj, hjp⟩ => h r ((hcur' r).mpr ⟨hr, j, hj, hjp⟩),
      fun h r hr => h ⟨r, ((hcur' r).mp hr).2.choose, ((hcur' r).mp hr).1, ((hcur' r).mp hr).2.choose_spec⟩⟩
  set s2 : St := ⟨t1, unregCaches s.c ref par chi i.pkg cur, s.next⟩ with hs2
  have step1 : TocStep s s2 := TocStep.of_del h1 (by simp) _
  -- the directories of the schemas that stay in use
  have hdir : ∀ {t' : Tree} {D : Path → Prop} r, DelP s.raw t' D → U r → ¬ D (schemaDir r) →
      get? t' (schemasP ++ [.ep r]) ≠ none := fun r hd hr hn => by
    show get? _ (schemaDir r) ≠ none
    rw [hd.keep hn, (hsch.sdir r).1 hr]; simp
  by_cases hreg' : RegP e (fun r => U r ∧ r ≠ ref) i.pkg
  · -- (A) the package is still needed
    have hne : (setRemove cur ref).isEmpty = false := by
      cases hx : (setRemove cur ref).isEmpty
      · rfl
      · exact absurd hreg' (hcur_nil.mp (List.isEmpty_iff.mp hx))
    have hex : ∃ r, U r ∧ r ≠ ref := let ⟨r0, _, hr0, _⟩ := hreg'; ⟨r0, hr0⟩
    obtain ⟨r0, hr0⟩ := hex
    have hchild : (children s2.raw schemasP).isEmpty = false :=
      children_isEmpty_false hk1 (hdir r0 hd1 hr0.1 (by simp [Ne.symm hr0.2]))
    refine ⟨s2, ?_, hd1.congr fun q => by simp [UnregDel, hreg', show ∃ r, U r ∧ r ≠ ref from ⟨r0, hr0⟩], ?_,
      rfl, step1⟩
    · rw [schemaUnregister_run s2 h1 hmem hps hupc hprov hcur
        (by simp [hne, hs2]), hchild]
      rfl
    · simpa using schemaCache_unreg hi hs hU hcur hidx false (by simpa using hreg') (prov' := []) (by simp)
  · -- the package record goes as well
    have hempty : (setRemove cur ref).isEmpty = true := List.isEmpty_iff.mpr (hcur_nil.mpr hreg')
    obtain ⟨t2, h2⟩ : ∃ t2, rawDel t1 (pkgPath i.pkg) = .ok t2 :=
      ⟨_, rawDel_ok (by simp) (by rw [hd1.keep (by simp), (hsch.pkg i.pkg).1 hregU]; simp)⟩
    have hd2 := hd1.trans (DelP.of_del h2)
    have hk2 : KeysOK t2 := rawDel_keys h2 hk1
    have hinfo : alGet s.c.pkginfos i.pkg = some (e.pkgPlugins i.pkg) :=
      (hs.pkginfos i.pkg _).mpr ⟨hregU, rfl⟩
    obtain ⟨prov', hrem, hprov'⟩ := removeProviders_spec he (RegP e U) i.pkg (e.pkgPlugins i.pkg) s.c.providers
      (he.plugins_nodup i.pkg) (fun _ h => h) (by
        intro r ps
        rw [hs.providers r ps]
        constructor
        · rintro ⟨pk', rfl, hpk', hm⟩
          by_cases h : pk' = i.pkg
          · subst h; exact Or.inr ⟨rfl, hm⟩
          · exact Or.inl ⟨pk', rfl, hpk', h, hm⟩
        · rintro (⟨pk', rfl, hpk', -, hm⟩ | ⟨rfl, hm⟩)
          · exact ⟨pk', rfl, hpk', hm⟩
          · exact ⟨i.pkg, rfl, hregU, hm⟩)
    set c3 : Caches := { unregCaches s.c ref par chi i.pkg cur with
      pkginfos := alErase s.c.pkginfos i.pkg, providers := prov' } with hc3
    have hcache : SchemaCache e (fun r => U r ∧ r ≠ ref) c3 := by
      simpa using schemaCache_unreg hi hs hU hcur hidx true (by simp [hreg']) (prov' := prov') (fun _ => hprov')
    have hpkrun : pkgUnregister i.pkg s2 =
        (if (children t2 packagesP).isEmpty then liftRaw (fun t => rawDel t packagesP) else pure ())
          ⟨t2, c3, s.next⟩ := by
      simp [pkgUnregister, run_liftRaw, h2, hinfo, hrem, hs2, hc3, unregCaches, -pkgPath, -packagesP]
    have step2 : TocStep s ⟨t2, c3, s.next⟩ :=
      step1.trans (TocStep.of_del (s := s2) h2 (by simp) c3)
    -- which package records are left
    have hpkchild : ∀ k, get? t2 (packagesP ++ [k]) ≠ none ↔
        ∃ pk, k = .pkg pk ∧ RegP e (fun r => U r ∧ r ≠ ref) pk := by
      intro k
      constructor
      · intro hc
        have hc0 : get? s.raw (packagesP ++ [k]) ≠ none := fun h0 => hc ((hd2.sub _).elim id fun h => h.trans h0)
        obtain ⟨pk, rfl⟩ := hb.pkg_child hc0
        have hne : pk ≠ i.pkg := fun e => hc ((hd2 _ (by simp)).1 (Or.inr (by simp [e])))
        exact ⟨pk, rfl, (RegP_remove hi pk hne).mpr (by_contra fun hn => hc0 ((hsch.pkg pk).2 hn))⟩
      · rintro ⟨pk, rfl, hpk⟩
        have hne : pk ≠ i.pkg := fun e => hreg' (e ▸ hpk)
        rw [hd2.keep (by simp [Ne.symm hne])]
        show get? s.raw (pkgPath pk) ≠ none
        rw [(hsch.pkg pk).1 ((RegP_remove hi pk hne).mp hpk)]; simp
    by_cases hex : ∃ r, U r ∧ r ≠ ref
    · -- (B) other schemas (of other packages) are still in use
      obtain ⟨r0, hr0⟩ := hex
      obtain ⟨j0, hj0⟩ := hUenv r0 hr0.1
      have hpkne : (children t2 packagesP).isEmpty = false :=
        children_isEmpty_false hk2 ((hpkchild _).mpr ⟨_, rfl, r0, j0, hr0, hj0, rfl⟩)
      have hschne : (children t2 schemasP).isEmpty = false :=
        children_isEmpty_false hk2 (hdir r0 hd2 hr0.1 (by simp [Ne.symm hr0.2]))
      refine ⟨⟨t2, c3, s.next⟩, ?_,
        hd2.congr fun q => by simp [UnregDel, hreg', show ∃ r, U r ∧ r ≠ ref from ⟨r0, hr0⟩], hcache, rfl, step2⟩
      rw [schemaUnregister_run ⟨t2, c3, s.next⟩ h1 hmem hps hupc hprov hcur
        (by simp only [hempty, if_true]; rw [← hs2, hpkrun, hpkne]; rfl), hschne]
      rfl
    · -- (C) nothing is left: the bookkeeping groups go
      have hpke : (children t2 packagesP).isEmpty = true := by
        rw [children_isEmpty_iff hk2]
        intro k
        by_contra hc
        obtain ⟨pk, -, r, _, hr, -, -⟩ := (hpkchild k).mp hc
        exact hex ⟨r, hr⟩
      obtain ⟨t3, h3⟩ : ∃ t3, rawDel t2 packagesP = .ok t3 :=
        ⟨_, rawDel_ok (by simp) (by rw [hd2.keep (by simp), hsch.packages.1 ⟨ref, hU⟩]; simp)⟩
      have hd3 := hd2.trans (DelP.of_del h3)
      have hk3 : KeysOK t3 := rawDel_keys h3 hk2
      have hsche : (children t3 schemasP).isEmpty = true := hd3.children_empty hk3 fun k hc0 => by
        obtain ⟨r, rfl⟩ := hb.schema_child hc0
        by_contra hD
        exact hex ⟨r, by_contra fun hn => hc0 ((hsch.sdir r).2 hn), fun e => hD (by simp [e])⟩
      obtain ⟨t4, h4⟩ : ∃ t4, rawDel t3 schemasP = .ok t4 :=
        ⟨_, rawDel_ok (by simp) (by rw [hd3.keep (by simp), hsch.schemas.1 ⟨ref, hU⟩]; simp)⟩
      refine ⟨⟨t4, c3, s.next⟩, ?_,
        (hd3.trans (DelP.of_del h4)).congr fun q => by simp [UnregDel, hreg', hex, or_assoc], hcache, rfl,
        (step2.trans (TocStep.of_del (s := ⟨t2, c3, s.next⟩) h3 (by simp) c3)).trans
          (TocStep.of_del (s := ⟨t3, c3, s.next⟩) h4 (by simp) c3)⟩
      rw [schemaUnregister_run ⟨t3, c3, s.next⟩ h1 hmem hps hupc hprov hcur
        (by simp only [hempty, if_true]; rw [← hs2, hpkrun, hpke, if_pos rfl, run_liftRaw, h3]),
        hsche, if_pos rfl, run_liftRaw, h4]

theorem unregDel_toc {e : Env} {U' : SRef → Prop} {ref : SRef} {pk : PkgId} {q : Path}
    (h : UnregDel e U' ref pk q) : schemasP <+: q ∨ packagesP <+: q := by
  rcases h with h | ⟨-, h⟩ | ⟨-, h | h⟩
  · exact Or.inl (List.IsPrefix.trans (by simp [schemasP, schemaDir]) h)
  · exact Or.inr (List.IsPrefix.trans (by simp [packagesP, pkgPath]) h)
  · exact Or.inr h
  · exact Or.inl h

/-- schemas that stay linked when the link `u` of schema `r` goes -/
theorem lrem_ex {L : Path → SRef → Nat → Prop} (huniq : LUniq L) {p0 : Path} {r : SRef} {u : Nat} (hL : L p0 r u)
    (r' : SRef) :
    (∃ p u', L p r' u' ∧ u' ≠ u) ↔ ((∃ p u', L p r' u') ∧ (r' = r → ∃ p u', L p r u' ∧ u' ≠ u)) := by
  constructor
  · rintro ⟨p, u', h, hne⟩
    exact ⟨⟨p, u', h⟩, fun e => ⟨p, u', e ▸ h, hne⟩⟩
  · rintro ⟨⟨p, u', h⟩, hr⟩
    by_cases hu : u' = u
    · have e : r' = r := by rw [hu] at h; exact (huniq _ _ _ _ _ h hL).2
      obtain ⟨p1, u1, h1, hne1⟩ := hr e
      exact ⟨p1, u1, e ▸ h1, hne1⟩
    · exact ⟨p, u', h, hu⟩

/-- the links part after the link `u` of `r` was deleted, possibly with the directories it left empty
(`D`: what was deleted below `links/`) -/
theorem TocLnk.remove {L : Path → SRef → Nat → Prop} {t t' : Tree} {D : Path → Prop} {p0 : Path} {r : SRef}
    {u : Nat} (hl : TocLnk L t) (huniq : LUniq L) (hL : L p0 r u)
    (hd : ∀ q, linksP <+: q → (D q → get? t' q = none) ∧ (¬ D q → get? t' q = get? t q))
    (hD0 : D linksP ↔ ¬ ∃ p r' u', L p r' u' ∧ u' ≠ u)
    (hD1 : ∀ r', D (linkDir r') ↔ (D linksP ∨ (r' = r ∧ ¬ ∃ p u', L p r u' ∧ u' ≠ u)))
    (hD2 : ∀ r' u', D (linkPath r' u') ↔ (D (linkDir r') ∨ (r' = r ∧ u' = u))) :
    TocLnk (fun p r' u' => L p r' u' ∧ u' ≠ u) t' := by
  have hnd : ∀ r', (∃ p u', L p r' u' ∧ u' ≠ u) → ¬ D (linkDir r') := by
    rintro r' ⟨p, u', h, hne⟩ hd'
    rcases (hD1 r').mp hd' with h0 | ⟨e, hno⟩
    · exact hD0.mp h0 ⟨p, r', u', h, hne⟩
    · exact hno ⟨p, u', e ▸ h, hne⟩
  refine ⟨hl.links.of_del (hd _ (List.prefix_refl _))
      (fun ⟨p, r', u', h, hne⟩ => ⟨⟨p, r', u', h⟩, fun h0 => hD0.mp h0 ⟨p, r', u', h, hne⟩⟩)
      (fun hne hnd0 => (hnd0 (hD0.mpr hne)).elim),
    fun r' => (hl.ldir r').of_del (hd _ (by simp))
      (fun h => ⟨((lrem_ex huniq hL r').mp h).1, hnd r' h⟩)
      (fun hne hnd' hex => hne ((lrem_ex huniq hL r').mpr ⟨hex, fun e => ?_⟩)),
    fun p r' u' h => ?_, fun r' u' hno => ?_⟩
  · by_contra hno
    exact hnd' ((hD1 r').mpr (Or.inr ⟨e, hno⟩))
  · rw [(hd _ (by simp)).2 fun hd' => ((hD2 r' u').mp hd').elim (hnd r' ⟨p, u', h⟩) fun e => h.2 e.2]
    exact hl.link_some p r' u' h.1
  · by_cases hd' : D (linkPath r' u')
    · exact (hd _ (by simp)).1 hd'
    · rw [(hd _ (by simp)).2 hd']
      refine hl.link_none r' u' fun ⟨p, hp⟩ => hno ⟨p, hp, fun hu => hd' ((hD2 r' u').mpr (Or.inr ⟨?_, hu⟩))⟩
      rw [hu] at hp
      exact (huniq _ _ _ _ _ hp hL).2

/-- `TOCLinks.unregister(uuid)` -/
theorem linkUnregister_spec {e : Env} (he : WFEnv e) {L : Path → SRef → Nat → Prop} {U : SRef → Prop}
    {s : St} {p0 : Path} {r : SRef} {u : Nat}
    (hk : KeysOK s.raw) (hr : TocRaw e L U s.raw) (hs : SchemaCache e U s.c) (hl : LinkCache L s.c)
    (huniq : LUniq L) (hL : L p0 r u) (hUL : ∀ r, U r ↔ ∃ p u, L p r u)
    (hUenv : ∀ r, U r → ∃ i, e.info r = some i) :
    ∃ s', linkUnregister u s = (.ok (), s') ∧
      TocRaw e (fun p r' u' => L p r' u' ∧ u' ≠ u) (fun r' => ∃ p u', L p r' u' ∧ u' ≠ u) s'.raw ∧
      SchemaCache e (fun r' => ∃ p u', L p r' u' ∧ u' ≠ u) s'.c ∧
      LinkCache (fun p r' u' => L p r' u' ∧ u' ≠ u) s'.c ∧ TocStep s s' := by
  obtain ⟨hb, hlnk, hsch⟩ := tocRaw_iff.mp hr
  have hUr : U r := (hUL r).mpr ⟨p0, u, hL⟩
  obtain ⟨i, hi⟩ := hUenv r hUr
  have htp : alGet s.c.tocPath u = some (linkPath r u) := (hl u _).mpr ⟨p0, r, hL, rfl⟩
  have hq0 : ∀ q, linksP <+: q → q ≠ [] := by rintro q ⟨b, rfl⟩; simp
  obtain ⟨t1, h1⟩ : ∃ t1, rawDel s.raw (linkPath r u) = .ok t1 :=
    ⟨_, rawDel_ok (by simp) (by rw [hlnk.link_some p0 r u hL]; simp)⟩
  have hd1 := DelP.of_del h1
  have hk1 : KeysOK t1 := rawDel_keys h1 hk
  set c1 : Caches := { s.c with tocPath := alErase s.c.tocPath u } with hc1
  have hlc : LinkCache (fun p r' u' => L p r' u' ∧ u' ≠ u) c1 := by
    intro u' tp
    show alGet (alErase s.c.tocPath u) u' = some tp ↔ _
    rw [alGet_alErase]
    by_cases hu : u' = u
    · rw [if_pos hu]
      exact ⟨nofun, fun ⟨_, _, ⟨_, hne⟩, _⟩ => (hne hu).elim⟩
    · rw [if_neg hu, hl u' tp]
      exact exists₂_congr fun p r' => and_congr_left fun _ => (and_iff_left hu).symm
  have hsc1 : SchemaCache e U c1 :=
    ⟨hs.schemas, hs.schemas_nodup, hs.index, hs.pkginfos, hs.providers, hs.used_dom, hs.used_val⟩
  have step1 : TocStep s ⟨t1, c1, s.next⟩ := TocStep.of_del h1 (by simp) c1
  have hschK : ∀ {t' : Tree} {D : Path → Prop}, DelP s.raw t' D → (∀ q, D q → linksP <+: q) → TocSch e U t' :=
    fun hd hD => hsch.frame fun q hq => hd.keep fun h => toc_sch_not_links hq (hD q h)
  -- with the link deleted, the rest of `unregister` runs
  have hrun1 : linkUnregister u s = (do
      let s ← getSt
      if !(children s.raw (linkDir r)).isEmpty then return ()
      liftRaw fun t => rawDel t (linkDir r)
      schemaUnregister r
      let s ← getSt
      if !(children s.raw linksP).isEmpty then return ()
      liftRaw fun t => rawDel t linksP) ⟨t1, c1, s.next⟩ := by
    have hdrop : (linkPath r u).dropLast = linkDir r ∧ (linkDir r).dropLast = linksP ∧
        (linkDir r).getLast? = some (.ep r) := by simp
    simp [linkUnregister, htp, has_iff.mpr (rawDel_inv h1).2.1, hdrop, run_liftRaw, h1, hc1, -linkPath, -linkDir,
      -linksP]
  by_cases hother : ∃ p u', L p r u' ∧ u' ≠ u
  · -- another object of this schema is linked: only the link goes
    obtain ⟨p1, u1, hL1, hne1⟩ := id hother
    have hne : (children t1 (linkDir r)).isEmpty = false :=
      children_isEmpty_false hk1 (k := .link u1) (by
        rw [hd1.keep (by simp [hne1.symm])]
        show get? s.raw (linkPath r u1) ≠ none
        rw [hlnk.link_some p1 r u1 hL1]; simp)
    have hUiff : ∀ r', (∃ p u', L p r' u' ∧ u' ≠ u) ↔ U r' := fun r' => by
      rw [lrem_ex huniq hL, hUL r']
      exact and_iff_left fun _ => hother
    exact ⟨⟨t1, c1, s.next⟩, by simp [hrun1, List.isEmpty_eq_false_iff.mp hne, -linkDir],
      tocRaw_iff.mpr ⟨hb.of_delP hd1 (by simp),
      hlnk.remove huniq hL (fun q hq => hd1 q (hq0 q hq)) (iff_of_false (by simp) fun h => h ⟨p1, r, u1, hL1, hne1⟩)
        (fun r' => iff_of_false (by simp) fun h => h.elim (fun h => absurd h (by simp)) fun h => h.2 hother)
        fun r' u' => by simp [eq_comm],
      (hschK hd1 fun q h => (by simp : linksP <+: linkPath r u).trans h).congr hUiff⟩,
      hsc1.congr hUiff, hlc, step1⟩
  · -- the schema is not in use any more: its link directory goes and the schema is unregistered
    have he1 : (children t1 (linkDir r)).isEmpty = true := hd1.children_empty hk1 fun k hc0 => by
      obtain ⟨u', rfl⟩ := hb.linkDir_child hc0
      by_contra hD
      exact hc0 (hlnk.link_none r u' fun ⟨p, hp⟩ => hother ⟨p, u', hp, fun hu => hD (by simp [hu])⟩)
    obtain ⟨t2, h2⟩ : ∃ t2, rawDel t1 (linkDir r) = .ok t2 :=
      ⟨_, rawDel_ok (by simp) (by rw [hd1.keep (by simp), (hlnk.ldir r).1 ⟨p0, u, hL⟩]; simp)⟩
    have hd2 : DelP s.raw t2 (linkDir r <+: ·) := (hd1.trans (DelP.of_del h2)).congr fun q =>
      ⟨Or.inr, fun h => h.elim (fun h' => (by simp : linkDir r <+: linkPath r u).trans h') id⟩
    have hk2 : KeysOK t2 := rawDel_keys h2 hk1
    have step2 : TocStep s ⟨t2, c1, s.next⟩ :=
      step1.trans (TocStep.of_del (s := ⟨t1, c1, s.next⟩) h2 (by simp) c1)
    have hsch2 : TocSch e U t2 := hschK hd2 fun q h => (by simp : linksP <+: linkDir r).trans h
    obtain ⟨s3, hrun3, hget3, hcache3, htp3, step3⟩ :=
      schemaUnregister_spec he hi hUenv (s := ⟨t2, c1, s.next⟩) hk2 (hb.of_delP hd2 (by simp)) hsch2 hsc1 hUr
    have hUiff : ∀ r', (∃ p u', L p r' u' ∧ u' ≠ u) ↔ (U r' ∧ r' ≠ r) := fun r' => by
      rw [lrem_ex huniq hL, hUL r']
      exact and_congr_right fun _ => ⟨fun h e => hother (h e), fun h e => (h e).elim⟩
    have hsch3 : TocSch e (fun r' => ∃ p u', L p r' u' ∧ u' ≠ u) s3.raw :=
      (tocSch_unregister hi hsch2 hget3).congr hUiff
    have hlc3 : LinkCache (fun p r' u' => L p r' u' ∧ u' ≠ u) s3.c := fun u' tp => by rw [htp3]; exact hlc u' tp
    have hk3 : KeysOK s3.raw := step3.keys hk2
    have hd3 : DelP s.raw s3.raw fun q => linkDir r <+: q ∨ UnregDel e (fun r' => U r' ∧ r' ≠ r) r i.pkg q :=
      hd2.trans hget3
    have hb3 : TocBase s3.raw := hb.of_delP hd3 (by simp [UnregDel])
    -- below `links/` only the link directory went
    have hd3L : ∀ q, linksP <+: q →
        (linkDir r <+: q → get? s3.raw q = none) ∧ (¬ linkDir r <+: q → get? s3.raw q = get? s.raw q) :=
      fun q hq => ⟨fun d => (hd3 q (hq0 q hq)).1 (Or.inl d), fun d => (hd3 q (hq0 q hq)).2 fun h =>
        h.elim d fun h => toc_sch_not_links (unregDel_toc h) hq⟩
    have hrun : linkUnregister u s =
        (if (children s3.raw linksP).isEmpty then liftRaw (fun t => rawDel t linksP) else pure ()) s3 := by
      simp [hrun1, List.isEmpty_iff.mp he1, run_liftRaw, h2, hrun3, -linkDir, -linksP]
    by_cases hex : ∃ p r' u', L p r' u' ∧ u' ≠ u
    · -- other schemas are still linked
      obtain ⟨p1, r1, u1, hL1, hne1⟩ := id hex
      have hr1 : r ≠ r1 := fun e => hother ⟨p1, u1, e ▸ hL1, hne1⟩
      have hne : (children s3.raw linksP).isEmpty = false :=
        children_isEmpty_false hk3 (k := .ep r1) (by
          rw [(hd3L _ (by simp)).2 (by simp [hr1])]
          show get? s.raw (linkDir r1) ≠ none
          rw [(hlnk.ldir r1).1 ⟨p1, u1, hL1⟩]; simp)
      refine ⟨s3, by rw [hrun, hne]; rfl, tocRaw_iff.mpr ⟨hb3, hlnk.remove huniq hL hd3L ?_ ?_ ?_, hsch3⟩,
        hcache3.congr hUiff, hlc3, step2.trans step3⟩
      · exact iff_of_false (by simp) fun h => h hex
      · intro r'
        exact ⟨fun h => Or.inr ⟨(by simpa using h : r = r').symm, hother⟩,
          fun h => h.elim (fun h => absurd h (by simp)) fun h => by simp [h.1]⟩
      · intro r' u'
        simpa [eq_comm] using fun (h : r = r') (_ : u = u') => h
    · -- nothing is linked any more: the `links` group goes
      have hemp : (children s3.raw linksP).isEmpty = true := hd3.children_empty hk3 fun k hc0 => by
        obtain ⟨r', rfl⟩ := hb.link_child hc0
        by_contra hD
        refine hc0 ((hlnk.ldir r').2 fun ⟨p, u', h⟩ => hex ⟨p, r', u', h, fun hu => hD (Or.inl ?_)⟩)
        rw [hu] at h
        simp [(huniq _ _ _ _ _ hL h).2]
      obtain ⟨t4, h4⟩ : ∃ t4, rawDel s3.raw linksP = .ok t4 :=
        ⟨_, rawDel_ok (by simp) (by rw [(hd3L _ (List.prefix_refl _)).2 (by simp), hlnk.links.1 ⟨p0, r, u, hL⟩]; simp)⟩
      have hd4 := DelP.of_del h4
      refine ⟨⟨t4, s3.c, s3.next⟩, by rw [hrun, hemp, if_pos rfl, run_liftRaw, h4],
        tocRaw_iff.mpr ⟨hb3.of_delP hd4 (by simp),
          hlnk.remove huniq hL (D := (linksP <+: ·))
            (fun q hq => ⟨fun _ => (hd4 q (hq0 q hq)).1 hq, fun h => (h hq).elim⟩) ?_ ?_ ?_,
          hsch3.frame fun q hq => hd4.keep (toc_sch_not_links hq)⟩,
        hcache3.congr hUiff, hlc3, (step2.trans step3).trans (TocStep.of_del (s := s3) h4 (by simp) s3.c)⟩
      · exact ⟨fun _ => hex, fun _ => List.prefix_refl _⟩
      · intro r'
        simp
      · intro r' u'
        simp

end Unlink

end MetadorModel.Container
