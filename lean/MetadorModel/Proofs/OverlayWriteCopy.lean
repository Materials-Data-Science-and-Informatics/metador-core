import MetadorModel.Proofs.OverlayWriteStep
import MetadorModel.Proofs.OverlayWriteSorted
/-!
# C01 write side: `copy` and `move`, all operations, histories

`h5_copy_from_to` lists the source first and then replays it with `create_group` /
`create_dataset` / attribute writes. `specCopyProg` is that same program on the plain tree;
`copy_prog_sim` shows (with the step lemmas for the basic operations) that the overlay run of
the program simulates the plain-tree run. That the program computes `Spec.copy` is a fact about
plain trees only: `CopyRes t s d t'` is the point-wise description of "the subtree at `s` of
`t`, as it was, now also at `d`; missing ancestors of `d` are groups; nothing else changed";
`Spec.copy` satisfies it (`specCopy_res`) and so does the replay program (`prog_res`, by the
loop invariant `RInv`) when it is given a parents-first snapshot of the source (`KidsOk`).

Then `step_sim` for every operation, `run_sim_all` for histories, and the facts about plain
trees behind the corollaries of C01 (`kind_stable`, `absent_stable`: a node stays what
it is unless it or an ancestor is deleted or moved away; a removed subtree stays absent unless
something is created, copied or moved there).
-/
namespace MetadorModel.Overlay
open MetadorModel.Tree
variable {V : Type}

/-! ### what a successful call on the plain tree did -/

theorem spec_create_of_ok (t t' : Tree V) (q : Path) (nd : Node V)
    (h : (do Spec.checkFresh t q; pure (aput q nd (ensure emptyGroup q t)) : Except Err (Tree V)) = .ok t') :
    aget q t = none ∧ t' = aput q nd (ensure emptyGroup q t) := by
  unfold Spec.checkFresh at h
  by_cases h1 : q = []
  · simp [h1, bind, Except.bind] at h
  · cases h2 : aget q t with
    | some n => simp [h1, h2, bind, Except.bind] at h
    | none =>
      by_cases h3 : ancestorsOk t q = true
      · simp [h1, h2, h3, bind, Except.bind, pure, Except.pure] at h
        exact ⟨rfl, h.symm⟩
      · simp [h1, h2, h3, bind, Except.bind] at h

theorem spec_delete_of_ok (t t' : Tree V) (q : Path) (h : Spec.delete t q = .ok t') : t' = removeSub q t := by
  simp only [Spec.delete] at h
  split at h
  · cases h
  · split at h
    · cases h
    · cases h; rfl

theorem spec_setAttr_of_ok (t t' : Tree V) (q : Path) (k : Key) (v : V) (h : Spec.setAttr t q k v = .ok t') :
    ∃ n as, aget q t = some n ∧ t' = aput q { n with attrs := as } t := by
  simp only [Spec.setAttr] at h
  split at h
  · cases h
  · next n hn => cases h; exact ⟨n, _, hn, rfl⟩

theorem spec_delAttr_of_ok (t t' : Tree V) (q : Path) (k : Key) (h : Spec.delAttr t q k = .ok t') :
    ∃ n as, aget q t = some n ∧ t' = aput q { n with attrs := as } t := by
  simp only [Spec.delAttr] at h
  split at h
  · cases h
  · next n hn =>
    split at h
    · cases h
    · cases h; exact ⟨n, _, hn, rfl⟩

/-! ### the replay program on the plain tree -/

def specCopyAttrs (t : Tree V) (dst : Path) : List (Key × V) → Except Err (Tree V)
  | [] => .ok t
  | (k, v) :: more => do
    let t1 ← Spec.setAttr t dst k v
    specCopyAttrs t1 dst more

def specReplay (src dst : Path) : Tree V → List (Path × NKind V × List (Key × V)) → Except Err (Tree V)
  | t, [] => .ok t
  | t, (q, kd, as) :: more => do
    let t1 ← specCreate t (dst ++ q.drop src.length) kd
    let t2 ← specCopyAttrs t1 (dst ++ q.drop src.length) as
    specReplay src dst t2 more

def specCopyProg (t : Tree V) (src dst : Path) (kd : NKind V) (as : List (Key × V))
    (kids : List (Path × NKind V × List (Key × V))) : Except Err (Tree V) := do
  let t1 ← specCreate t dst kd
  let t2 ← specCopyAttrs t1 dst as
  match kd with
  | .data _ => pure t2
  | .group => specReplay src dst t2 kids

/-! ### the overlay runs the same program -/

theorem specCreate_kind (t t' : Tree V) (tgt : Path) (kd : NKind V) (h : specCreate t tgt kd = .ok t') :
    kindAt t' tgt = some kd := by
  rw [specCreate_eq] at h
  obtain ⟨_, rfl⟩ := spec_create_of_ok t t' tgt _ h
  rw [kindAt_aput]; simp

theorem copyAttrs_sim (as : List (Key × V)) : ∀ (r : Rec V) (t : Tree V) (dst : Path),
    r ≠ [] → Inv r → Rep r t → viewKind r dst ≠ none →
    Sim (W.copyAttrs r dst as) (specCopyAttrs t dst as) := by
  induction as with
  | nil => intro r t dst hne hinv hrep _; exact ⟨hrep, hinv, hne⟩
  | cons kv more ih =>
    intro r t dst hne hinv hrep hvis
    obtain ⟨k, v⟩ := kv
    cases r with
    | nil => exact absurd rfl hne
    | cons c older =>
      obtain ⟨cf, nf, hl⟩ := found_of_viewKind _ _ hvis
      have hs := setAttr_sim c older t dst k v hinv hrep
      have heq : W.setAttr (c :: older) dst k v = W.setAttrRaw (c :: older) dst k (some v) := by
        simp only [W.setAttr, hl]
      rw [heq] at hs
      simp only [W.copyAttrs, specCopyAttrs]
      refine Sim.bind hs (fun r' t' _ ht' hrep' hinv' hne' => ?_)
      apply ih r' t' dst hne' hinv' hrep'
      obtain ⟨n, as', hn, rfl⟩ := spec_setAttr_of_ok t t' dst k v ht'
      rw [(hrep' dst).1, kindAt_aput_attrs t dst dst n as' hn, ← (hrep dst).1]
      exact hvis

theorem replay_sim (src dst : Path) (kids : List (Path × NKind V × List (Key × V))) :
    ∀ (r : Rec V) (t : Tree V), r ≠ [] → Inv r → Rep r t →
    Sim (W.replay src dst r kids) (specReplay src dst t kids) := by
  induction kids with
  | nil => intro r t hne hinv hrep; exact ⟨hrep, hinv, hne⟩
  | cons e more ih =>
    intro r t hne hinv hrep
    obtain ⟨q, kd, as⟩ := e
    have hw : W.replay src dst r ((q, kd, as) :: more) =
        (wCreate r (dst ++ q.drop src.length) kd >>= fun r1 =>
          (match look r1 (dst ++ q.drop src.length) with
            | .found _ _ => W.copyAttrs r1 (dst ++ q.drop src.length) as
            | _ => .error .missing) >>= fun r2 => W.replay src dst r2 more) := by
      cases kd <;> rfl
    rw [hw]
    simp only [specReplay]
    refine Sim.bind (create_sim r t _ kd hne hinv hrep) (fun r1 t1 _ ht1 hrep1 hinv1 hne1 => ?_)
    have hvis : viewKind r1 (dst ++ q.drop src.length) ≠ none := by
      rw [(hrep1 _).1, specCreate_kind t t1 _ kd ht1]; simp
    obtain ⟨cf, nf, hl⟩ := found_of_viewKind _ _ hvis
    simp only [hl]
    exact Sim.bind (copyAttrs_sim as r1 t1 _ hne1 hinv1 hrep1 hvis)
      (fun r2 t2 _ _ hrep2 hinv2 hne2 => ih r2 t2 hne2 hinv2 hrep2)

/-- `IH5Group.copy` when the source is visible with kind `kd` and the destination is free -/
theorem copy_prog_sim (c : Cont V) (older : Rec V) (t : Tree V) (src dst : Path) (cf : Nat) (nf : RNode V)
    (kd : NKind V) (pre y : Path) (hinv : Inv (c :: older)) (hrep : Rep (c :: older) t) (hs : src ≠ [])
    (hl : look (c :: older) src = .found cf nf) (hkd : plainKind nf.kind = some kd)
    (hd : look (c :: older) dst = .part pre y) :
    Sim (W.copy (c :: older) src dst)
      (specCopyProg t src dst kd (attrsList (c :: older) src)
        ((listing (c :: older)).filter (fun e => isPre src e.1 && e.1 != src))) := by
  have hne : c :: older ≠ [] := by simp
  -- the program as the overlay runs it
  have hw : W.copy (c :: older) src dst = (wCreate (c :: older) dst kd >>= fun r1 =>
      W.copyAttrs r1 dst (attrsList (c :: older) src) >>= fun r2 =>
        (match kd with
          | .data _ => pure r2
          | .group => W.replay src dst r2 ((listing (c :: older)).filter (fun e => isPre src e.1 && e.1 != src)))) := by
    simp only [W.copy, hs, ↓reduceIte, hl, hd, hkd]
    cases kd with
    | data v =>
      simp only [wCreate, bind, Except.bind, pure, Except.pure]
      cases W.createDataset (c :: older) dst v with
      | error e => rfl
      | ok r1 =>
        simp only
        cases W.copyAttrs r1 dst (attrsList (c :: older) src) <;> rfl
    | group =>
      simp only [wCreate, bind, Except.bind]
  rw [hw]
  unfold specCopyProg
  refine Sim.bind (create_sim _ t dst kd hne hinv hrep) (fun r1 t1 _ ht1 hrep1 hinv1 hne1 => ?_)
  have hvis : viewKind r1 dst ≠ none := by
    rw [(hrep1 _).1, specCreate_kind t t1 _ kd ht1]; simp
  refine Sim.bind (copyAttrs_sim _ r1 t1 dst hne1 hinv1 hrep1 hvis) (fun r2 t2 _ _ hrep2 hinv2 hne2 => ?_)
  cases kd with
  | data v => exact ⟨hrep2, hinv2, hne2⟩
  | group => exact replay_sim src dst _ r2 t2 hne2 hinv2 hrep2

theorem aget_append {κ β : Type} [DecidableEq κ] (q : κ) (l1 l2 : List (κ × β)) :
    aget q (l1 ++ l2) = match aget q l1 with
      | some v => some v
      | none => aget q l2 := by
  induction l1 with
  | nil => rfl
  | cons e l1 ih =>
    obtain ⟨a, b⟩ := e
    by_cases h : a = q
    · simp [aget, h]
    · simp [aget, h, ih]

theorem aget_regraft_below (s d : Path) (t : Tree V) (x : Path) :
    aget (d ++ x) (Spec.regraft s d t) = aget (s ++ x) t := by
  induction t with
  | nil => rfl
  | cons e t ih =>
    obtain ⟨a, n⟩ := e
    unfold Spec.regraft at ih ⊢
    by_cases hp : isPre s a = true
    · obtain ⟨y, rfl⟩ := (isPre_iff _ _).1 hp
      simp only [List.filter_cons, hp, ↓reduceIte, List.map_cons, List.drop_left, aget,
        List.append_cancel_left_eq]
      by_cases hy : y = x
      · simp [hy]
      · simp only [hy, ↓reduceIte]; exact ih
    · have hne : a ≠ s ++ x := by
        rintro rfl; exact hp (isPre_append s x)
      simp only [List.filter_cons, hp, Bool.false_eq_true, ↓reduceIte, aget, hne]
      exact ih

theorem aget_regraft_other (s d : Path) (t : Tree V) (q : Path) (hq : isPre d q = false) :
    aget q (Spec.regraft s d t) = none := by
  induction t with
  | nil => rfl
  | cons e t ih =>
    obtain ⟨a, n⟩ := e
    unfold Spec.regraft at ih ⊢
    by_cases hp : isPre s a = true
    · have hne : d ++ List.drop s.length a ≠ q := by
        rintro rfl; rw [isPre_append] at hq; cases hq
      simp only [List.filter_cons, hp, ↓reduceIte, List.map_cons, aget, hne]
      exact ih
    · simp only [List.filter_cons, hp, Bool.false_eq_true, ↓reduceIte]
      exact ih

/-! ### the point-wise specification of a copy -/

structure CopyRes (t : Tree V) (s d : Path) (t' : Tree V) : Prop where
  below : ∀ x, obsT t' (d ++ x) = obsT t (s ++ x)
  other : ∀ q, isPre d q = false → obsT t' q = (withAnc t d q, attrAt t q)

theorem CopyRes.kind_other {t : Tree V} {s d : Path} {t' : Tree V} (h : CopyRes t s d t') (q : Path)
    (hq : isPre d q = false) : kindAt t' q = withAnc t d q :=
  congrArg Prod.fst (h.other q hq)

theorem CopyRes.equiv {t : Tree V} {s d : Path} {t1 t2 : Tree V} (h1 : CopyRes t s d t1) (h2 : CopyRes t s d t2) :
    ∀ q, obsT t1 q = obsT t2 q := by
  intro q
  by_cases hb : isPre d q = true
  · obtain ⟨x, rfl⟩ := (isPre_iff _ _).1 hb
    rw [h1.below x, h2.below x]
  · have hb' : isPre d q = false := by simpa using hb
    rw [h1.other q hb', h2.other q hb']

theorem specCopy_res (t : Tree V) (s d : Path) (hfree : ∀ x, aget (d ++ x) t = none) :
    CopyRes t s d (Spec.regraft s d t ++ ensure emptyGroup d t) := by
  refine ⟨fun x => ?_, fun q hq => ?_⟩
  · have hE : aget (d ++ x) (ensure emptyGroup d t) = none := by
      rw [aget_ensure, hfree x]
      have : d ++ x ∉ properPrefixes d := not_mem_pp_of_isPre d _ (isPre_append d x)
      simp [this]
    unfold obsT kindAt attrAt
    rw [aget_append, aget_regraft_below]
    cases h : aget (s ++ x) t with
    | some n => rfl
    | none => simp [hE]
  · rw [← obsT_ensure]
    unfold obsT kindAt attrAt
    rw [aget_append, aget_regraft_other s d t q hq]

theorem specCopyAttrs_ok (as : List (Key × V)) : ∀ (t : Tree V) (p : Path), kindAt t p ≠ none →
    (as.map (·.1)).Nodup →
    ∃ t', specCopyAttrs t p as = .ok t' ∧ (∀ q, kindAt t' q = kindAt t q) ∧
      ∀ q k, attrAt t' q k = if q = p then (match aget k as with | some v => some v | none => attrAt t p k)
        else attrAt t q k := by
  induction as with
  | nil =>
    intro t p _ _
    refine ⟨t, rfl, fun _ => rfl, fun q k => ?_⟩
    by_cases hq : q = p <;> simp [hq, aget]
  | cons kv more ih =>
    intro t p hp hnd
    obtain ⟨k0, v0⟩ := kv
    simp only [List.map_cons, List.nodup_cons] at hnd
    obtain ⟨n, hn⟩ := Option.ne_none_iff_exists'.1 (mt (kindAt_none_iff t p).2 hp)
    have hk1 : ∀ q, kindAt (aput p { n with attrs := aput k0 v0 n.attrs } t) q = kindAt t q :=
      fun q => kindAt_aput_attrs t p q n _ hn
    obtain ⟨t', h1, h2, h3⟩ := ih (aput p { n with attrs := aput k0 v0 n.attrs } t) p
      (by rw [hk1]; exact hp) hnd.2
    refine ⟨t', ?_, fun q => by rw [h2, hk1], fun q k => ?_⟩
    · simp only [specCopyAttrs, Spec.setAttr, hn, bind, Except.bind]
      exact h1
    · rw [h3, attrAt_aput, attrAt_aput]
      by_cases hq : q = p
      · simp only [hq, ↓reduceIte, aget_aput, aget]
        by_cases hk : k0 = k
        · subst hk
          have : aget k0 more = none := by
            cases hx : aget k0 more with
            | none => rfl
            | some v => exact absurd (List.mem_map_of_mem (f := (·.1)) (Single.aget_mem more k0 v hx)) hnd.1
          simp [this]
        · have hk' : ¬ k = k0 := fun h => hk h.symm
          simp only [hk, hk', ↓reduceIte]
          cases aget k more with
          | some v => rfl
          | none => simp [attrAt, hn]
      · simp [hq]

theorem specCreateAttrs_ok (T : Tree V) (p : Path) (kd : NKind V) (as : List (Key × V))
    (hcf : Spec.checkFresh T p = .ok ()) (hnd : (as.map (·.1)).Nodup) :
    ∃ T1 T2, specCreate T p kd = .ok T1 ∧ specCopyAttrs T1 p as = .ok T2 ∧
      ∀ q, obsT T2 q = if q = p then (some kd, fun k => aget k as) else (withAnc T p q, attrAt T q) := by
  have hc : specCreate T p kd = .ok (aput p (⟨kd, []⟩ : Node V) (ensure emptyGroup p T)) := by
    rw [specCreate_eq, hcf]; rfl
  obtain ⟨T2, hc2, hk2, ha2⟩ := specCopyAttrs_ok as (aput p (⟨kd, []⟩ : Node V) (ensure emptyGroup p T)) p
    (by rw [kindAt_aput]; simp) hnd
  refine ⟨_, T2, hc, hc2, fun q => ?_⟩
  by_cases hq : q = p
  · subst hq
    rw [if_pos rfl]
    refine NodeObs.eq_iff.2 ⟨?_, fun k => ?_⟩
    · show kindAt T2 q = some kd
      rw [hk2, kindAt_aput, if_pos rfl]
    · show attrAt T2 q k = aget k as
      rw [ha2, if_pos rfl, attrAt_aput, if_pos rfl]
      cases aget k as <;> rfl
  · rw [if_neg hq, ← obsT_ensure]
    refine NodeObs.eq_iff.2 ⟨?_, fun k => ?_⟩
    · show kindAt T2 q = _
      rw [hk2, kindAt_aput, if_neg hq]; rfl
    · show attrAt T2 q k = _
      rw [ha2, if_neg hq, attrAt_aput, if_neg hq]; rfl

/-- hypotheses about the plain tree under which the copy program is analysed -/
structure CopyCtx (t : Tree V) (d : Path) : Prop where
  /-- parent closed with group parents (true of every tree a record shows) -/
  pc : ∀ x y, y ≠ [] → kindAt t (x ++ y) ≠ none → kindAt t x = some .group
  /-- nothing at or below the destination -/
  free : ∀ x, kindAt t (d ++ x) = none
  /-- no ancestor of the destination is a dataset -/
  anc : ∀ y ∈ properPrefixes d, ∀ v, kindAt t y ≠ some (.data v)
  dne : d ≠ []

/-- state of the replay after the descendants `done` of the source have been replayed -/
structure RInv (t : Tree V) (s d : Path) (done : List Path) (T : Tree V) : Prop where
  below : ∀ x, obsT T (d ++ x) = if x = [] ∨ s ++ x ∈ done then obsT t (s ++ x) else NodeObs.none
  other : ∀ q, isPre d q = false → obsT T q = (withAnc t d q, attrAt t q)

theorem RInv.kind {t : Tree V} {s d : Path} {done : List Path} {T : Tree V} (h : RInv t s d done T) (x : Path) :
    kindAt T (d ++ x) = if x = [] ∨ s ++ x ∈ done then kindAt t (s ++ x) else none := by
  have := congrArg Prod.fst (h.below x)
  rwa [apply_ite Prod.fst] at this

theorem replay_step (t : Tree V) (s d : Path) (ctx : CopyCtx t d)
    (done : List Path) (T : Tree V) (hinv : RInv t s d done T)
    (x : Path) (kd : NKind V) (as : List (Key × V)) (hx : x ≠ []) (hnew : s ++ x ∉ done)
    (hkd : kindAt t (s ++ x) = some kd) (has : ∀ k, aget k as = attrAt t (s ++ x) k)
    (hnd : (as.map (·.1)).Nodup)
    (hanc : ∀ x' y, x = x' ++ y → x' ≠ [] → y ≠ [] → s ++ x' ∈ done) :
    ∃ T1 T2, specCreate T (d ++ x) kd = .ok T1 ∧ specCopyAttrs T1 (d ++ x) as = .ok T2 ∧
      RInv t s d (done ++ [s ++ x]) T2 := by
  -- kinds of the proper prefixes of the target in the current tree
  have hpp : ∀ y ∈ properPrefixes (d ++ x), kindAt T y ≠ none ∧ ∀ v, kindAt T y ≠ some (.data v) := by
    intro y hy
    by_cases hb : isPre d y = true
    · obtain ⟨x', rfl⟩ := (isPre_iff _ _).1 hb
      have hx' : x' ∈ properPrefixes x := (mem_pp_append_append d x x').1 hy
      obtain ⟨y', hy', hxy⟩ := (mem_properPrefixes _ _).1 hx'
      have hg : kindAt t (s ++ x') = some .group := by
        apply ctx.pc (s ++ x') y' hy'
        rw [List.append_assoc, ← hxy, hkd]; simp
      have hin : x' = [] ∨ s ++ x' ∈ done := Decidable.or_iff_not_imp_left.2 fun h0 => hanc x' y' hxy h0 hy'
      rw [hinv.kind x']
      simp only [hin, ↓reduceIte, hg]
      exact ⟨by simp, fun v => by simp⟩
    · have hb' : isPre d y = false := by simpa using hb
      have hyd : y ∈ properPrefixes d := mem_pp_of_mem_pp_append d x y hy hb'
      rw [show kindAt T y = withAnc t d y from congrArg Prod.fst (hinv.other y hb')]
      unfold withAnc
      cases hk : kindAt t y with
      | some kd' => exact ⟨by simp, fun v => by simp only; rw [← hk]; exact ctx.anc y hyd v⟩
      | none => simp [hyd]
  have hfresh : aget (d ++ x) T = none := by
    rw [← kindAt_none_iff, hinv.kind x]
    simp [hx, hnew]
  have hcf : Spec.checkFresh T (d ++ x) = .ok () :=
    (checkFresh_ok_iff T _).2 ⟨by simp [hx], hfresh, fun y hy => (hpp y hy).2⟩
  obtain ⟨T1, T2, hc, hc2, hobs⟩ := specCreateAttrs_ok T (d ++ x) kd as hcf hnd
  -- every ancestor of the target is there already
  have hobs' : ∀ q, obsT T2 q = if q = d ++ x then (some kd, fun k => aget k as) else obsT T q := by
    intro q
    rw [hobs]
    split
    · rfl
    · unfold obsT withAnc
      cases hk : kindAt T q with
      | some kd' => rfl
      | none =>
        have : q ∉ properPrefixes (d ++ x) := fun hm => (hpp q hm).1 hk
        simp [this]
  refine ⟨T1, T2, hc, hc2, fun x1 => ?_, fun q hq => ?_⟩
  · rw [hobs']
    by_cases h1 : x1 = x
    · subst h1
      rw [if_pos rfl, if_pos (Or.inr (by simp))]
      exact NodeObs.eq_iff.2 ⟨hkd.symm, has⟩
    · have : d ++ x1 ≠ d ++ x := by simpa using h1
      rw [if_neg this, hinv.below x1]
      simp only [List.mem_append, List.mem_singleton, List.append_cancel_left_eq, h1, or_false]
  · have : q ≠ d ++ x := by rintro rfl; rw [isPre_append] at hq; cases hq
    rw [hobs', if_neg this]
    exact hinv.other q hq

theorem replay_res (t : Tree V) (s d : Path) (ctx : CopyCtx t d)
    (kids : List (Path × NKind V × List (Key × V))) (hk : KidsOk t s kids) :
    ∀ (todo l1 : List (Path × NKind V × List (Key × V))) (T : Tree V), kids = l1 ++ todo →
      RInv t s d (l1.map (·.1)) T →
      ∃ T', specReplay s d T todo = .ok T' ∧ RInv t s d (kids.map (·.1)) T' := by
  intro todo
  induction todo with
  | nil =>
    intro l1 T hl hinv
    simp only [List.append_nil] at hl
    subst hl
    exact ⟨T, rfl, hinv⟩
  | cons e more ih =>
    intro l1 T hl hinv
    obtain ⟨q, kd, as⟩ := e
    have hmem : (q, kd, as) ∈ kids := by rw [hl]; simp
    obtain ⟨x, hx, hq, hkd, has, hnd⟩ := hk.mem _ hmem
    simp only at hq hkd has hnd
    subst hq
    have hnew : s ++ x ∉ l1.map (·.1) := by
      have := hk.nodup
      rw [hl, List.map_append, List.map_cons] at this
      have h2 := (List.nodup_append.1 this).2.2
      intro hin
      exact h2 _ hin _ List.mem_cons_self rfl
    obtain ⟨T1, T2, hc, hc2, hinv2⟩ := replay_step t s d ctx (l1.map (·.1)) T hinv x kd as hx hnew hkd has hnd
      (fun x' y hxy hx' hy => hk.order l1 _ more hl x' y (by simp [hxy]) hx' hy)
    obtain ⟨T', h3, hinv3⟩ := ih (l1 ++ [(s ++ x, kd, as)]) T2 (by rw [hl]; simp) (by simpa using hinv2)
    exact ⟨T', by simp only [specReplay, List.drop_left, hc, hc2, bind, Except.bind, h3], hinv3⟩

theorem prog_res (t : Tree V) (s d : Path) (kd : NKind V) (as : List (Key × V))
    (kids : List (Path × NKind V × List (Key × V))) (ctx : CopyCtx t d)
    (hcf : Spec.checkFresh t d = .ok ()) (hkd : kindAt t s = some kd)
    (has : ∀ k, aget k as = attrAt t s k) (hnd : (as.map (·.1)).Nodup)
    (hkids : kd = .group → KidsOk t s kids) :
    ∃ t', specCopyProg t s d kd as kids = .ok t' ∧ CopyRes t s d t' := by
  obtain ⟨T1, T0, hc, hc2, hobs⟩ := specCreateAttrs_ok t d kd as hcf hnd
  have hfreeA : ∀ x, aget (d ++ x) t = none := fun x => (kindAt_none_iff _ _).1 (ctx.free x)
  have hinv0 : RInv t s d [] T0 := by
    refine ⟨fun x => ?_, fun q hq => ?_⟩
    · rw [hobs]
      by_cases hx : x = []
      · subst hx
        rw [List.append_nil, if_pos rfl, if_pos (Or.inl rfl), List.append_nil]
        exact NodeObs.eq_iff.2 ⟨hkd.symm, has⟩
      · have h1 : d ++ x ≠ d := by simpa using hx
        have h2 : d ++ x ∉ properPrefixes d := not_mem_pp_of_isPre d _ (isPre_append d x)
        rw [if_neg h1, if_neg (by simp [hx]), attrAt_absent t _ (hfreeA x)]
        simp [withAnc, ctx.free x, h2, NodeObs.none]
    · have h1 : q ≠ d := by rintro rfl; rw [isPre_refl] at hq; cases hq
      rw [hobs, if_neg h1]
  -- from the loop invariant over all listed descendants to the copy specification
  have fin : ∀ (done : List Path) (T : Tree V), RInv t s d done T →
      (∀ x, x ≠ [] → kindAt t (s ++ x) ≠ none → s ++ x ∈ done) → CopyRes t s d T := by
    intro done T hinv hcomp
    refine ⟨fun x => ?_, hinv.other⟩
    rw [hinv.below x]
    by_cases hin : x = [] ∨ s ++ x ∈ done
    · rw [if_pos hin]
    · rw [if_neg hin]
      have : kindAt t (s ++ x) = none := by
        by_contra hne
        exact hin (Or.inr (hcomp x (fun h => hin (Or.inl h)) hne))
      exact (obsT_absent t _ ((kindAt_none_iff _ _).1 this)).symm
  cases kd with
  | data v =>
    refine ⟨T0, by simp only [specCopyProg, hc, hc2, bind, Except.bind, pure, Except.pure], fin [] T0 hinv0 ?_⟩
    intro x hx hne
    have := ctx.pc s x hx hne
    rw [hkd] at this; cases this
  | group =>
    have hk := hkids rfl
    obtain ⟨T', h3, hinv3⟩ := replay_res t s d ctx kids hk kids [] T0 rfl (by simpa using hinv0)
    exact ⟨T', by simp only [specCopyProg, hc, hc2, bind, Except.bind, h3], fin _ T' hinv3 hk.complete⟩

theorem copy_sim (c : Cont V) (older : Rec V) (t : Tree V) (src dst : Path)
    (hinv : Inv (c :: older)) (hrep : Rep (c :: older) t) :
    Sim (W.copy (c :: older) src dst) (Spec.copy t src dst) := by
  by_cases hs : src = []
  · exact Sim.of_err ⟨.root, by simp [W.copy, hs]⟩ ⟨.root, by simp [Spec.copy, hs]⟩
  · cases hl : look (c :: older) src with
    | part _ _ | insideValue =>
      refine Sim.of_err ⟨.missing, by simp only [W.copy, hs, ↓reduceIte, hl]⟩ ⟨.missing, ?_⟩
      have : aget src t = none :=
        hrep.absent (view_of_not_found (fun cf nf h => by rw [hl] at h; cases h)).1
      simp [Spec.copy, hs, this]
    | found cf nf =>
      have hvis := viewKind_ne_none_of_found hl
      obtain ⟨kd, hkt⟩ := Option.ne_none_iff_exists'.1 hvis
      have hkd : plainKind nf.kind = some kd := (view_of_found hl).1.symm.trans hkt
      rw [(hrep src).1] at hkt
      obtain ⟨n, hn⟩ := hrep.node hvis
      cases hd : look (c :: older) dst with
      | found cf' nf' =>
        refine Sim.of_err ⟨.exists_, by simp only [W.copy, hs, ↓reduceIte, hl, hd]⟩ ?_
        obtain ⟨e, he⟩ := hrep.checkFresh_exists dst (viewKind_ne_none_of_found hd)
        exact ⟨e, by simp [Spec.copy, hs, hn, he, bind, Except.bind]⟩
      | insideValue =>
        refine Sim.of_err ⟨.insideValue, by simp only [W.copy, hs, ↓reduceIte, hl, hd]⟩ ?_
        obtain ⟨x, sfx, v, rfl, hsfx, hx⟩ := look_inside_props _ _ hd
        obtain ⟨e, he⟩ := hrep.checkFresh_inside x sfx v hsfx hx
        exact ⟨e, by simp [Spec.copy, hs, hn, he, bind, Except.bind]⟩
      | part pre y =>
        have hps := copy_prog_sim c older t src dst cf nf kd pre y hinv hrep hs hl hkd hd
        obtain ⟨k, more, hdst, rfl, hpre, hk⟩ := look_part_props _ _ _ _ hd
        have hcf := hrep.checkFresh_ok pre k more hpre hk
        rw [← hdst] at hcf
        have hfree : ∀ x, kindAt t (dst ++ x) = none := by
          intro x
          rw [← (hrep _).1, hdst]
          have : pre ++ k :: more ++ x = (pre ++ [k]) ++ (more ++ x) := by simp
          rw [this]
          exact view_below_none _ _ _ hk
        obtain ⟨hdne, _, hanc⟩ := (checkFresh_ok_iff t dst).1 hcf
        have ctx : CopyCtx t dst := ⟨fun x y hy h => hrep.parent x y hy h, hfree, hanc, hdne⟩
        obtain ⟨t', hprog, hres⟩ := prog_res t src dst kd (attrsList (c :: older) src) _ ctx hcf hkt
          (fun k' => by rw [Listing.aget_attrsList, (hrep src).2 k'])
          (Listing.attrsList_nodup _ src)
          (fun _ => kidsOk_of_rep (c :: older) t src hrep hs)
        have hspec : Spec.copy t src dst = .ok (Spec.regraft src dst t ++ ensure emptyGroup dst t) := by
          simp [Spec.copy, hs, hn, hcf, bind, Except.bind, pure, Except.pure]
        have heq := hres.equiv (specCopy_res t src dst (fun x => (kindAt_none_iff _ _).1 (hfree x)))
        rcases hps.cases with ⟨r', t'', h1, h2, hrep', hinv', hne'⟩ | ⟨e, e', _, h2⟩
        · rw [hprog] at h2
          cases h2
          exact Sim.of_ok r' _ h1 hspec
            ⟨(rep_iff _ _).2 fun q => by rw [(rep_iff _ _).1 hrep' q, heq q], hinv', hne'⟩
        · rw [hprog] at h2; cases h2

theorem move_sim (c : Cont V) (older : Rec V) (t : Tree V) (src dst : Path)
    (hinv : Inv (c :: older)) (hrep : Rep (c :: older) t) :
    Sim (W.move (c :: older) src dst) (Spec.move t src dst) := by
  by_cases hp : isPre src dst = true
  · exact Sim.of_err ⟨.root, by simp [W.move, hp]⟩ ⟨.root, by simp [Spec.move, hp]⟩
  · have hw : W.move (c :: older) src dst = (W.copy (c :: older) src dst >>= fun r1 => W.delete r1 src) := by
      simp [W.move, hp]
    have hsp : Spec.move t src dst = (Spec.copy t src dst >>= fun t1 => Spec.delete t1 src) := by
      simp [Spec.move, hp]
    rw [hw, hsp]
    refine Sim.bind (copy_sim c older t src dst hinv hrep) (fun r1 t1 _ _ hrep1 hinv1 hne1 => ?_)
    cases r1 with
    | nil => exact absurd rfl hne1
    | cons c1 o1 => exact delete_sim c1 o1 t1 src hinv1 hrep1

theorem step_sim (r : Rec V) (t : Tree V) (op : Op V) (hne : r ≠ []) (hinv : Inv r) (hrep : Rep r t) :
    Sim (W.step r op) (Spec.step t op) := by
  cases r with
  | nil => exact absurd rfl hne
  | cons c older =>
    cases op with
    | copy s d => exact copy_sim c older t s d hinv hrep
    | move s d => exact move_sim c older t s d hinv hrep
    | set p v => exact step_sim_basic _ t _ rfl hne hinv hrep
    | grp p => exact step_sim_basic _ t _ rfl hne hinv hrep
    | del p => exact step_sim_basic _ t _ rfl hne hinv hrep
    | sattr p k v => exact step_sim_basic _ t _ rfl hne hinv hrep
    | dattr p k => exact step_sim_basic _ t _ rfl hne hinv hrep
    | patch => exact step_sim_basic _ t _ rfl hne hinv hrep

theorem step_inv (r r' : Rec V) (op : Op V) (hinv : Inv r) (h : W.step r op = .ok r') : Inv r' ∧ r' ≠ [] := by
  by_cases hne : r = []
  · subst hne; exact (ok_ne_err h (step_nil op)).elim
  · exact (step_sim r (treeOf r) op hne hinv (rep_treeOf r)).inv h

theorem wrun_ok (r r' : Rec V) (op : Op V) (ops : List (Op V)) (hp : op ≠ .patch) (h : W.step r op = .ok r') :
    W.run r (op :: ops) = ((W.run r' ops).1, true :: (W.run r' ops).2) := by
  rw [W.run, h]
  exact hp

theorem wrun_err (r : Rec V) (e : Err) (op : Op V) (ops : List (Op V)) (hp : op ≠ .patch) (h : W.step r op = .error e) :
    W.run r (op :: ops) = ((W.run r ops).1, false :: (W.run r ops).2) := by
  rw [W.run, h]
  exact hp

theorem srun_ok (t t' : Tree V) (op : Op V) (ops : List (Op V)) (hp : op ≠ .patch) (h : Spec.step t op = .ok t') :
    Spec.run t (op :: ops) = ((Spec.run t' ops).1, true :: (Spec.run t' ops).2) := by
  rw [Spec.run, h]
  exact hp

theorem srun_err (t : Tree V) (e : Err) (op : Op V) (ops : List (Op V)) (hp : op ≠ .patch) (h : Spec.step t op = .error e) :
    Spec.run t (op :: ops) = ((Spec.run t ops).1, false :: (Spec.run t ops).2) := by
  rw [Spec.run, h]
  exact hp

theorem srun_patch (t : Tree V) (ops : List (Op V)) : Spec.run t (.patch :: ops) = Spec.run t ops := by
  simp [Spec.run]

theorem wrun_patch (r r' : Rec V) (ops : List (Op V)) (h : W.step r .patch = .ok r') :
    W.run r (.patch :: ops) = W.run r' ops := by
  simp [W.run, h]

/-- Histories: outcomes agree, the final record shows the final tree, and a fact `P` about the
plain tree that every admitted operation keeps (on a tree shown by a record) holds at the end. -/
theorem run_stable (P : Tree V → Prop) (ok : Op V → Prop)
    (hstep : ∀ r t t' op, r ≠ [] → Inv r → Rep r t → ok op → Spec.step t op = .ok t' → P t → P t')
    (h : List (Op V)) : ∀ (r : Rec V) (t : Tree V), r ≠ [] → Inv r → Rep r t → (∀ op ∈ h, ok op) → P t →
      (W.run r h).2 = (Spec.run t h).2 ∧ Rep (W.run r h).1 (Spec.run t h).1 ∧
        Inv (W.run r h).1 ∧ (W.run r h).1 ≠ [] ∧ P (Spec.run t h).1 := by
  induction h with
  | nil => intro r t hne hinv hrep _ hp; exact ⟨rfl, hrep, hinv, hne, hp⟩
  | cons op ops ih =>
    intro r t hne hinv hrep hok hp
    have hok2 : ∀ op' ∈ ops, ok op' := fun op' h' => hok op' (by simp [h'])
    have hsim := step_sim r t op hne hinv hrep
    by_cases hpat : op = .patch
    · subst hpat
      rcases hsim.cases with ⟨r', t', h1, h2, hrep', hinv', hne'⟩ | ⟨e, e', h1, h2⟩
      · rw [wrun_patch r r' ops h1, srun_patch]
        simp only [Spec.step, Except.ok.injEq] at h2
        subst h2
        exact ih r' t hne' hinv' hrep' hok2 hp
      · simp [Spec.step] at h2
    · rcases hsim.cases with ⟨r', t', h1, h2, hrep', hinv', hne'⟩ | ⟨e, e', h1, h2⟩
      · rw [wrun_ok r r' op ops hpat h1, srun_ok t t' op ops hpat h2]
        obtain ⟨a, b⟩ := ih r' t' hne' hinv' hrep' hok2 (hstep r t t' op hne hinv hrep (hok op (by simp)) h2 hp)
        exact ⟨by simp [a], b⟩
      · rw [wrun_err r e op ops hpat h1, srun_err t e' op ops hpat h2]
        obtain ⟨a, b⟩ := ih r t hne hinv hrep hok2 hp
        exact ⟨by simp [a], b⟩

theorem run_sim_all (h : List (Op V)) : ∀ (r : Rec V) (t : Tree V), r ≠ [] → Inv r → Rep r t →
    (W.run r h).2 = (Spec.run t h).2 ∧ Rep (W.run r h).1 (Spec.run t h).1 ∧
      Inv (W.run r h).1 ∧ (W.run r h).1 ≠ [] :=
  fun r t hne hinv hrep =>
    let ⟨a, b, c, d, _⟩ := run_stable (fun _ => True) (fun _ => True) (fun _ _ _ _ _ _ _ _ _ _ => trivial) h r t
      hne hinv hrep (fun _ _ => trivial) trivial
    ⟨a, b, c, d⟩

theorem run_sim (h : List (Op V)) : ∀ (r : Rec V) (t : Tree V), (∀ op ∈ h, op.isBasic = true) →
    r ≠ [] → Inv r → Rep r t →
    (W.run r h).2 = (Spec.run t h).2 ∧ Rep (W.run r h).1 (Spec.run t h).1 ∧
      Inv (W.run r h).1 ∧ (W.run r h).1 ≠ [] :=
  fun r t _ => run_sim_all h r t

theorem spec_run_stable (P : Tree V → Prop) (h : List (Op V)) (ok : Op V → Prop)
    (hstep : ∀ t t' op, ok op → Spec.step t op = .ok t' → P t → P t') :
    ∀ t, (∀ op ∈ h, ok op) → P t → P (Spec.run t h).1 := by
  induction h with
  | nil => intro t _ hp; exact hp
  | cons op ops ih =>
    intro t hok hp
    have hok2 : ∀ op' ∈ ops, ok op' := fun op' h' => hok op' (by simp [h'])
    have hop := hok op (by simp)
    by_cases hpat : op = .patch
    · subst hpat; rw [srun_patch]; exact ih t hok2 hp
    · cases hs : Spec.step t op with
      | ok t' => rw [srun_ok t t' op ops hpat hs]; exact ih t' hok2 (hstep t t' op hop hs hp)
      | error e => rw [srun_err t e op ops hpat hs]; exact ih t hok2 hp

/-! ### plain trees: what later operations cannot change -/

theorem spec_copy_of_ok (t t' : Tree V) (s d : Path) (h : Spec.copy t s d = .ok t') :
    s ≠ [] ∧ (∃ n, aget s t = some n) ∧ Spec.checkFresh t d = .ok () ∧
      t' = Spec.regraft s d t ++ ensure emptyGroup d t := by
  unfold Spec.copy at h
  by_cases hs : s = []
  · simp [hs] at h
  · cases hn : aget s t with
    | none => simp [hs, hn] at h
    | some n =>
      cases hc : Spec.checkFresh t d with
      | error e => simp [hs, hn, hc, bind, Except.bind] at h
      | ok u =>
        simp [hs, hn, hc, bind, Except.bind, pure, Except.pure] at h
        exact ⟨hs, ⟨n, rfl⟩, rfl, h.symm⟩

theorem copyRes_of_copy_ok (r : Rec V) (t t' : Tree V) (s d : Path) (hrep : Rep r t) (h : Spec.copy t s d = .ok t') :
    CopyRes t s d t' ∧ ∀ x, kindAt t (d ++ x) = none := by
  obtain ⟨_, _, hcf, rfl⟩ := spec_copy_of_ok t _ s d h
  obtain ⟨_, hdn, _⟩ := (checkFresh_ok_iff t d).1 hcf
  have hfree : ∀ x, aget (d ++ x) t = none := fun x => hrep.below_none d x ((kindAt_none_iff _ _).2 hdn)
  exact ⟨specCopy_res t s d hfree, fun x => (kindAt_none_iff _ _).2 (hfree x)⟩

theorem spec_move_of_ok (t t' : Tree V) (s d : Path) (h : Spec.move t s d = .ok t') :
    ∃ t1, Spec.copy t s d = .ok t1 ∧ t' = removeSub s t1 := by
  unfold Spec.move at h
  by_cases hp : isPre s d = true
  · simp [hp] at h
  · cases hc : Spec.copy t s d with
    | error e => simp [hp, hc, bind, Except.bind] at h
    | ok t1 =>
      simp only [hp, Bool.false_eq_true, ↓reduceIte, hc, bind, Except.bind, Spec.delete] at h
      split at h
      · cases h
      · split at h
        · cases h
        · cases h; exact ⟨t1, rfl, rfl⟩

/-- the operation deletes or moves away `p` or one of its ancestors -/
def removesAbove (p : Path) : Op V → Bool
  | .del q => isPre q p
  | .move s _ => isPre s p
  | _ => false

/-- the operation creates something at, below or above `p` (`set`/`grp` at or below `p`;
`copy`/`move` to a destination on the same branch as `p`) -/
def createsAt (p : Path) : Op V → Bool
  | .set q _ => isPre p q
  | .grp q => isPre p q
  | .copy _ d => isPre p d || isPre d p
  | .move _ d => isPre p d || isPre d p
  | _ => false

theorem prefixes_comparable (a b c : Path) (h1 : isPre a c = true) (h2 : isPre b c = true) :
    isPre a b = true ∨ isPre b a = true := by
  obtain ⟨x, hx⟩ := (isPre_iff _ _).1 h1
  obtain ⟨y, hy⟩ := (isPre_iff _ _).1 h2
  rw [hx] at hy
  rcases List.append_eq_append_iff.1 hy with ⟨a', h5, _⟩ | ⟨c', h5, _⟩
  · exact Or.inl ((isPre_iff _ _).2 ⟨a', h5⟩)
  · exact Or.inr ((isPre_iff _ _).2 ⟨c', h5⟩)

/-- a node stays what it is unless it or an ancestor is deleted or moved away -/
theorem kind_stable (r : Rec V) (t t' : Tree V) (op : Op V) (p : Path) (kd : NKind V) (hrep : Rep r t)
    (hd : removesAbove p op = false) (h : Spec.step t op = .ok t') (hk : kindAt t p = some kd) :
    kindAt t' p = some kd := by
  have hpt : aget p t ≠ none := fun hn => by rw [(kindAt_none_iff t p).2 hn] at hk; cases hk
  have create : ∀ (q : Path) (nd : Node V),
      (do Spec.checkFresh t q; pure (aput q nd (ensure emptyGroup q t)) : Except Err (Tree V)) = .ok t' →
      kindAt t' p = some kd := by
    intro q nd h
    obtain ⟨h1, rfl⟩ := spec_create_of_ok t t' q nd h
    have : p ≠ q := by rintro rfl; exact hpt h1
    rw [kindAt_aput, kindAt_ensure, withAnc, hk]; simp [this]
  have copy_case : ∀ s d t1, Spec.copy t s d = .ok t1 → kindAt t1 p = some kd := by
    intro s d t1 hc
    obtain ⟨hres, hfree⟩ := copyRes_of_copy_ok r t t1 s d hrep hc
    have hb : isPre d p = false := by
      cases hx : isPre d p with
      | false => rfl
      | true =>
        obtain ⟨x, rfl⟩ := (isPre_iff _ _).1 hx
        rw [hfree x] at hk; cases hk
    rw [hres.kind_other p hb]
    simp [withAnc, hk]
  cases op with
  | set q v => exact create q _ h
  | grp q => exact create q _ h
  | del q =>
    have hd' : isPre q p = false := hd
    rw [spec_delete_of_ok t t' q h, kindAt_removeSub, hd', hk]; rfl
  | sattr q k v =>
    obtain ⟨n, as, hn, rfl⟩ := spec_setAttr_of_ok t t' q k v h
    rw [kindAt_aput_attrs t q p n as hn, hk]
  | dattr q k =>
    obtain ⟨n, as, hn, rfl⟩ := spec_delAttr_of_ok t t' q k h
    rw [kindAt_aput_attrs t q p n as hn, hk]
  | copy s d => exact copy_case s d t' h
  | move s d =>
    obtain ⟨t1, hc, rfl⟩ := spec_move_of_ok t t' s d h
    have hd' : isPre s p = false := hd
    rw [kindAt_removeSub, hd']
    exact copy_case s d t1 hc
  | patch => simp only [Spec.step, Except.ok.injEq] at h; subst h; exact hk

/-- a removed subtree stays absent unless something is created, copied or moved there -/
theorem absent_stable (r : Rec V) (t t' : Tree V) (op : Op V) (p : Path) (hrep : Rep r t)
    (hc : createsAt p op = false) (h : Spec.step t op = .ok t') (hk : ∀ x, kindAt t (p ++ x) = none) :
    ∀ x, kindAt t' (p ++ x) = none := by
  have create : ∀ (q : Path) (nd : Node V), isPre p q = false →
      (do Spec.checkFresh t q; pure (aput q nd (ensure emptyGroup q t)) : Except Err (Tree V)) = .ok t' →
      ∀ x, kindAt t' (p ++ x) = none := by
    intro q nd hq h x
    obtain ⟨_, rfl⟩ := spec_create_of_ok t t' q nd h
    have h1 : p ++ x ≠ q := by rintro rfl; rw [isPre_append] at hq; cases hq
    have h2 : p ++ x ∉ properPrefixes q := by
      intro hm
      obtain ⟨y, _, rfl⟩ := (mem_properPrefixes _ _).1 hm
      rw [List.append_assoc, isPre_append] at hq; cases hq
    rw [kindAt_aput, kindAt_ensure, withAnc, hk x]; simp [h1, h2]
  have copy_case : ∀ s d t1, (isPre p d || isPre d p) = false → Spec.copy t s d = .ok t1 →
      ∀ x, kindAt t1 (p ++ x) = none := by
    intro s d t1 hpd hcp x
    simp only [Bool.or_eq_false_iff] at hpd
    obtain ⟨hres, _⟩ := copyRes_of_copy_ok r t t1 s d hrep hcp
    have hb : isPre d (p ++ x) = false := by
      cases hx : isPre d (p ++ x) with
      | false => rfl
      | true =>
        rcases prefixes_comparable d p (p ++ x) hx (isPre_append p x) with h1 | h1
        · rw [hpd.2] at h1; cases h1
        · rw [hpd.1] at h1; cases h1
    rw [hres.kind_other _ hb]
    have : p ++ x ∉ properPrefixes d := by
      intro hm
      obtain ⟨y, _, hy⟩ := (mem_properPrefixes _ _).1 hm
      have : isPre p d = true := (isPre_iff _ _).2 ⟨x ++ y, by rw [hy]; simp⟩
      rw [hpd.1] at this; cases this
    simp [withAnc, hk x, this]
  have attr : ∀ (q : Path) (n : Node V) (as : List (Key × V)), aget q t = some n →
      ∀ x, kindAt (aput q { n with attrs := as } t) (p ++ x) = none :=
    fun q n as hn x => by rw [kindAt_aput_attrs t q _ n as hn, hk x]
  cases op with
  | set q v => exact create q _ hc h
  | grp q => exact create q _ hc h
  | del q =>
    intro x
    rw [spec_delete_of_ok t t' q h, kindAt_removeSub, hk x]; simp
  | sattr q k v =>
    obtain ⟨n, as, hn, rfl⟩ := spec_setAttr_of_ok t t' q k v h
    exact attr q n as hn
  | dattr q k =>
    obtain ⟨n, as, hn, rfl⟩ := spec_delAttr_of_ok t t' q k h
    exact attr q n as hn
  | copy s d => exact copy_case s d t' hc h
  | move s d =>
    obtain ⟨t1, hcp, rfl⟩ := spec_move_of_ok t t' s d h
    intro x
    rw [kindAt_removeSub, copy_case s d t1 hc hcp x]
    simp
  | patch => simp only [Spec.step, Except.ok.injEq] at h; subst h; exact hk

end MetadorModel.Overlay
