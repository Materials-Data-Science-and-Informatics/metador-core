import MetadorModel.Proofs.ContainerToc
/-!
# The container invariant and its preservation by the metadata operations
-/
namespace MetadorModel.Container

/-- a metadata object (schema `r`, uuid `u`) is attached at path `p` of the raw tree -/
def ObjAt (t : Tree) (p : Path) (r : SRef) (u : Nat) : Prop :=
  ∃ base m, isInternal base = false ∧ p = base ++ [.metaDir m, .obj r u] ∧ get? t p ≠ none

def UsedIn (t : Tree) (r : SRef) : Prop := ∃ p u, ObjAt t p r u

/-- what may live outside `/metador_container` -/
inductive UShape : Path → Node → Prop
  | user (q : Path) (n : Node) : isInternal q = false → (n = .grp ∨ ∃ tok, n = .ds (.data tok)) → UShape q n
  | metaDir (base : Path) (m : String) : isInternal base = false → UShape (base ++ [.metaDir m]) .grp
  | obj (base : Path) (m : String) (r : SRef) (u : Nat) (tok : String) : isInternal base = false →
      UShape (base ++ [.metaDir m, .obj r u]) (.ds (.data tok))

/-- tree part of the invariant; directories in `ex` are exempt from "the owning dataset exists" -/
structure TreeOKx (e : Env) (t : Tree) (ex : Path → Prop) : Prop where
  keys : KeysOK t
  pclosed : PClosed t
  ushape : ∀ q n, q ≠ [] → q.head? ≠ some .toc → get? t q = some n → UShape q n
  host_ds : ∀ base m, isInternal base = false → get? t (base ++ [.metaDir m]) ≠ none →
    ¬ ex (base ++ [.metaDir m]) → (m = "" ∨ ∃ v, get? t (base ++ [.user m]) = some (.ds v))
  host_obj : ∀ base m, isInternal base = false → get? t (base ++ [.metaDir m]) ≠ none →
    ∃ r u, get? t (base ++ [.metaDir m, .obj r u]) ≠ none
  objenv : ∀ p r u, ObjAt t p r u → ∃ i, e.info r = some i
  onename : ∀ base m r u r' u', isInternal base = false →
    get? t (base ++ [.metaDir m, .obj r u]) ≠ none → get? t (base ++ [.metaDir m, .obj r' u']) ≠ none →
    r.name = r'.name → r = r' ∧ u = u'

abbrev TreeOK (e : Env) (t : Tree) : Prop := TreeOKx e t (fun _ => False)

/-- the non-TOC half of the invariant: user nodes and their metadata directories -/
structure MetaOK (e : Env) (s : St) : Prop where
  ushape : ∀ q n, q ≠ [] → q.head? ≠ some .toc → get? s.raw q = some n → UShape q n
  /-- a metadata directory belongs to an existing node of the right kind and is not empty -/
  host : ∀ base m, isInternal base = false → get? s.raw (base ++ [.metaDir m]) ≠ none →
    (m = "" ∨ ∃ v, get? s.raw (base ++ [.user m]) = some (.ds v)) ∧
    ∃ r u, get? s.raw (base ++ [.metaDir m, .obj r u]) ≠ none
  objenv : ∀ p r u, ObjAt s.raw p r u → ∃ i, e.info r = some i
  onename : ∀ base m r u r' u', isInternal base = false →
    get? s.raw (base ++ [.metaDir m, .obj r u]) ≠ none → get? s.raw (base ++ [.metaDir m, .obj r' u']) ≠ none →
    r.name = r'.name → r = r' ∧ u = u'
  uniq : ∀ p p' r r' u, ObjAt s.raw p r u → ObjAt s.raw p' r' u → p = p' ∧ r = r'
  bound : ∀ p r u, ObjAt s.raw p r u → u < s.next

/-- The invariant of the container model: well-formed raw tree, the TOC subtree and the caches
are exactly what the attached metadata objects demand. -/
structure Inv (e : Env) (s : St) : Prop where
  keys : KeysOK s.raw
  pclosed : PClosed s.raw
  mok : MetaOK e s
  toc : TocRaw e (ObjAt s.raw) (UsedIn s.raw) s.raw
  scache : SchemaCache e (UsedIn s.raw) s.c
  lcache : LinkCache (ObjAt s.raw) s.c

theorem Inv.treeOK {e : Env} {s : St} (hi : Inv e s) : TreeOK e s.raw :=
  ⟨hi.keys, hi.pclosed, hi.mok.ushape, fun b m hb hg _ => (hi.mok.host b m hb hg).1,
    fun b m hb hg => (hi.mok.host b m hb hg).2, hi.mok.objenv, hi.mok.onename⟩

theorem MetaOK.of_treeOK {e : Env} {s : St} (ht : TreeOK e s.raw)
    (hu : ∀ p p' r r' u, ObjAt s.raw p r u → ObjAt s.raw p' r' u → p = p' ∧ r = r')
    (hb : ∀ p r u, ObjAt s.raw p r u → u < s.next) : MetaOK e s :=
  ⟨ht.ushape, fun b m hb' hg => ⟨ht.host_ds b m hb' hg id, ht.host_obj b m hb' hg⟩, ht.objenv, ht.onename, hu, hb⟩

theorem TocRaw.frame {e : Env} {L : Path → SRef → Nat → Prop} {U : SRef → Prop} {t t' : Tree}
    (h : TocRaw e L U t) (hf : ∀ q, q.head? = some .toc → get? t' q = get? t q) : TocRaw e L U t' := by
  refine ⟨?_, ?_, ?_, ?_, fun r => ?_, fun p r u hL => ?_, fun r u hL => ?_, ?_, fun r => ?_, fun r => ?_,
    fun r => ?_, ?_, fun pk => ?_, fun rest hne => ?_⟩
  · rw [hf _ rfl]; exact h.root
  · rw [hf _ rfl]; exact h.ver
  · rw [hf _ rfl]; exact h.uid
  · exact h.links.congr (hf _ rfl) Iff.rfl
  · exact (h.ldir r).congr (hf _ rfl) Iff.rfl
  · rw [hf _ rfl]; exact h.link_some p r u hL
  · rw [hf _ rfl]; exact h.link_none r u hL
  · exact h.schemas.congr (hf _ rfl) Iff.rfl
  · exact (h.sdir r).congr (hf _ rfl) Iff.rfl
  · exact (h.json r).congr (hf _ rfl) Iff.rfl
  · exact (h.compat r).congr (hf _ rfl) Iff.rfl
  · exact h.packages.congr (hf _ rfl) Iff.rfl
  · exact (h.pkg pk).congr (hf _ rfl) Iff.rfl
  · rw [hf _ rfl] at hne; exact h.shape rest hne

theorem isInternal_append (a b : Path) : isInternal (a ++ b) = (isInternal a || isInternal b) := by
  simp [isInternal, List.any_append]

theorem isInternal_metaDir (base : Path) (m : String) (rest : Path) :
    isInternal (base ++ .metaDir m :: rest) = true := by
  simp [isInternal, Key.internal]

theorem isInternal_head_ne_toc {q : Path} (h : isInternal q = false) : q.head? ≠ some .toc := by
  cases q with
  | nil => simp
  | cons k q =>
    simp only [isInternal, List.any_cons, Bool.or_eq_false_iff] at h
    simp only [List.head?_cons, ne_eq, Option.some.injEq]
    rintro rfl
    simp [Key.internal] at h

theorem objPath_head {base : Path} {m : String} {k : List Key} (h : isInternal base = false) :
    (base ++ .metaDir m :: k).head? ≠ some .toc := by
  cases base with
  | nil => simp
  | cons x base =>
    have := isInternal_head_ne_toc h
    simpa using this

theorem ObjAt.head {t : Tree} {p : Path} {r : SRef} {u : Nat} (h : ObjAt t p r u) : p.head? ≠ some .toc := by
  obtain ⟨base, m, hb, rfl, -⟩ := h
  exact objPath_head hb

theorem ObjAt.congr {t t' : Tree} (hf : ∀ q, q.head? ≠ some .toc → get? t' q = get? t q)
    (p : Path) (r : SRef) (u : Nat) : ObjAt t' p r u ↔ ObjAt t p r u := by
  constructor
  · rintro ⟨base, m, hb, rfl, hg⟩
    exact ⟨base, m, hb, rfl, by rw [← hf _ (objPath_head hb)]; exact hg⟩
  · rintro ⟨base, m, hb, rfl, hg⟩
    exact ⟨base, m, hb, rfl, by rw [hf _ (objPath_head hb)]; exact hg⟩

/-- the link relation with one more link, whose uuid was not in use -/
theorem LUniq.add {L : Path → SRef → Nat → Prop} (h : LUniq L) {p0 : Path} {r0 : SRef} {u0 : Nat}
    (hfresh : ¬ ∃ p r, L p r u0) : LUniq fun p r u => L p r u ∨ (p = p0 ∧ r = r0 ∧ u = u0) := by
  rintro p p' r r' u (h1 | ⟨hp1, hr1, hu1⟩) (h2 | ⟨hp2, hr2, hu2⟩)
  · exact h p p' r r' u h1 h2
  · exact absurd ⟨p, r, hu2 ▸ h1⟩ hfresh
  · exact absurd ⟨p', r', hu1 ▸ h2⟩ hfresh
  · exact ⟨hp1.trans hp2.symm, hr1.trans hr2.symm⟩

theorem exists_link_add {L : Path → SRef → Nat → Prop} {p0 : Path} {r0 : SRef} {u0 : Nat} (r : SRef) :
    (∃ p u, L p r u ∨ (p = p0 ∧ r = r0 ∧ u = u0)) ↔ ((∃ p u, L p r u) ∨ r = r0) :=
  ⟨fun ⟨p, u, h⟩ => h.elim (fun h => .inl ⟨p, u, h⟩) fun h => .inr h.2.1,
    fun h => h.elim (fun ⟨p, u, h⟩ => ⟨p, u, .inl h⟩) fun h => ⟨p0, u0, .inr ⟨rfl, h, rfl⟩⟩⟩

/-- the step function of the fold in `MetadorMeta.__init__` -/
def loadStep (base : Path) (acc : List (String × Stored)) (kn : Key × Node) : List (String × Stored) :=
  match kn.1 with
  | .obj r u => alSet acc r.name ⟨u, r, base ++ [.obj r u]⟩
  | _ => acc

theorem openHandle_eq (s : St) (node : Path) (isDs : Bool) :
    openHandle s node isDs =
      ⟨metaBase node isDs, (children s.raw (metaBase node isDs)).foldl (loadStep (metaBase node isDs)) []⟩ := rfl

theorem loadStep_not_obj (base : Path) (acc : List (String × Stored)) {k : Key} (n : Node)
    (h : ∀ r u, k ≠ .obj r u) : loadStep base acc (k, n) = acc := by
  cases k <;> first | rfl | exact absurd rfl (h _ _)

/-- the table built from a listing in which the schema name determines the object: by induction from the
right, so that the last entry is the one that was written last -/
theorem loadStep_fold_get (base : Path) (name : String) (st : Stored) (l : List (Key × Node))
    (hd : ∀ r u n r' u' n', (Key.obj r u, n) ∈ l → (Key.obj r' u', n') ∈ l → r.name = r'.name → r = r' ∧ u = u') :
    alGet (l.foldl (loadStep base) []) name = some st ↔
      ∃ r u n, (Key.obj r u, n) ∈ l ∧ r.name = name ∧ st = ⟨u, r, base ++ [.obj r u]⟩ := by
  induction l using List.reverseRecOn with
  | nil => simp
  | append_singleton l x ih =>
    obtain ⟨k, n⟩ := x
    have ih := ih fun r u n r' u' n' h h' => hd r u n r' u' n' (List.mem_append_left _ h) (List.mem_append_left _ h')
    -- an entry that is not an object called `name` does not matter
    have hskip : (∀ r u, k = .obj r u → r.name ≠ name) →
        ((∃ r u n', (Key.obj r u, n') ∈ l ∧ r.name = name ∧ st = ⟨u, r, base ++ [.obj r u]⟩) ↔
          ∃ r u n', (Key.obj r u, n') ∈ l ++ [(k, n)] ∧ r.name = name ∧ st = ⟨u, r, base ++ [.obj r u]⟩) := fun hk =>
      exists_congr fun r => exists_congr fun u => exists_congr fun n' => and_congr_left fun h => by
        rw [List.mem_append, List.mem_singleton]
        exact ⟨Or.inl, fun h' => h'.resolve_right fun he => hk r u (Prod.mk.inj he).1.symm h.1⟩
    rw [List.foldl_append, List.foldl_cons, List.foldl_nil]
    by_cases hk : ∃ r u, k = .obj r u
    · obtain ⟨r, u, rfl⟩ := hk
      simp only [loadStep, alGet_alSet]
      by_cases hn : name = r.name
      · subst hn
        rw [if_pos rfl]
        constructor
        · intro h; cases h; exact ⟨r, u, n, by simp, rfl, rfl⟩
        · rintro ⟨r', u', n', hm, hnm, rfl⟩
          obtain ⟨rfl, rfl⟩ := hd r' u' n' r u n hm (by simp) hnm
          rfl
      · rw [if_neg hn, ih]
        exact hskip fun r' u' he => by cases he; exact fun h => hn h.symm
    · rw [loadStep_not_obj base _ n fun r u h => hk ⟨r, u, h⟩, ih]
      exact hskip fun r u h => absurd ⟨r, u, h⟩ hk

theorem children_nodup {t : Tree} (hk : KeysOK t) (p : Path) : (children t p).Nodup := by
  have htn : t.Nodup := List.Nodup.of_map _ hk.nodup
  unfold children
  refine List.Nodup.filterMap ?_ htn
  rintro ⟨q, n⟩ ⟨q', n'⟩ ⟨k, m⟩ h1 h2
  simp only [Option.mem_def] at h1 h2
  have aux : ∀ (q : Path) (n : Node), (match q.getLast? with
      | some k => if (q.length = p.length + 1 && under p q) = true then some (k, n) else none
      | none => none) = some (k, m) → q = p ++ [k] ∧ n = m := by
    intro q n h
    cases hl : q.getLast? with
    | none => simp [hl] at h
    | some k' =>
      simp only [hl] at h
      split_ifs at h with hc
      cases h
      simp only [Bool.and_eq_true, decide_eq_true_eq, under_iff] at hc
      obtain ⟨q0, rfl⟩ := List.getLast?_eq_some_iff.mp hl
      obtain ⟨hlen, b, hb⟩ := hc
      have h1 : q0.length = p.length := by simpa using hlen
      exact ⟨by rw [(List.append_inj hb h1.symm).1], rfl⟩
  obtain ⟨rfl, rfl⟩ := aux q n h1
  obtain ⟨rfl, rfl⟩ := aux q' n' h2
  rfl

/-- a `node.meta` handle agrees with the raw tree -/
structure HOK (s : St) (h : Handle) : Prop where
  base : ∃ b m, isInternal b = false ∧ h.baseDir = b ++ [.metaDir m] ∧ get? s.raw b = some .grp ∧
    (m = "" ∨ ∃ v, get? s.raw (b ++ [.user m]) = some (.ds v))
  objs : ∀ name st, alGet h.objs name = some st ↔
    ∃ r u, r.name = name ∧ st = ⟨u, r, h.baseDir ++ [.obj r u]⟩ ∧ get? s.raw (h.baseDir ++ [.obj r u]) ≠ none
  nodup : (alKeys h.objs).Nodup

theorem loadStep_fold_nodup (base : Path) : ∀ (l : List (Key × Node)) (acc : List (String × Stored)),
    (alKeys acc).Nodup → (alKeys (l.foldl (loadStep base) acc)).Nodup
  | [], acc, h => h
  | (k, n) :: l, acc, h => by
    rw [List.foldl_cons]
    apply loadStep_fold_nodup base l
    cases k <;> simp only [loadStep] <;> first | exact h | exact alKeys_alSet_nodup h _ _

theorem loadObjs_spec {e : Env} {s : St} {ex : Path → Prop} (ht : TreeOKx e s.raw ex) (b : Path) (m : String)
    (hb : isInternal b = false) (name : String) (st : Stored) :
    alGet ((children s.raw (b ++ [.metaDir m])).foldl (loadStep (b ++ [.metaDir m])) []) name = some st ↔
      ∃ r u, r.name = name ∧ st = ⟨u, r, (b ++ [.metaDir m]) ++ [.obj r u]⟩ ∧
        get? s.raw ((b ++ [.metaDir m]) ++ [.obj r u]) ≠ none := by
  have g : ∀ {r u n}, (Key.obj r u, n) ∈ children s.raw (b ++ [.metaDir m]) →
      get? s.raw (b ++ [.metaDir m, .obj r u]) ≠ none := fun {r u _} h => by
    simpa using (by rw [(mem_children ht.keys).mp h]; simp : get? s.raw (b ++ [Key.metaDir m] ++ [Key.obj r u]) ≠ none)
  rw [loadStep_fold_get _ _ _ _ fun r u n r' u' n' h h' => ht.onename b m r u r' u' hb (g h) (g h')]
  constructor
  · rintro ⟨r, u, n, hm, hn, rfl⟩
    exact ⟨r, u, hn, rfl, by simpa using g hm⟩
  · rintro ⟨r, u, hn, rfl, hg⟩
    obtain ⟨n, hx⟩ := Option.ne_none_iff_exists'.mp hg
    exact ⟨r, u, n, (mem_children ht.keys).mpr hx, hn, rfl⟩

theorem metaBase_grp (p : Path) : metaBase p false = p ++ [.metaDir ""] := rfl

theorem metaBase_ds (b : Path) (m : String) : metaBase (b ++ [.user m]) true = b ++ [.metaDir m] := by
  simp [metaBase]

theorem user_path_snoc {q : Path} (hq : q ≠ []) (hi : isInternal q = false) :
    ∃ b m, q = b ++ [.user m] ∧ isInternal b = false := by
  obtain ⟨b, k, rfl⟩ : ∃ b k, q = b ++ [k] := ⟨q.dropLast, q.getLast hq, (List.dropLast_append_getLast hq).symm⟩
  rw [isInternal_append, Bool.or_eq_false_iff] at hi
  have hk : k.internal = false := by simpa [isInternal] using hi.2
  cases k with
  | user m => exact ⟨b, m, rfl, hi.1⟩
  | _ => cases hk

theorem nodeKind_some {s : St} {p : Path} {k : Bool} (h : nodeKind s p = some k) :
    (k = false ∧ get? s.raw p = some .grp) ∨ (k = true ∧ ∃ v, get? s.raw p = some (.ds v)) := by
  unfold nodeKind at h
  cases hg : get? s.raw p with
  | none => simp [hg] at h
  | some n =>
    cases n with
    | grp => simp [hg] at h; exact Or.inl ⟨h, rfl⟩
    | ds v => simp [hg] at h; exact Or.inr ⟨h, v, rfl⟩

theorem openHandle_HOK {e : Env} {s : St} {ex : Path → Prop} (ht : TreeOKx e s.raw ex) {p : Path} {k : Bool}
    (hp : isInternal p = false) (hk : nodeKind s p = some k) : HOK s (openHandle s p k) := by
  rcases nodeKind_some hk with ⟨rfl, hg⟩ | ⟨rfl, v, hg⟩
  · rw [openHandle_eq, metaBase_grp]
    exact ⟨⟨p, "", hp, rfl, hg, Or.inl rfl⟩, fun name st => loadObjs_spec ht p "" hp name st,
      loadStep_fold_nodup _ _ _ (by simp [alKeys])⟩
  · have hp0 : p ≠ [] := by rintro rfl; simp at hg
    obtain ⟨b, m, rfl, hb⟩ := user_path_snoc hp0 hp
    rw [openHandle_eq, metaBase_ds]
    have hbg : get? s.raw b = some .grp := ht.pclosed b (.user m) (by rw [hg]; simp)
    exact ⟨⟨b, m, hb, rfl, hbg, Or.inr ⟨v, hg⟩⟩, fun name st => loadObjs_spec ht b m hb name st,
      loadStep_fold_nodup _ _ _ (by simp [alKeys])⟩

theorem metaDir_is_grp {e : Env} {t : Tree} {ex : Path → Prop} (ht : TreeOKx e t ex) {b : Path} {m : String}
    (hb : isInternal b = false) {n : Node} (h : get? t (b ++ [.metaDir m]) = some n) : n = .grp := by
  have := ht.ushape _ n (by simp) (objPath_head hb) h
  generalize hq : b ++ [Key.metaDir m] = q at this
  cases this with
  | user q n hi _ => exact absurd hi (hq ▸ by simp [isInternal, Key.internal])
  | metaDir => rfl
  | obj base m' r u tok =>
    have := congrArg List.getLast? hq
    simp at this

theorem user_internal_false {e : Env} {t : Tree} {ex : Path → Prop} (ht : TreeOKx e t ex) {b : Path} {m : String}
    {n : Node} (hb : isInternal b = false) (hv : get? t (b ++ [.user m]) = some n) :
    isInternal (b ++ [Key.user m]) = false := by
  have := ht.ushape _ _ (by simp) (by
    cases b with
    | nil => simp
    | cons x b => simpa using isInternal_head_ne_toc hb) hv
  generalize hq : b ++ [Key.user m] = q at this
  cases this with
  | user q n hi' _ => exact hi'
  | metaDir b' m'' _ => have := congrArg List.getLast? hq; simp at this
  | obj b' m'' r' u' tok' _ => have := congrArg List.getLast? hq; simp at this

theorem TreeOKx.host_of_user {e : Env} {t t' : Tree} {ex : Path → Prop} (ht : TreeOKx e t ex)
    (huser : ∀ q, isInternal q = false → get? t' q = get? t q) {b : Path} {m : String} (hb : isInternal b = false)
    (h : m = "" ∨ ∃ v, get? t (b ++ [.user m]) = some (.ds v)) :
    m = "" ∨ ∃ v, get? t' (b ++ [.user m]) = some (.ds v) :=
  h.imp_right fun ⟨v, hv⟩ => ⟨v, (huser _ (user_internal_false ht hb hv)).trans hv⟩

theorem TreeOKx.obj_data {e : Env} {t : Tree} {ex : Path → Prop} (ht : TreeOKx e t ex) {b : Path} {m : String}
    {r : SRef} {u : Nat} (hb : isInternal b = false) (hg : get? t (b ++ [.metaDir m, .obj r u]) ≠ none) :
    ∃ tok, get? t (b ++ [.metaDir m, .obj r u]) = some (.ds (.data tok)) := by
  cases hx : get? t (b ++ [.metaDir m, .obj r u]) with
  | none => exact absurd hx hg
  | some n =>
    have := ht.ushape _ n (by simp) (objPath_head hb) hx
    generalize hq : b ++ [Key.metaDir m, Key.obj r u] = pp at this
    cases this with
    | user pp n hi' _ => rw [← hq, isInternal_metaDir] at hi'; cases hi'
    | metaDir b' m' _ => have := congrArg List.getLast? hq; simp at this
    | obj b' m' r' u' tok _ => exact ⟨tok, rfl⟩

/-- a path through a metadata directory is internal -/
theorem ne_meta_of_not_internal {q b : Path} {m : String} {rest : Path} (hq : isInternal q = false) :
    q ≠ b ++ .metaDir m :: rest := by
  rintro rfl
  rw [isInternal_metaDir] at hq; cases hq

/-- the proper prefixes of an object path below the group `b`: the metadata directory, or groups -/
theorem mid_objPath {t : Tree} (hc : PClosed t) {b : Path} (hbg : get? t b = some .grp) {m : String} {r : SRef}
    {u : Nat} {q : Path} (hm : isMid [] (b ++ [.metaDir m, .obj r u]) q = true) :
    q = b ++ [.metaDir m] ∨ get? t q = some .grp := by
  obtain ⟨-, hpre, hne⟩ := isMid_nil_iff.mp hm
  rw [show b ++ [Key.metaDir m, Key.obj r u] = b ++ [Key.metaDir m] ++ [Key.obj r u] by simp] at hpre hne
  rcases prefix_snoc_iff.mp hpre with h | h
  · exact absurd h hne
  · rcases prefix_snoc_iff.mp h with h | h
    · exact Or.inl h
    · by_cases hqb : q = b
      · exact Or.inr (hqb ▸ hbg)
      · exact Or.inr (prefix_grp' hc h hqb (by rw [hbg]; simp))

/-- The tree part of the invariant is local to a metadata directory. A change confined to `b ++ [metaDir m]` keeps it
if below the directory there are only old nodes and objects of known schemas, the directory (if present) belongs
to its dataset and is not empty, and a schema name occurs in it once. -/
theorem treeOK_dir {e : Env} {t t' : Tree} {ex : Path → Prop} (ht : TreeOKx e t ex) (hk : KeysOK t') (hc : PClosed t')
    {b : Path} {m : String} (hb : isInternal b = false)
    (hout : ∀ q, q.head? ≠ some .toc → ¬ b ++ [.metaDir m] <+: q → get? t' q = get? t q)
    (hin : ∀ k rest n, get? t' (b ++ .metaDir m :: k :: rest) = some n →
      get? t (b ++ .metaDir m :: k :: rest) = some n ∨
        ∃ r u tok i, k = .obj r u ∧ rest = [] ∧ n = .ds (.data tok) ∧ e.info r = some i)
    (hhost : ¬ ex (b ++ [.metaDir m]) → m = "" ∨ ∃ v, get? t (b ++ [.user m]) = some (.ds v))
    (hne : get? t' (b ++ [.metaDir m]) ≠ none → ∃ r u, get? t' (b ++ [.metaDir m, .obj r u]) ≠ none)
    (hname : ∀ r u r' u', get? t' (b ++ [.metaDir m, .obj r u]) ≠ none →
      get? t' (b ++ [.metaDir m, .obj r' u']) ≠ none → r.name = r'.name → r = r' ∧ u = u') :
    TreeOKx e t' ex := by
  -- another directory, and what is in it, does not lie below this one
  have hcase : ∀ b' m', isInternal b' = false →
      (b' = b ∧ m' = m) ∨ ∀ rest, get? t' (b' ++ .metaDir m' :: rest) = get? t (b' ++ .metaDir m' :: rest) := by
    intro b' m' hb'
    by_cases hd : b' = b ∧ m' = m
    · exact Or.inl hd
    · refine Or.inr fun rest => hout _ (objPath_head hb') ?_
      rintro ⟨c, hc'⟩
      have h1 : b ++ Key.metaDir m :: c = b' ++ Key.metaDir m' :: rest := by simpa using hc'
      obtain ⟨h2, h3, -⟩ := internal_split_unique b b' _ _ _ _ hb hb' rfl rfl h1
      cases h3; exact hd ⟨h2.symm, rfl⟩
  have huser : ∀ q, isInternal q = false → get? t' q = get? t q := fun q hq =>
    hout q (isInternal_head_ne_toc hq) fun ⟨c, hc'⟩ => ne_meta_of_not_internal hq (by simpa using hc'.symm)
  refine ⟨hk, hc, fun q n hq hqt hg => ?_, fun b' m' hb' hg hex => ?_, fun b' m' hb' hg => ?_, ?_,
    fun b' m' r u r' u' hb' h1 h2 hn => ?_⟩
  · by_cases hp : b ++ [.metaDir m] <+: q
    · obtain ⟨c, rfl⟩ := hp
      cases c with
      | nil =>
        rw [List.append_nil] at hg ⊢
        obtain ⟨r, u, ho⟩ := hne (by rw [hg]; simp)
        have := hc (b ++ [.metaDir m]) (.obj r u) (by simpa using ho)
        rw [hg] at this; cases this
        exact .metaDir b m hb
      | cons k rest =>
        rw [show b ++ [Key.metaDir m] ++ k :: rest = b ++ Key.metaDir m :: k :: rest by simp] at hq hqt hg ⊢
        rcases hin k rest n hg with hold | ⟨r, u, tok, i, rfl, rfl, rfl, -⟩
        · exact ht.ushape _ n hq hqt hold
        · exact .obj b m r u tok hb
    · exact ht.ushape q n hq hqt ((hout q hqt hp).symm.trans hg)
  · rcases hcase b' m' hb' with ⟨rfl, rfl⟩ | ho
    · exact ht.host_of_user huser hb' (hhost hex)
    · exact ht.host_of_user huser hb' (ht.host_ds b' m' hb' (ho [] ▸ hg) hex)
  · rcases hcase b' m' hb' with ⟨rfl, rfl⟩ | ho
    · exact hne hg
    · obtain ⟨r, u, h0⟩ := ht.host_obj b' m' hb' (ho [] ▸ hg)
      exact ⟨r, u, ho _ ▸ h0⟩
  · rintro p r u ⟨b', m', hb', rfl, hg⟩
    rcases hcase b' m' hb' with ⟨rfl, rfl⟩ | ho
    · obtain ⟨n, hn⟩ := Option.ne_none_iff_exists'.mp hg
      rcases hin (.obj r u) [] n hn with hold | ⟨r', u', tok, i, hk', -, -, hi⟩
      · exact ht.objenv _ r u ⟨b', m', hb', rfl, by rw [hold]; simp⟩
      · cases hk'; exact ⟨i, hi⟩
    · exact ht.objenv _ r u ⟨b', m', hb', rfl, ho _ ▸ hg⟩
  · rcases hcase b' m' hb' with ⟨rfl, rfl⟩ | ho
    · exact hname r u r' u' h1 h2 hn
    · exact ht.onename b' m' r u r' u' hb' (ho _ ▸ h1) (ho _ ▸ h2) hn

/-- the tree part of the invariant only looks outside `/metador_container` -/
theorem treeOK_of_frame {e : Env} {t t' : Tree} {ex : Path → Prop} (ht : TreeOKx e t ex) (hk : KeysOK t')
    (hc : PClosed t') (hf : ∀ q, q.head? ≠ some .toc → get? t' q = get? t q) : TreeOKx e t' ex := by
  refine ⟨hk, hc, ?_, ?_, ?_, fun p r u ho => ht.objenv p r u ((ObjAt.congr hf p r u).mp ho), ?_⟩
  · intro q n hq hqt hg
    rw [hf q hqt] at hg
    exact ht.ushape q n hq hqt hg
  · intro b m hb hg hne
    rw [hf _ (objPath_head hb)] at hg
    exact ht.host_of_user (fun q hq => hf q (isInternal_head_ne_toc hq)) hb (ht.host_ds b m hb hg hne)
  · intro b m hb hg
    rw [hf _ (objPath_head hb)] at hg
    obtain ⟨r, u, h⟩ := ht.host_obj b m hb hg
    exact ⟨r, u, by rw [hf _ (objPath_head hb)]; exact h⟩
  · intro b m r u r' u' hb h1 h2 hn
    rw [hf _ (objPath_head hb)] at h1 h2
    exact ht.onename b m r u r' u' hb h1 h2 hn

theorem storeObj_get {e : Env} {s : St} (hi : Inv e s) {b : Path} {m : String} (hb : isInternal b = false)
    (hbg : get? s.raw b = some .grp) {ref : SRef} {u : Nat} {tok : String} {t1 : Tree}
    (h1 : rawCreate s.raw (b ++ [.metaDir m, .obj ref u]) (.ds (.data tok)) = .ok t1) :
    ∀ q, get? t1 q =
      if q = b ++ [.metaDir m, .obj ref u] then some (.ds (.data tok))
      else if q = b ++ [.metaDir m] then some .grp else get? s.raw q := by
  intro q
  rw [rawCreate_get? h1 q]
  by_cases hq1 : q = b ++ [.metaDir m, .obj ref u]
  · rw [if_pos hq1, if_pos hq1]
  · rw [if_neg hq1, if_neg hq1]
    by_cases hq2 : q = b ++ [.metaDir m]
    · subst hq2
      rw [if_pos rfl]
      cases hg : get? s.raw (b ++ [Key.metaDir m]) with
      | some n => rw [metaDir_is_grp hi.treeOK hb hg]
      | none =>
        have : isMid [] (b ++ [Key.metaDir m, Key.obj ref u]) (b ++ [Key.metaDir m]) = true :=
          isMid_nil_iff.mpr ⟨by simp, ⟨[Key.obj ref u], by simp⟩, fun h => hq1 h⟩
        simp [this]
    · rw [if_neg hq2]
      cases hg : get? s.raw q with
      | some n => rfl
      | none =>
        cases hm : isMid [] (b ++ [Key.metaDir m, Key.obj ref u]) q with
        | false => rfl
        | true =>
          rcases mid_objPath hi.pclosed hbg hm with h | h
          · exact absurd h hq2
          · rw [hg] at h; cases h

/-! ### the TOC part of the invariant, relative to a link relation

`copy` and `move` pass through states in which the TOC does not yet describe the attached objects
(unlinked copies, links with stale targets). `TreeOKx` is the part of `Inv` about user nodes and
metadata directories; `TocOK` is the part about `/metador_container` and the caches, relative to a
relation `L` ("the TOC links uuid `u` of schema `r` to path `p`"). -/

structure TocOK (e : Env) (s : St) (L : Path → SRef → Nat → Prop) : Prop where
  toc : TocRaw e L (fun r => ∃ p u, L p r u) s.raw
  scache : SchemaCache e (fun r => ∃ p u, L p r u) s.c
  lcache : LinkCache L s.c
  luniq : LUniq L

theorem Inv.tocOK {e : Env} {s : St} (hi : Inv e s) : TocOK e s (ObjAt s.raw) :=
  ⟨hi.toc, hi.scache, hi.lcache, fun p p' r r' u => hi.mok.uniq p p' r r' u⟩

theorem inv_of_parts {e : Env} {s : St} (ht : TreeOK e s.raw) (hc : TocOK e s (ObjAt s.raw))
    (hb : ∀ p r u, ObjAt s.raw p r u → u < s.next) : Inv e s :=
  ⟨ht.keys, ht.pclosed, .of_treeOK ht hc.luniq hb, hc.toc, hc.scache, hc.lcache⟩

theorem TocOK.congr {e : Env} {s : St} {L L' : Path → SRef → Nat → Prop} (h : TocOK e s L)
    (hL : ∀ p r u, L' p r u ↔ L p r u) : TocOK e s L' := by
  have : L' = L := by funext p r u; exact propext (hL p r u)
  rw [this]; exact h

/-- `TOCLinks.register` of a uuid that is not linked yet -/
theorem TocOK.register {e : Env} (he : WFEnv e) {s : St} {L : Path → SRef → Nat → Prop} (hc : TocOK e s L)
    {ref : SRef} {i : SInfo} {u : Nat} (p0 : Path) (hi : e.info ref = some i) (hfresh : ¬ ∃ p r, L p r u) :
    ∃ s', linkRegister e ref u p0 s = (.ok (), s') ∧
      TocOK e s' (fun p r u' => L p r u' ∨ (p = p0 ∧ r = ref ∧ u' = u)) ∧ TocStep s s' := by
  obtain ⟨s', hrun, htoc, hsc, hlc, step⟩ := linkRegister_spec he (p0 := p0) hi hc.toc hc.scache hc.lcache hfresh
  exact ⟨s', hrun, ⟨htoc.congr (fun _ _ _ => Iff.rfl) exists_link_add, hsc.congr exists_link_add, hlc,
    hc.luniq.add hfresh⟩, step⟩

theorem setRaw_run (e : Env) (h : Handle) (ref : SRef) (tok : String) (s : St) (t1 : Tree) (s2 : St)
    (u : Nat) (hu : u = s.next)
    (h1 : rawCreate s.raw (h.baseDir ++ [.obj ref u]) (.ds (.data tok)) = .ok t1)
    (h2 : linkRegister e ref u (h.baseDir ++ [.obj ref u]) ⟨t1, s.c, s.next + 1⟩ = (.ok (), s2)) :
    h.setRaw e ref tok s =
      (.ok { h with objs := alSet h.objs ref.name ⟨u, ref, h.baseDir ++ [.obj ref u]⟩ }, s2) := by
  subst hu
  simp [Handle.setRaw, freshUuid, bind, M.bind, run_liftRaw, h1, h2]

/-- `_set_raw(schema_ref, obj)` on a handle that agrees with the tree -/
theorem setRaw_spec {e : Env} (he : WFEnv e) {s : St} (hi : Inv e s) {h : Handle} (hh : HOK s h)
    {ref : SRef} {i : SInfo} (hinfo : e.info ref = some i) (tok : String)
    (hfree : alGet h.objs ref.name = none) :
    ∃ s' h', h.setRaw e ref tok s = (.ok h', s') ∧ Inv e s' ∧ HOK s' h' ∧ h'.baseDir = h.baseDir ∧
      get? s'.raw (h.baseDir ++ [.obj ref s.next]) = some (.ds (.data tok)) ∧
      (∀ q, q.head? ≠ some .toc → q ≠ h.baseDir → q ≠ h.baseDir ++ [.obj ref s.next] →
        get? s'.raw q = get? s.raw q) := by
  -- `u` stands for `s.next`; equations between variables stay hypotheses to rewrite with, since `subst` and
  -- `rfl` patterns revert the whole of a context this large and are slow to check
  obtain ⟨u, hu⟩ : ∃ u, u = s.next := ⟨_, rfl⟩
  rw [← hu]
  obtain ⟨⟨b, m, hb, hbase, hbg, hhost⟩, hobjs, hknd⟩ := hh
  have hdirP : ∀ r' u', h.baseDir ++ [.obj r' u'] = b ++ [.metaDir m, .obj r' u'] := by intros; rw [hbase]; simp
  -- the object path is free (its uuid is new)
  have hfresh : ¬ ∃ p r, ObjAt s.raw p r u := by
    rintro ⟨p, r, ho⟩; exact absurd (hi.mok.bound p r u ho) (hu ▸ Nat.lt_irrefl _)
  have hfreeP : get? s.raw (b ++ [.metaDir m, .obj ref u]) = none := by
    by_contra hc
    exact hfresh ⟨_, ref, b, m, hb, rfl, hc⟩
  obtain ⟨t1, h1⟩ := rawCreate_ok (t := s.raw) (p := b ++ [.metaDir m, .obj ref u]) (n := .ds (.data tok))
    (by simp) hfreeP (by
      intro q v hm hg
      rcases mid_objPath hi.pclosed hbg hm with rfl | h
      · cases metaDir_is_grp hi.treeOK hb hg
      · rw [h] at hg; cases hg)
  have hhead : (b ++ [Key.metaDir m, Key.obj ref u]).head? ≠ some .toc := objPath_head hb
  -- the TOC part: untouched by the write, then `register`
  have htoc1 : TocRaw e (ObjAt s.raw) (UsedIn s.raw) t1 :=
    hi.toc.frame fun q hq => rawCreate_frame h1 q (by rw [hq]; exact fun h => hhead h.symm)
  obtain ⟨s2, hrun2, htc2, step2⟩ := TocOK.register he (s := ⟨t1, s.c, s.next + 1⟩) (L := ObjAt s.raw)
    ⟨htoc1, hi.scache, hi.lcache, hi.mok.uniq⟩ (b ++ [.metaDir m, .obj ref u]) hinfo hfresh
  have g2 : ∀ q, q.head? ≠ some .toc → get? s2.raw q =
      if q = b ++ [.metaDir m, .obj ref u] then some (.ds (.data tok))
      else if q = b ++ [.metaDir m] then some .grp else get? s.raw q :=
    fun q hqt => (step2.frame q hqt).trans (storeObj_get hi hb hbg h1 q)
  have hframe : ∀ q, q.head? ≠ some .toc → q ≠ b ++ [.metaDir m] → q ≠ b ++ [.metaDir m, .obj ref u] →
      get? s2.raw q = get? s.raw q := fun q hqt hq1 hq2 => by
    rw [g2 q hqt, if_neg hq2, if_neg hq1]
  have huser : ∀ q, isInternal q = false → get? s2.raw q = get? s.raw q := fun q hq =>
    hframe q (isInternal_head_ne_toc hq) (ne_meta_of_not_internal hq) (ne_meta_of_not_internal hq)
  have hobjget : ∀ base m' r' u', isInternal base = false →
      (get? s2.raw (base ++ [.metaDir m', .obj r' u']) ≠ none ↔
        (get? s.raw (base ++ [.metaDir m', .obj r' u']) ≠ none ∨
          base ++ [.metaDir m', .obj r' u'] = b ++ [.metaDir m, .obj ref u])) := by
    intro base m' r' u' hb'
    rw [g2 _ (objPath_head hb')]
    by_cases h1 : base ++ [.metaDir m', .obj r' u'] = b ++ [.metaDir m, .obj ref u]
    · simp [h1]
    · rw [if_neg h1, if_neg (fun h => by have := congrArg List.getLast? h; simp at this)]
      simp [h1]
  have hdir : ∀ r' u', get? s2.raw (h.baseDir ++ [.obj r' u']) ≠ none ↔
      (get? s.raw (h.baseDir ++ [.obj r' u']) ≠ none ∨ (r' = ref ∧ u' = u)) := by
    intro r' u'
    rw [hdirP, hobjget b m r' u' hb]
    simp
  -- an old object of that name in the directory of the handle contradicts `hfree`
  have old_contra : ∀ {base m'} r' u'', r'.name = ref.name → base ++ [Key.metaDir m'] = h.baseDir →
      get? s.raw (base ++ [.metaDir m', .obj r' u'']) ≠ none → False := by
    intro base m' r' u'' hn hbm hg
    have := (hobjs _ _).mpr ⟨r', u'', hn, rfl, by rw [← hbm]; simpa using hg⟩
    rw [hfree] at this; cases this
  have inDir : ∀ {base m' r' u'}, base ++ [.metaDir m', .obj r' u'] = b ++ [.metaDir m, .obj ref u] →
      base ++ [Key.metaDir m'] = h.baseDir ∧ r'.name = ref.name ∧ r' = ref ∧ u' = u := by
    intro base m' r' u' he
    obtain ⟨h1, h2, h3⟩ := snoc2_inj he
    injection h3 with hr hu'
    exact ⟨by rw [hbase, h1, h2], by rw [hr], hr, hu'⟩
  have hobj2 : ∀ p r u', ObjAt s2.raw p r u' ↔
      (ObjAt s.raw p r u' ∨ (p = b ++ [.metaDir m, .obj ref u] ∧ r = ref ∧ u' = u)) := by
    intro p r u'
    constructor
    · rintro ⟨base, m', hb', rfl, hg⟩
      rcases (hobjget base m' r u' hb').mp hg with hg | he
      · exact Or.inl ⟨base, m', hb', rfl, hg⟩
      · exact Or.inr ⟨he, (inDir he).2.2⟩
    · rintro (⟨base, m', hb', rfl, hg⟩ | ⟨hp, hr, hu'⟩)
      · exact ⟨base, m', hb', rfl, (hobjget base m' r u' hb').mpr (Or.inl hg)⟩
      · rw [hp, hr, hu']
        exact ⟨b, m, hb, rfl, (hobjget b m ref u hb).mpr (Or.inr rfl)⟩
  have hnew : get? s2.raw (h.baseDir ++ [.obj ref u]) = some (.ds (.data tok)) := by
    rw [hdirP, g2 _ hhead, if_pos rfl]
  refine ⟨s2, { h with objs := alSet h.objs ref.name ⟨u, ref, h.baseDir ++ [.obj ref u]⟩ }, ?_, ?_, ?_, rfl, hnew, ?_⟩
  · exact setRaw_run e h ref tok s t1 s2 u hu (by rw [hdirP]; exact h1) (by rw [hdirP]; exact hrun2)
  · have hk2 := step2.keys (rawCreate_keys h1 hi.keys)
    have hc2 := step2.pclosed (rawCreate_pclosed h1 hi.pclosed)
    refine inv_of_parts (treeOK_dir hi.treeOK hk2 hc2 hb
      (fun q hqt hp => hframe q hqt (fun h => hp (h ▸ List.prefix_refl _)) fun h => hp (h ▸ ⟨[.obj ref u], by simp⟩))
      (fun k rest n hg => ?_) (fun _ => hhost) (fun _ => ⟨ref, u, (hobjget b m ref u hb).mpr (Or.inr rfl)⟩)
      fun r1 u1 r2 u2 hg1 hg2 hname => ?_) (htc2.congr hobj2) fun p r u' ho => ?_
    · rw [g2 _ (objPath_head hb)] at hg
      split_ifs at hg with hq1 hq2
      · obtain ⟨rfl, rfl⟩ : k = .obj ref u ∧ rest = [] := by simpa using hq1
        cases hg
        exact Or.inr ⟨ref, u, tok, i, rfl, rfl, rfl, hinfo⟩
      · simp at hq2
      · exact Or.inl hg
    · rcases (hobjget b m r1 u1 hb).mp hg1 with h1' | e1 <;> rcases (hobjget b m r2 u2 hb).mp hg2 with h2' | e2
      · exact hi.mok.onename b m r1 u1 r2 u2 hb h1' h2' hname
      · exact (old_contra r1 u1 (hname.trans (inDir e2).2.1) (inDir e2).1 h1').elim
      · exact (old_contra r2 u2 (hname.symm.trans (inDir e1).2.1) (inDir e1).1 h2').elim
      · exact ⟨(inDir e1).2.2.1.trans (inDir e2).2.2.1.symm, (inDir e1).2.2.2.trans (inDir e2).2.2.2.symm⟩
    · rw [step2.next]
      rcases (hobj2 _ _ _).mp ho with h1' | ⟨-, -, hu'⟩
      · exact Nat.lt_succ_of_lt (hi.mok.bound p r u' h1')
      · rw [hu', hu]; exact Nat.lt_succ_self _
  · refine ⟨⟨b, m, hb, hbase, by rw [huser b hb]; exact hbg, hi.treeOK.host_of_user huser hb hhost⟩, ?_, alKeys_alSet_nodup hknd _ _⟩
    intro name st
    show alGet (alSet h.objs ref.name _) name = some st ↔ _
    rw [alGet_alSet]
    by_cases hn : name = ref.name
    · subst hn
      rw [if_pos rfl]
      constructor
      · intro hst
        cases hst
        exact ⟨ref, u, rfl, rfl, (hdir ref u).mpr (Or.inr ⟨rfl, rfl⟩)⟩
      · rintro ⟨r, u', hn, rfl, hg⟩
        rcases (hdir r u').mp hg with hg' | ⟨hr, hu'⟩
        · exact (old_contra r u' hn hbase.symm (by rw [← hdirP]; exact hg')).elim
        · rw [hr, hu']
    · rw [if_neg hn, hobjs name st]
      refine exists₂_congr fun r u' => and_congr_right fun hnm => and_congr_right fun _ => ?_
      rw [hdir r u']
      exact ⟨Or.inl, fun h => h.resolve_right fun ⟨hr, _⟩ => hn (hr ▸ hnm.symm)⟩
  · exact fun q hqt hq1 hq2 => hframe q hqt (hbase ▸ hq1) (hdirP ref u ▸ hq2)

theorem below_metaDir {e : Env} {t : Tree} {ex : Path → Prop} (ht : TreeOKx e t ex) {b : Path} {m : String}
    (hb : isInternal b = false) {k : Key} {rest : Path} (h : get? t (b ++ .metaDir m :: k :: rest) ≠ none) :
    rest = [] ∧ ∃ r u, k = .obj r u := by
  cases hg : get? t (b ++ .metaDir m :: k :: rest) with
  | none => exact absurd hg h
  | some n =>
    have := ht.ushape _ n (by simp) (objPath_head hb) hg
    generalize hq : b ++ Key.metaDir m :: k :: rest = q at this
    cases this with
    | user q n hi _ =>
      rw [← hq, isInternal_append] at hi
      simp [isInternal, Key.internal] at hi
    | metaDir base m' hb' =>
      have h1 : b ++ Key.metaDir m :: (k :: rest) = base ++ Key.metaDir m' :: [] := by simpa using hq
      have := (internal_split_unique b base _ _ _ _ hb hb' rfl rfl h1).2.2
      simp at this
    | obj base m' r u tok hb' =>
      have h1 : b ++ Key.metaDir m :: (k :: rest) = base ++ Key.metaDir m' :: [Key.obj r u] := by simpa using hq
      have := (internal_split_unique b base _ _ _ _ hb hb' rfl rfl h1).2.2
      simp at this
      exact ⟨this.2, r, u, this.1⟩

theorem ObjAt.inj {t : Tree} {b : Path} {m : String} {k : Key} {rest p : Path} {r : SRef} {u : Nat}
    (hb : isInternal b = false) (ho : ObjAt t p r u) (hp : p = b ++ .metaDir m :: k :: rest) :
    rest = [] ∧ k = .obj r u := by
  obtain ⟨base, m', hb', rfl, -⟩ := ho
  have h1 : base ++ Key.metaDir m' :: [Key.obj r u] = b ++ Key.metaDir m :: (k :: rest) := by simpa using hp
  have := (internal_split_unique base b _ _ _ _ hb' hb rfl rfl h1).2.2
  simp at this
  exact ⟨this.2, this.1.symm⟩

theorem ObjAt.of_dir_prefix {t : Tree} {p b : Path} {m : String} {r : SRef} {u : Nat} (ho : ObjAt t p r u)
    (hb : isInternal b = false) (hp : b ++ [.metaDir m] <+: p) : p = b ++ [.metaDir m, .obj r u] := by
  obtain ⟨c, rfl⟩ := hp
  cases c with
  | nil =>
    obtain ⟨_, _, _, hq, _⟩ := ho
    have := congrArg List.getLast? hq; simp at this
  | cons k rest =>
    obtain ⟨rfl, rfl⟩ := ObjAt.inj (m := m) (k := k) (rest := rest) hb ho (by simp)
    simp

/-- outside `/metador_container` nodes only disappear, none is created or modified -/
def Mono (s s' : St) : Prop :=
  ∀ q, q.head? ≠ some .toc → get? s'.raw q = none ∨ get? s'.raw q = get? s.raw q

theorem Mono.refl (s : St) : Mono s s := fun _ _ => Or.inr rfl

theorem Mono.trans {a b c : St} (h1 : Mono a b) (h2 : Mono b c) : Mono a c := by
  intro q hq
  rcases h2 q hq with h | h
  · exact Or.inl h
  · rcases h1 q hq with h' | h'
    · exact Or.inl (h.trans h')
    · exact Or.inr (h.trans h')

/-- frame of the unlinked deletions: caches and everything below `/metador_container` stay -/
def TocSame (s s' : St) : Prop := s'.c = s.c ∧ ∀ q, q.head? = some .toc → get? s'.raw q = get? s.raw q

/-- … and outside of it nodes only disappear -/
def TocSameMono (s s' : St) : Prop := TocSame s s' ∧ Mono s s'

/-- `delRawF_*`: `_del_raw(schema_name, _unlink=False)`, the deletion without the TOC update (used by `_destroy` and,
after `unregister`, by `_del_raw` itself) -/
theorem delRawF_run_keep (h : Handle) (name : String) (s : St) (st : Stored) (t2 : Tree)
    (hst : alGet h.objs name = some st)
    (h2 : rawDel s.raw st.path = .ok t2)
    (hne : alErase h.objs st.schema.name ≠ []) :
    h.delRaw name false s = (.ok { h with objs := alErase h.objs st.schema.name }, ⟨t2, s.c, s.next⟩) := by
  simp [Handle.delRaw, hst, run_liftRaw, h2, hne]

theorem delRawF_run_drop (h : Handle) (name : String) (s : St) (st : Stored) (t2 t3 : Tree)
    (hst : alGet h.objs name = some st)
    (h2 : rawDel s.raw st.path = .ok t2)
    (he : alErase h.objs st.schema.name = [])
    (h3 : rawDel t2 h.baseDir = .ok t3) :
    h.delRaw name false s = (.ok { h with objs := alErase h.objs st.schema.name }, ⟨t3, s.c, s.next⟩) := by
  simp [Handle.delRaw, hst, run_liftRaw, h2, he, h3]

theorem delRawF_spec {e : Env} {s : St} (ht : TreeOK e s.raw) {h : Handle} (hh : HOK s h)
    {name : String} {st : Stored} (hst : alGet h.objs name = some st) :
    ∃ s' h', h.delRaw name false s = (.ok h', s') ∧ TreeOK e s'.raw ∧ HOK s' h' ∧ h'.baseDir = h.baseDir ∧
      s'.next = s.next ∧ TocSameMono s s' ∧ (∀ q, isInternal q = false → get? s'.raw q = get? s.raw q) ∧
      (∀ p r u, ObjAt s'.raw p r u ↔ (ObjAt s.raw p r u ∧ p ≠ st.path)) := by
  obtain ⟨⟨b, m, hb, hbase, hbg, hhost⟩, hobjs, hknd⟩ := hh
  obtain ⟨r, u, hname, rfl, hex⟩ := (hobjs name st).mp hst
  have e1 : ∀ r' u', h.baseDir ++ [.obj r' u'] = b ++ [.metaDir m, .obj r' u'] := fun r' u' => by
    rw [hbase]; simp
  simp only [e1] at hobjs hex ⊢
  set D := b ++ [Key.metaDir m] with hD
  set objP := b ++ [.metaDir m, .obj r u] with hobjP
  have hDo : D <+: objP := ⟨[.obj r u], by simp [hD, hobjP]⟩
  have hoD : ¬ objP <+: D := fun hp => by have := hp.length_le; simp [hD, hobjP] at this
  have hDg : get? s.raw D ≠ none := by
    rw [ht.pclosed D (.obj r u) (by simpa [hD] using hex)]; simp
  have hDint : ∀ q, D <+: q → isInternal q = true ∧ q.head? ≠ some .toc := by
    rintro q ⟨c, rfl⟩
    exact ⟨by simpa [hD] using isInternal_metaDir b m c, by simpa [hD] using objPath_head (k := c) hb⟩
  -- the handle lists the objects of the directory; another one with the same schema name is this one
  have hin : ∀ r' u', get? s.raw (b ++ [.metaDir m, .obj r' u']) ≠ none →
      alGet h.objs r'.name = some ⟨u', r', b ++ [.metaDir m, .obj r' u']⟩ := fun r' u' hg =>
    (hobjs _ _).mpr ⟨r', u', rfl, rfl, hg⟩
  have hsame : ∀ r' u', get? s.raw (b ++ [.metaDir m, .obj r' u']) ≠ none → r'.name = r.name →
      b ++ [.metaDir m, .obj r' u'] = objP := fun r' u' hg hn => by
    obtain ⟨rfl, rfl⟩ := ht.onename b m r' u' r u hb hg hex hn; rfl
  have hnil : alErase h.objs r.name = [] ↔
      ∀ r' u', get? s.raw (b ++ [.metaDir m, .obj r' u']) ≠ none → b ++ [.metaDir m, .obj r' u'] = objP := by
    rw [alErase_eq_nil_iff]
    constructor
    · exact fun hall r' u' hg => hsame r' u' hg (hall _ (by rw [hin r' u' hg]; rfl))
    · intro hall x hx
      obtain ⟨st', hst'⟩ := alGet_some_of_isSome hx
      obtain ⟨r', u', hn', -, hg'⟩ := (hobjs x st').mp hst'
      obtain ⟨-, -, hk⟩ := snoc2_inj (hall r' u' hg')
      cases hk; exact hn'.symm
  -- the tree without everything at and below `X`, which is the object or (if it was the last one) the directory
  have key : ∀ (X : Path) (tf : Tree),
      (X = objP ∧ alErase h.objs r.name ≠ [] ∨ X = D ∧ alErase h.objs r.name = []) →
      (∀ q, get? tf q = if X <+: q then none else get? s.raw q) → KeysOK tf → PClosed tf →
      TreeOK e tf ∧ HOK ⟨tf, s.c, s.next⟩ { h with objs := alErase h.objs r.name } ∧
      TocSameMono s ⟨tf, s.c, s.next⟩ ∧ (∀ q, isInternal q = false → get? tf q = get? s.raw q) ∧
      (∀ p r' u', ObjAt tf p r' u' ↔ (ObjAt s.raw p r' u' ∧ p ≠ objP)) := by
    intro X tf hX gf hkf hcf
    have hDX : D <+: X := by rcases hX with ⟨rfl, -⟩ | ⟨rfl, -⟩; exacts [hDo, List.prefix_refl _]
    have hXo : X <+: objP := by rcases hX with ⟨rfl, -⟩ | ⟨rfl, -⟩; exacts [List.prefix_refl _, hDo]
    have gX : ∀ q, ¬ X <+: q → get? tf q = get? s.raw q := fun q hq => by rw [gf q, if_neg hq]
    have gout : ∀ q, ¬ D <+: q → get? tf q = get? s.raw q := fun q hq => gX q fun h => hq (hDX.trans h)
    have huser : ∀ q, isInternal q = false → get? tf q = get? s.raw q := fun q hq =>
      gout q fun hp => by rw [(hDint q hp).1] at hq; cases hq
    have hmono : ∀ q, get? tf q = none ∨ get? tf q = get? s.raw q := fun q => by
      by_cases hq : X <+: q
      · exact Or.inl (by rw [gf q, if_pos hq])
      · exact Or.inr (gX q hq)
    have hobjf : ∀ p r' u', ObjAt tf p r' u' ↔ (ObjAt s.raw p r' u' ∧ p ≠ objP) := by
      intro p r' u'
      constructor
      · rintro ⟨base, m', hb', rfl, hg⟩
        rw [gf] at hg
        by_cases hx : X <+: base ++ [.metaDir m', .obj r' u']
        · rw [if_pos hx] at hg; exact absurd rfl hg
        · rw [if_neg hx] at hg
          exact ⟨⟨base, m', hb', rfl, hg⟩, fun hp => hx (hp ▸ hXo)⟩
      · rintro ⟨ho, hne⟩
        obtain ⟨base, m', hb', rfl, hg⟩ := id ho
        refine ⟨base, m', hb', rfl, (gX _ fun hx => ?_).trans_ne hg⟩
        have hp := ho.of_dir_prefix hb (hDX.trans hx)
        rcases hX with ⟨rfl, -⟩ | ⟨-, hn⟩
        · exact hne (hx.eq_of_length_le (by rw [hp]; simp [hobjP])).symm
        · exact hne (hp ▸ hnil.mp hn r' u' (hp ▸ hg))
    have hin_tf : ∀ r' u', get? tf (b ++ [.metaDir m, .obj r' u']) ≠ none ↔
        (get? s.raw (b ++ [.metaDir m, .obj r' u']) ≠ none ∧ r'.name ≠ r.name) := by
      intro r' u'
      constructor
      · intro hg
        obtain ⟨⟨_, _, _, _, hg'⟩, hne⟩ := (hobjf _ r' u').mp ⟨b, m, hb, rfl, hg⟩
        exact ⟨hg', fun hn => hne (hsame r' u' hg' hn)⟩
      · rintro ⟨hg, hn⟩
        obtain ⟨_, _, _, _, hg'⟩ := (hobjf _ r' u').mpr ⟨⟨b, m, hb, rfl, hg⟩, fun hp => by
          obtain ⟨-, -, hk⟩ := snoc2_inj hp
          cases hk; exact hn rfl⟩
        exact hg'
    refine ⟨treeOK_dir ht hkf hcf hb (fun q _ hp => gout q hp)
        (fun k rest n hg => Or.inl (((hmono _).resolve_left (by rw [hg]; simp)).symm.trans hg)) (fun _ => hhost)
        (fun hg => ?_) fun r1 u1 r2 u2 h1 h2 =>
          ht.onename b m r1 u1 r2 u2 hb ((hin_tf r1 u1).mp h1).1 ((hin_tf r2 u2).mp h2).1,
      ⟨⟨b, m, hb, hbase, (huser b hb).trans hbg, ht.host_of_user huser hb hhost⟩, fun name' st' => ?_,
        alKeys_alErase_nodup hknd _⟩,
      ⟨⟨rfl, fun q hq => gout q fun hp => (hDint q hp).2 hq⟩, fun q _ => hmono q⟩, huser, hobjf⟩
    · -- if the directory stays, the object was not the last one
      have hne : alErase h.objs r.name ≠ [] := by
        rcases hX with ⟨-, hne⟩ | ⟨rfl, -⟩
        · exact hne
        · rw [gf, if_pos (List.prefix_refl _)] at hg; exact absurd rfl hg
      rw [ne_eq, hnil] at hne
      simp only [not_forall] at hne
      obtain ⟨r', u', hg1, hne1⟩ := hne
      exact ⟨r', u', (hin_tf r' u').mpr ⟨hg1, fun hn => hne1 (hsame r' u' hg1 hn)⟩⟩
    · show alGet (alErase h.objs r.name) name' = some st' ↔ _
      simp only [e1, alGet_alErase, hin_tf]
      by_cases hn : name' = r.name
      · subst hn
        simp only [if_true]
        exact ⟨nofun, fun ⟨r', u', hn', _, _, hne⟩ => absurd hn' hne⟩
      · rw [if_neg hn, hobjs name' st']
        exact exists₂_congr fun r' u' => and_congr_right fun hn' => and_congr_right fun _ =>
          (and_iff_left (hn' ▸ hn)).symm
  have h2 := rawDel_ok (t := s.raw) (p := objP) (by simp [hobjP]) hex
  have g2 := rawDel_get? h2
  simp only [under_iff] at g2
  by_cases hne : alErase h.objs r.name = []
  · -- the directory is removed as well
    have h3 := rawDel_ok (t := s.raw.filter fun x => !under objP x.1) (p := D) (by simp [hD])
      (by rw [g2, if_neg hoD]; exact hDg)
    have g3 := rawDel_get? h3
    simp only [under_iff] at g3
    obtain ⟨htree, hhok, hsame', huser, hobjf⟩ := key D _ (Or.inr ⟨rfl, hne⟩) (fun q => by
        rw [g3 q, g2 q]
        by_cases hq1 : D <+: q
        · rw [if_pos hq1, if_pos hq1]
        · rw [if_neg hq1, if_neg hq1, if_neg (fun hp => hq1 (hDo.trans hp))])
      (rawDel_keys h3 (rawDel_keys h2 ht.keys)) (rawDel_pclosed h3 (rawDel_pclosed h2 ht.pclosed))
    exact ⟨⟨_, s.c, s.next⟩, _, delRawF_run_drop h name s _ _ _ hst (by simpa [e1] using h2) hne
      (by rw [hbase]; exact h3), htree, hhok, rfl, rfl, hsame', huser, hobjf⟩
  · obtain ⟨htree, hhok, hsame', huser, hobjf⟩ := key objP _ (Or.inl ⟨rfl, hne⟩) g2
      (rawDel_keys h2 ht.keys) (rawDel_pclosed h2 ht.pclosed)
    exact ⟨⟨_, s.c, s.next⟩, _, delRawF_run_keep h name s _ _ hst (by simpa [e1] using h2) hne,
      htree, hhok, rfl, rfl, hsame', huser, hobjf⟩

theorem HOK.of_frame {s s' : St} {h : Handle} (hh : HOK s h)
    (hf : ∀ q, q.head? ≠ some .toc → get? s'.raw q = get? s.raw q) : HOK s' h := by
  obtain ⟨⟨b, m, hb, hbase, hbg, hhost⟩, hobjs, hknd⟩ := hh
  have hu : (b ++ [Key.user m]).head? ≠ some .toc := by
    cases b with
    | nil => simp
    | cons x b => simpa using isInternal_head_ne_toc hb
  refine ⟨⟨b, m, hb, hbase, (hf b (isInternal_head_ne_toc hb)).trans hbg,
    hhost.imp_right fun ⟨v, hv⟩ => ⟨v, (hf _ hu).trans hv⟩⟩, fun name st => ?_, hknd⟩
  rw [hobjs name st]
  refine exists₂_congr fun r u => and_congr_right fun _ => and_congr_right fun _ => ?_
  rw [hf _ (by rw [hbase]; simpa using objPath_head (k := [Key.obj r u]) hb)]

theorem delRaw_unlink_run {h : Handle} {name : String} {st : Stored} {s s1 : St}
    (hst : alGet h.objs name = some st) (h1 : linkUnregister st.uuid s = (.ok (), s1)) :
    h.delRaw name true s = h.delRaw name false s1 := by
  simp [Handle.delRaw, hst, h1]

/-- `_del_raw(schema_name)` (with unlinking) on a handle that agrees with the tree: `TOCLinks.unregister`,
which leaves everything outside `/metador_container` alone, then the deletion on the tree level -/
theorem delRaw_spec {e : Env} (he : WFEnv e) {s : St} (hi : Inv e s) {h : Handle} (hh : HOK s h)
    {name : String} {st : Stored} (hst : alGet h.objs name = some st) :
    ∃ s' h', h.delRaw name true s = (.ok h', s') ∧ Inv e s' ∧ HOK s' h' ∧ h'.baseDir = h.baseDir ∧
      s'.next = s.next ∧ (∀ q, isInternal q = false → get? s'.raw q = get? s.raw q) ∧
      (∀ p r u, ObjAt s'.raw p r u ↔ (ObjAt s.raw p r u ∧ p ≠ st.path)) ∧
      (∀ q, q.head? ≠ some .toc → get? s'.raw q = none ∨ get? s'.raw q = get? s.raw q) := by
  obtain ⟨r, u, -, hst_eq, hex⟩ := (hh.objs name st).mp hst
  obtain ⟨b, m, hb, hbase, -, -⟩ := hh.base
  have hpath : st.path = b ++ [.metaDir m, .obj r u] := by rw [hst_eq, hbase]; simp
  have huuid : st.uuid = u := by rw [hst_eq]
  have hexP : get? s.raw (b ++ [.metaDir m, .obj r u]) ≠ none := by rw [hbase] at hex; simpa using hex
  have ho : ObjAt s.raw (b ++ [.metaDir m, .obj r u]) r u := ⟨b, m, hb, rfl, hexP⟩
  obtain ⟨s1, hrun1, htoc1, hsc1, hlc1, step1⟩ := linkUnregister_spec he hi.keys hi.toc hi.scache hi.lcache
    (fun p p' r r' u h1 h2 => hi.mok.uniq p p' r r' u h1 h2) ho
    (fun _ => Iff.rfl) (fun r' ⟨p, u', h⟩ => hi.mok.objenv p r' u' h)
  have ht1 : TreeOK e s1.raw :=
    treeOK_of_frame hi.treeOK (step1.keys hi.keys) (step1.pclosed hi.pclosed) step1.frame
  obtain ⟨s', h', hrun, ht', hhok, hbd, hnext, ⟨⟨hc, hftoc⟩, hmono⟩, huser, hobjf⟩ :=
    delRawF_spec ht1 (hh.of_frame step1.frame) hst
  have hobjf0 : ∀ p r' u', ObjAt s'.raw p r' u' ↔ (ObjAt s.raw p r' u' ∧ p ≠ st.path) := fun p r' u' =>
    (hobjf p r' u').trans (and_congr_left fun _ => ObjAt.congr step1.frame p r' u')
  -- the path of an attached object determines its uuid and conversely
  have hobjf' : ∀ p r' u', ObjAt s'.raw p r' u' ↔ (ObjAt s.raw p r' u' ∧ u' ≠ u) := by
    intro p r' u'
    rw [hobjf0, hpath]
    refine and_congr_right fun h1 => not_congr ⟨fun hp => ?_, fun hu' => by
      rw [hu'] at h1; exact (hi.mok.uniq _ _ _ _ _ h1 ho).1⟩
    obtain ⟨base, m', hb', hp', -⟩ := h1
    have := (snoc2_inj (hp'.symm.trans hp)).2.2
    injection this
  have husedf : ∀ r', UsedIn s'.raw r' ↔ ∃ p u', ObjAt s.raw p r' u' ∧ u' ≠ u :=
    fun r' => exists₂_congr fun p u' => hobjf' p r' u'
  refine ⟨s', h', (delRaw_unlink_run hst (huuid ▸ hrun1)).trans hrun,
    ⟨ht'.keys, ht'.pclosed,
      .of_treeOK ht' (fun p p' r1 r2 u' h1 h2 =>
          hi.mok.uniq p p' r1 r2 u' ((hobjf0 _ _ _).mp h1).1 ((hobjf0 _ _ _).mp h2).1)
        fun p r' u' ho' => by
          rw [hnext, step1.next]; exact hi.mok.bound p r' u' ((hobjf0 _ _ _).mp ho').1,
      (htoc1.frame hftoc).congr hobjf' husedf, by rw [hc]; exact hsc1.congr husedf, ?_⟩,
    hhok, hbd, hnext.trans step1.next,
    fun q hq => (huser q hq).trans (step1.frame q (isInternal_head_ne_toc hq)), hobjf0,
    fun q hq => (hmono q hq).imp id fun h => h.trans (step1.frame q hq)⟩
  rw [hc]
  intro u' tp
  rw [hlc1 u' tp]
  exact exists₂_congr fun p r' => and_congr_left fun _ => (hobjf' p r' u').symm

theorem resolve_name {e : Env} {name : String} {ver : Option Ver} {r : SRef}
    (h : e.resolve name ver = some r) : r.name = name := by
  unfold Env.resolve at h
  have hm := List.mem_of_getLast? h
  unfold Env.versions at hm
  have key : ∀ r, r ∈ (e.schemas.filter fun i => i.ref.name == name).map (·.ref) → r.name = name := by
    intro r hr
    obtain ⟨i, hi, rfl⟩ := List.mem_map.mp hr
    simpa using (List.mem_filter.mp hi).2
  cases ver with
  | none => exact key r hm
  | some v => exact key r (List.mem_filter.mp hm).1

theorem requireSchema_ok {e : Env} {name : String} {ver : Option Ver} {i : SInfo}
    (h : e.requireSchema name ver = .ok i) : e.info i.ref = some i ∧ i.ref.name = name ∧ i.aux = false := by
  unfold Env.requireSchema at h
  cases hr : e.resolve name ver with
  | none => simp [hr] at h
  | some r =>
    simp only [hr] at h
    cases hinf : e.info r with
    | none => simp [hinf] at h
    | some j =>
      simp only [hinf] at h
      split_ifs at h with haux
      cases h
      have := info_ref hinf
      exact ⟨this ▸ hinf, this ▸ resolve_name hr, by simpa using haux⟩

theorem getRaw_none (h : Handle) (name : String) : h.getRaw name none = alGet h.objs name := by
  unfold Handle.getRaw; cases alGet h.objs name <;> rfl

/-- One operation on a kept `node.meta` handle either leaves handle and state as they are (a refused `set` or
`del`, any `get`), or is a successful `_set_raw` of a schema the environment knows under a free name, or a
successful `_del_raw` of a stored object: what holds in these three cases holds after the step. -/
theorem metaStep_post {e : Env} (he : WFEnv e) {s : St} (hi : Inv e s) {h : Handle} (hh : HOK s h) (o : MetaOp)
    {P : Handle → St → Prop} (h0 : P h s)
    (hset : ∀ name ver tok i h' s', o = .set name ver true tok → e.info i.ref = some i →
      alGet h.objs i.ref.name = none → h.setRaw e i.ref tok s = (.ok h', s') → P h' s')
    (hdel : ∀ name st h' s', o = .del name → alGet h.objs name = some st →
      h.delRaw name true s = (.ok h', s') → P h' s') :
    P (metaStep e h o s).1.2 (metaStep e h o s).2 := by
  have hgr := getRaw_none h
  cases o with
  | set name ver valid tok =>
    cases hg : alGet h.objs name with
    | some st => simpa [metaStep, Handle.set, hgr, hg] using h0
    | none =>
      cases hreq : e.requireSchema name ver with
      | error err => simpa [metaStep, Handle.set, hgr, hg, hreq] using h0
      | ok info =>
        obtain ⟨hinfo, hname, -⟩ := requireSchema_ok hreq
        cases valid with
        | false => simpa [metaStep, Handle.set, hgr, hg, hreq] using h0
        | true =>
          obtain ⟨s', h', hrun, -⟩ := setRaw_spec he hi hh hinfo tok (hname ▸ hg)
          simpa [metaStep, Handle.set, hgr, hg, hreq, hrun] using
            hset name ver tok info h' s' rfl hinfo (hname ▸ hg) hrun
  | del name =>
    cases hg : alGet h.objs name with
    | none => simpa [metaStep, Handle.del, hgr, hg] using h0
    | some st =>
      obtain ⟨s', h', hrun, -⟩ := delRaw_spec he hi hh hg
      simpa [metaStep, Handle.del, hgr, hg, hrun] using hdel name st h' s' rfl hg hrun
  | get name ver =>
    simp only [metaStep]
    cases h.get e s name ver <;> exact h0

theorem metaStep_inv {e : Env} (he : WFEnv e) {s : St} (hi : Inv e s) {h : Handle} (hh : HOK s h) (o : MetaOp) :
    Inv e (metaStep e h o s).2 ∧ HOK (metaStep e h o s).2 (metaStep e h o s).1.2 := by
  refine metaStep_post he hi hh o (P := fun h' s' => Inv e s' ∧ HOK s' h') ⟨hi, hh⟩
    (fun name ver tok i h' s' _ hinfo hfree hrun => ?_) fun name st h' s' _ hg hrun => ?_
  · obtain ⟨_, _, hrun', hinv, hhok, -⟩ := setRaw_spec he hi hh hinfo tok hfree
    cases hrun.symm.trans hrun'
    exact ⟨hinv, hhok⟩
  · obtain ⟨_, _, hrun', hinv, hhok, -⟩ := delRaw_spec he hi hh hg
    cases hrun.symm.trans hrun'
    exact ⟨hinv, hhok⟩

theorem metaSeqTrace_inv {e : Env} (he : WFEnv e) : ∀ (ops : List MetaOp) {s : St} {h : Handle},
    Inv e s → HOK s h → Inv e (metaSeqTrace e h ops s).2
  | [], s, h, hi, _ => by simpa [metaSeqTrace] using hi
  | o :: ops, s, h, hi, hh => by
    obtain ⟨h1, h2⟩ := metaStep_inv he hi hh o
    simp only [metaSeqTrace]
    exact metaSeqTrace_inv he ops h1 h2

/-- `node.meta[...]` operations (any sequence on one handle) -/
theorem opMeta_inv {e : Env} (he : WFEnv e) {s : St} (hi : Inv e s) (p : Path) (ops : List MetaOp) :
    Inv e (opMeta e p ops s).2 := by
  unfold opMeta guardPath
  by_cases hint : isInternal p = true
  · simp [hint, hi]
  · have hint' : isInternal p = false := by simpa using hint
    simp only [hint', Bool.false_eq_true, if_false, bind, M.bind, run_pure, run_getSt]
    cases hk : nodeKind s p with
    | none => simp [hi]
    | some k =>
      simp only [run_ofOpt_some, metaSeq]
      exact metaSeqTrace_inv he ops hi (openHandle_HOK hi.treeOK hint' hk)

end MetadorModel.Container
