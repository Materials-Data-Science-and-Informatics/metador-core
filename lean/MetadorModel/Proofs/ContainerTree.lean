import MetadorModel.Proofs.ContainerAssoc
import Mathlib.Data.List.Basic
import Mathlib.Data.List.Nodup
import Mathlib.Data.List.Induction
import Mathlib.Tactic.SplitIfs
/-!
# The raw tree of the container model: well-formedness and the lookups after each primitive

Defines `KeysOK` (distinct stored paths, implicit root) and `PClosed` (every node has a group as parent), the two
tree-level clauses of the invariant, and `isMid` (the parents `mkParents` creates); then `get?` after `mkParents`,
`rawCreate`, `rawDel`, the listings `children`/`descendants`, and what the association-list lemmas of
`ContainerAssoc` need of Mathlib's `Nodup`.

Everything is stated point-wise (`get? t' q = …` for every path `q`), cf. DESIGN.md §4.
-/
namespace MetadorModel.Container

theorem lookup_cons (p : Path) (n : Node) (t : Tree) (q : Path) :
    lookup ((p, n) :: t) q = if p = q then some n else lookup t q := rfl

@[simp] theorem get?_root (t : Tree) : get? t [] = some .grp := by simp [get?]

theorem get?_ne_nil {t : Tree} {q : Path} (h : q ≠ []) : get? t q = lookup t q := by simp [get?, h]

theorem get?_cons {p : Path} {n : Node} {t : Tree} {q : Path} (h : q ≠ []) :
    get? ((p, n) :: t) q = if p = q then some n else get? t q := by
  simp [get?, h, lookup]

theorem lookup_filter (f : Path → Bool) (t : Tree) (q : Path) :
    lookup (t.filter fun e => f e.1) q = if f q then lookup t q else none := by
  induction t with
  | nil => simp [lookup]
  | cons a t ih =>
    obtain ⟨p, n⟩ := a
    by_cases hp : f p
    · simp only [List.filter_cons, hp, if_true, lookup]
      by_cases hpq : p = q
      · subst hpq; simp [hp]
      · simp [hpq, ih]
    · simp only [List.filter_cons, hp, lookup]
      by_cases hpq : p = q
      · subst hpq; simp [hp, ih]
      · simp [hpq, ih]

theorem lookup_some_mem {t : Tree} {q : Path} {n : Node} (h : lookup t q = some n) : (q, n) ∈ t := by
  induction t with
  | nil => simp [lookup] at h
  | cons a t ih =>
    obtain ⟨p, m⟩ := a
    simp only [lookup] at h
    split_ifs at h with hp
    · cases h; subst hp; simp
    · exact List.mem_cons_of_mem _ (ih h)

theorem lookup_isSome_of_mem : ∀ (t : Tree) (q : Path) (n : Node), (q, n) ∈ t → (lookup t q).isSome
  | (p, m) :: t, q, n, h => by
    rw [lookup_cons]
    split_ifs with hp
    · rfl
    · exact lookup_isSome_of_mem t q n ((List.mem_cons.mp h).resolve_left fun h' => hp (Prod.mk.inj h').1.symm)

theorem mem_lookup {t : Tree} (hn : (t.map Prod.fst).Nodup) {q : Path} {n : Node} (h : (q, n) ∈ t) :
    lookup t q = some n := by
  induction t with
  | nil => simp at h
  | cons a t ih =>
    obtain ⟨p, m⟩ := a
    simp only [List.map_cons, List.nodup_cons] at hn
    simp only [lookup]
    rcases List.mem_cons.mp h with h | h
    · cases h; simp
    · have : p ≠ q := by
        rintro rfl
        exact hn.1 (List.mem_map.mpr ⟨(p, n), h, rfl⟩)
      simp [this, ih hn.2 h]
/-- well-formed key list: distinct paths, the (implicit) root is not stored -/
structure KeysOK (t : Tree) : Prop where
  nodup : (t.map Prod.fst).Nodup
  noroot : ∀ n, ([], n) ∉ t

theorem mem_iff_get? {t : Tree} (h : KeysOK t) {q : Path} {n : Node} :
    (q, n) ∈ t ↔ (q ≠ [] ∧ get? t q = some n) := by
  constructor
  · intro hm
    have hq : q ≠ [] := by rintro rfl; exact h.noroot n hm
    exact ⟨hq, by rw [get?_ne_nil hq]; exact mem_lookup h.nodup hm⟩
  · rintro ⟨hq, hg⟩
    rw [get?_ne_nil hq] at hg
    exact lookup_some_mem hg

theorem get?_filter (f : Path → Bool) (t : Tree) (q : Path) (hq : q ≠ []) :
    get? (t.filter fun e => f e.1) q = if f q then get? t q else none := by
  simp [get?, hq, lookup_filter]

/-- `q` is one of the intermediate paths `pre ++ [k₁ … kᵢ]`, `1 ≤ i < rest.length` -/
def isMid : Path → Path → Path → Bool
  | _, [], _ => false
  | _, [_], _ => false
  | pre, k :: k' :: rest, q => q == pre ++ [k] || isMid (pre ++ [k]) (k' :: rest) q

theorem isMid_iff (pre rest q : Path) :
    isMid pre rest q = true ↔ ∃ a b, a ≠ [] ∧ b ≠ [] ∧ rest = a ++ b ∧ q = pre ++ a := by
  fun_induction isMid pre rest q with
  | case1 pre q =>
    simp only [Bool.false_eq_true, false_iff]
    rintro ⟨a, b, ha, hb, hab, -⟩
    cases a with
    | nil => exact ha rfl
    | cons x a => cases hab
  | case2 pre k q =>
    simp only [Bool.false_eq_true, false_iff]
    rintro ⟨a, b, ha, hb, hab, -⟩
    cases a with
    | nil => exact ha rfl
    | cons x a =>
      simp only [List.cons_append, List.cons.injEq] at hab
      have := hab.2.symm
      simp only [List.append_eq_nil_iff] at this
      exact hb this.2
  | case3 pre k k' rest q ih =>
    simp only [Bool.or_eq_true, beq_iff_eq, ih]
    constructor
    · rintro (rfl | ⟨a, b, ha, hb, hab, rfl⟩)
      · exact ⟨[k], k' :: rest, by simp, by simp, rfl, rfl⟩
      · exact ⟨k :: a, b, by simp, hb, by simp [hab], by simp⟩
    · rintro ⟨a, b, ha, hb, hab, rfl⟩
      cases a with
      | nil => exact absurd rfl ha
      | cons x a =>
        simp only [List.cons_append, List.cons.injEq] at hab
        obtain ⟨rfl, hab⟩ := hab
        cases a with
        | nil => left; rfl
        | cons y a => right; exact ⟨y :: a, b, by simp, hb, hab, by simp⟩

theorem mkParents_get? (rest : Path) (t : Tree) (pre : Path) (t' : Tree)
    (h : mkParents t pre rest = .ok t') (q : Path) (hq : q ≠ []) :
    get? t' q = match get? t q with
      | some n => some n
      | none => if isMid pre rest q then some .grp else none := by
  fun_induction mkParents t pre rest generalizing t' with
  | case1 t pre => cases h; cases get? t q <;> simp [isMid]
  | case2 t pre k => cases h; cases get? t q <;> simp [isMid]
  | case3 t pre k k' rest pre' hg ih =>
    rw [ih t' h]
    cases hq' : get? t q with
    | some n => rfl
    | none =>
      have : q ≠ pre ++ [k] := by rintro rfl; simp [pre', hq'] at hg
      simp [isMid, this, pre']
  | case4 t pre k k' rest pre' v hg => cases h
  | case5 t pre k k' rest pre' hg ih =>
    rw [ih t' h, get?_cons hq]
    by_cases hqq : pre' = q
    · subst hqq; simp [hg, isMid, pre']
    · have : q ≠ pre ++ [k] := fun h => hqq h.symm
      simp only [hqq, if_false]
      cases hq' : get? t q with
      | some n => rfl
      | none => simp [isMid, this, pre']

theorem under_iff {p q : Path} : under p q = true ↔ p <+: q := by
  simp [under, List.isPrefixOf_iff_prefix]

theorem has_iff {t : Tree} {q : Path} : has t q = true ↔ get? t q ≠ none := by
  simp [has, Option.isSome_iff_ne_none]

theorem has_false_iff {t : Tree} {q : Path} : has t q = false ↔ get? t q = none := by
  cases h : get? t q <;> simp [has, h]

theorem mkParents_ok (rest : Path) (t : Tree) (pre : Path)
    (h : ∀ q v, isMid pre rest q = true → get? t q ≠ some (.ds v)) :
    ∃ t', mkParents t pre rest = .ok t' := by
  fun_induction mkParents t pre rest with
  | case1 t pre => exact ⟨_, rfl⟩
  | case2 t pre k => exact ⟨_, rfl⟩
  | case3 t pre k k' rest pre' hg ih =>
    apply ih
    intro q v hm
    exact h q v (by simp [isMid, hm, pre'])
  | case4 t pre k k' rest pre' v hg =>
    exact absurd hg (h pre' v (by simp [isMid, pre']))
  | case5 t pre k k' rest pre' hg ih =>
    apply ih
    intro q v hm
    have hq : q ≠ [] := by
      rcases (isMid_iff _ _ _).mp hm with ⟨a, b, ha, -, -, rfl⟩
      simp [pre']
    rw [get?_cons hq]
    split_ifs with hpq
    · exact fun h => by cases h
    · exact h q v (by simp [isMid, hm, pre'])

theorem isMid_ne_nil {pre rest q : Path} (h : isMid pre rest q = true) : q ≠ [] := by
  rcases (isMid_iff _ _ _).mp h with ⟨a, b, ha, -, -, rfl⟩
  simp [ha]

theorem isMid_nil_iff {p q : Path} : isMid [] p q = true ↔ q ≠ [] ∧ q <+: p ∧ q ≠ p := by
  rw [isMid_iff]
  constructor
  · rintro ⟨a, b, ha, hb, hab, hq⟩
    simp only [List.nil_append] at hq
    subst hq; subst hab
    refine ⟨ha, by simp, ?_⟩
    intro h
    exact hb (List.self_eq_append_right.mp h)
  · rintro ⟨hq, ⟨b, rfl⟩, hne⟩
    refine ⟨q, b, hq, ?_, rfl, by simp⟩
    rintro rfl
    simp at hne

theorem mkParents_keys (rest : Path) (t : Tree) (pre : Path) (t' : Tree)
    (h : mkParents t pre rest = .ok t') (hk : KeysOK t) : KeysOK t' := by
  fun_induction mkParents t pre rest generalizing t' with
  | case1 t pre => cases h; exact hk
  | case2 t pre k => cases h; exact hk
  | case3 t pre k k' rest pre' hg ih => exact ih t' h hk
  | case4 t pre k k' rest pre' v hg => cases h
  | case5 t pre k k' rest pre' hg ih =>
    apply ih t' h
    have hne : pre' ≠ [] := by simp [pre']
    constructor
    · simp only [List.map_cons, List.nodup_cons]
      refine ⟨?_, hk.nodup⟩
      intro hm
      obtain ⟨⟨p, n⟩, hmem, rfl⟩ := List.mem_map.mp hm
      have := ((mem_iff_get? hk).mp hmem).2
      rw [hg] at this; cases this
    · intro n hm
      rcases List.mem_cons.mp hm with h | h
      · exact hne (Prod.mk.inj h).1.symm
      · exact hk.noroot n h

theorem mkParents_subset (rest : Path) (t : Tree) (pre : Path) (t' : Tree) (h : mkParents t pre rest = .ok t') :
    ∀ x ∈ t, x ∈ t' := by
  fun_induction mkParents t pre rest generalizing t' with
  | case1 t pre => cases h; exact fun x hx => hx
  | case2 t pre k => cases h; exact fun x hx => hx
  | case3 t pre k k' rest pre' hg ih => exact ih t' h
  | case4 t pre k k' rest pre' v hg => cases h
  | case5 t pre k k' rest pre' hg ih => exact fun x hx => ih t' h x (List.mem_cons_of_mem _ hx)

theorem rawCreate_ok {t : Tree} {p : Path} {n : Node} (hp : p ≠ []) (hfree : get? t p = none)
    (hpar : ∀ q v, isMid [] p q = true → get? t q ≠ some (.ds v)) :
    ∃ t', rawCreate t p n = .ok t' := by
  obtain ⟨t', ht'⟩ := mkParents_ok p t [] hpar
  exact ⟨(p, n) :: t', by simp [rawCreate, hp, has_false_iff.mpr hfree, ht']⟩

theorem rawCreate_inv {t t' : Tree} {p : Path} {n : Node} (h : rawCreate t p n = .ok t') :
    p ≠ [] ∧ get? t p = none ∧ ∃ t1, mkParents t [] p = .ok t1 ∧ t' = (p, n) :: t1 := by
  unfold rawCreate at h
  split_ifs at h with h1 h2
  cases hm : mkParents t [] p with
  | error e => simp [hm] at h
  | ok t1 =>
    simp only [hm, Except.ok.injEq] at h
    exact ⟨h1, has_false_iff.mp (by simpa using h2), t1, rfl, h.symm⟩

theorem rawCreate_get? {t t' : Tree} {p : Path} {n : Node} (h : rawCreate t p n = .ok t') (q : Path) :
    get? t' q = if q = p then some n else
      match get? t q with
      | some x => some x
      | none => if isMid [] p q then some .grp else none := by
  obtain ⟨hp, hfree, t1, h1, rfl⟩ := rawCreate_inv h
  by_cases hq : q = []
  · subst hq; simp [hp.symm]
  rw [get?_cons hq, mkParents_get? _ _ _ _ h1 q hq]
  by_cases hpq : p = q
  · subst hpq; simp
  · have : q ≠ p := fun h => hpq h.symm
    rw [if_neg hpq, if_neg this]

theorem rawCreate_keys {t t' : Tree} {p : Path} {n : Node} (h : rawCreate t p n = .ok t')
    (hk : KeysOK t) : KeysOK t' := by
  obtain ⟨hp, hfree, t1, h1, rfl⟩ := rawCreate_inv h
  have hk1 := mkParents_keys _ _ _ _ h1 hk
  have hfree1 : get? t1 p = none := by
    rw [mkParents_get? _ _ _ _ h1 p hp, hfree]
    have : isMid [] p p = false := by
      cases hm : isMid [] p p
      · rfl
      · exact absurd rfl (isMid_nil_iff.mp hm).2.2
    simp [this]
  constructor
  · simp only [List.map_cons, List.nodup_cons]
    refine ⟨?_, hk1.nodup⟩
    intro hm
    obtain ⟨⟨p', n'⟩, hmem, rfl⟩ := List.mem_map.mp hm
    have := ((mem_iff_get? hk1).mp hmem).2
    rw [hfree1] at this; cases this
  · intro n' hm
    rcases List.mem_cons.mp hm with h | h
    · cases h; exact hp rfl
    · exact hk1.noroot n' h

theorem rawDel_inv {t t' : Tree} {p : Path} (h : rawDel t p = .ok t') :
    p ≠ [] ∧ get? t p ≠ none ∧ t' = t.filter fun e => !under p e.1 := by
  unfold rawDel at h
  split_ifs at h with h1 h2
  exact ⟨h1, has_iff.mp (by simpa using h2), (Except.ok.inj h).symm⟩

theorem rawDel_ok {t : Tree} {p : Path} (hp : p ≠ []) (h : get? t p ≠ none) :
    rawDel t p = .ok (t.filter fun e => !under p e.1) := by
  simp [rawDel, hp, has_iff.mpr h]

theorem rawDel_get? {t t' : Tree} {p : Path} (h : rawDel t p = .ok t') (q : Path) :
    get? t' q = if under p q then none else get? t q := by
  obtain ⟨hp, -, rfl⟩ := rawDel_inv h
  by_cases hq : q = []
  · subst hq; cases p with
    | nil => exact absurd rfl hp
    | cons x p => simp [under]
  rw [get?_filter (fun x => !under p x) t q hq]
  cases under p q <;> simp

theorem filter_keys {t : Tree} (f : Path × Node → Bool) (hk : KeysOK t) : KeysOK (t.filter f) := by
  constructor
  · exact (hk.nodup.sublist ((List.filter_sublist).map Prod.fst))
  · intro n hm
    exact hk.noroot n (List.mem_filter.mp hm).1

theorem rawDel_keys {t t' : Tree} {p : Path} (h : rawDel t p = .ok t') (hk : KeysOK t) : KeysOK t' := by
  obtain ⟨-, -, rfl⟩ := rawDel_inv h
  exact filter_keys _ hk

/-- every stored node has a parent that is a group -/
def PClosed (t : Tree) : Prop := ∀ q k, get? t (q ++ [k]) ≠ none → get? t q = some .grp

theorem mkParents_mid_not_ds (rest : Path) (t : Tree) (pre : Path) (t' : Tree)
    (h : mkParents t pre rest = .ok t') (q : Path) (hm : isMid pre rest q = true) (v : Val) :
    get? t q ≠ some (.ds v) := by
  fun_induction mkParents t pre rest generalizing t' with
  | case1 t pre => simp [isMid] at hm
  | case2 t pre k => simp [isMid] at hm
  | case3 t pre k k' rest pre' hg ih =>
    simp only [isMid, Bool.or_eq_true, beq_iff_eq] at hm
    rcases hm with rfl | hm
    · simp [pre'] at hg; rw [hg]; exact fun h => by cases h
    · exact ih t' h hm
  | case4 t pre k k' rest pre' v hg => cases h
  | case5 t pre k k' rest pre' hg ih =>
    simp only [isMid, Bool.or_eq_true, beq_iff_eq] at hm
    rcases hm with rfl | hm
    · simp [pre'] at hg; rw [hg]; exact fun h => by cases h
    · have := ih t' h hm
      have hq := isMid_ne_nil hm
      rw [get?_cons hq] at this
      split_ifs at this with hpq
      · subst hpq; rw [hg]; exact fun h => by cases h
      · exact this

theorem prefix_snoc_iff {dst q : Path} {k : Key} : dst <+: q ++ [k] ↔ (dst = q ++ [k] ∨ dst <+: q) := by
  constructor
  · rintro ⟨c, hc⟩
    cases c using List.reverseRecOn with
    | nil => left; simpa using hc
    | append_singleton c x _ =>
      right
      rw [← List.append_assoc] at hc
      exact ⟨c, (List.append_inj' hc rfl).1⟩
  · rintro (rfl | h)
    · exact List.prefix_refl _
    · exact h.trans (List.prefix_append _ _)

theorem prefix_grp {t : Tree} (hc : PClosed t) : ∀ (b : Path) (a : Path), get? t (a ++ b) ≠ none → b ≠ [] →
    get? t a = some .grp := by
  intro b
  induction b using List.reverseRecOn with
  | nil => intro a _ h; exact absurd rfl h
  | append_singleton b k ih =>
    intro a hg _
    have h1 : get? t (a ++ b) = some .grp := hc (a ++ b) k (by simpa [List.append_assoc] using hg)
    by_cases hb : b = []
    · subst hb; simpa using h1
    · exact ih a (by rw [h1]; simp) hb

theorem prefix_grp' {t : Tree} (hc : PClosed t) {q p : Path} (h : q <+: p) (hne : q ≠ p)
    (hp : get? t p ≠ none) : get? t q = some .grp := by
  obtain ⟨b, rfl⟩ := h
  exact prefix_grp hc b q hp (by rintro rfl; simp at hne)

theorem snoc2_inj {a b : Path} {k1 k2 l1 l2 : Key} (h : a ++ [k1, k2] = b ++ [l1, l2]) :
    a = b ∧ k1 = l1 ∧ k2 = l2 := by
  have h' : (a ++ [k1]) ++ [k2] = (b ++ [l1]) ++ [l2] := by simpa using h
  obtain ⟨h1, h2⟩ := List.append_inj' h' rfl
  obtain ⟨h3, h4⟩ := List.append_inj' h1 rfl
  simp at h2 h4
  exact ⟨h3, h4, h2⟩

/-- the first internal name of a path is where it is -/
theorem internal_split_unique : ∀ (a a' : Path) (k k' : Key) (r r' : Path),
    isInternal a = false → isInternal a' = false → k.internal = true → k'.internal = true →
    a ++ k :: r = a' ++ k' :: r' → a = a' ∧ k = k' ∧ r = r'
  | [], [], k, k', r, r', _, _, _, _, h => by simp at h; exact ⟨rfl, h.1, h.2⟩
  | [], x :: a', k, k', r, r', _, ha', hk, _, h => by
    simp at h
    simp only [isInternal, List.any_cons, Bool.or_eq_false_iff] at ha'
    rw [← h.1, hk] at ha'; simp at ha'
  | x :: a, [], k, k', r, r', ha, _, _, hk', h => by
    simp at h
    simp only [isInternal, List.any_cons, Bool.or_eq_false_iff] at ha
    rw [h.1, hk'] at ha; simp at ha
  | x :: a, y :: a', k, k', r, r', ha, ha', hk, hk', h => by
    simp only [List.cons_append, List.cons.injEq] at h
    simp only [isInternal, List.any_cons, Bool.or_eq_false_iff] at ha ha'
    obtain ⟨h1, h2, h3⟩ := internal_split_unique a a' k k' r r' ha.2 ha'.2 hk hk' h.2
    exact ⟨by rw [h.1, h1], h2, h3⟩

theorem rawCreate_pclosed {t t' : Tree} {p : Path} {n : Node} (h : rawCreate t p n = .ok t')
    (hc : PClosed t) : PClosed t' := by
  obtain ⟨hp, hfree, t1, h1, -⟩ := rawCreate_inv h
  have hpre : ∀ q, q <+: p → q ≠ p → get? t' q = some .grp := by
    intro q hqp hne
    by_cases hq : q = []
    · subst hq; simp
    · have hm : isMid [] p q = true := isMid_nil_iff.mpr ⟨hq, hqp, hne⟩
      rw [rawCreate_get? h q, if_neg hne]
      cases hg : get? t q with
      | none => simp [hm]
      | some x =>
        cases x with
        | grp => rfl
        | ds v => exact absurd hg (mkParents_mid_not_ds _ _ _ _ h1 q hm v)
  intro q k hne
  by_cases hqp : q ++ [k] = p
  · exact hpre q ⟨[k], hqp⟩ (by intro h; rw [h] at hqp; simp at hqp)
  · cases hg : get? t (q ++ [k]) with
    | some x =>
      have hq := hc q k (by rw [hg]; simp)
      have : q ≠ p := by rintro rfl; rw [hfree] at hq; cases hq
      rw [rawCreate_get? h q]
      simp [this, hq]
    | none =>
      by_cases hm : isMid [] p (q ++ [k]) = true
      · obtain ⟨-, hpr, -⟩ := isMid_nil_iff.mp hm
        exact hpre q ((List.prefix_append q [k]).trans hpr) (fun h2' => by
          have := hpr.length_le
          rw [← h2'] at this; simp at this; omega)
      · exfalso; apply hne
        rw [rawCreate_get? h, if_neg hqp, hg]
        simp [hm]

theorem rawDel_pclosed {t t' : Tree} {p : Path} (h : rawDel t p = .ok t') (hc : PClosed t) :
    PClosed t' := by
  intro q k hne
  rw [rawDel_get? h] at hne
  split_ifs at hne with hu
  · exact absurd rfl hne
  · have : under p q = false := by
      cases hu' : under p q
      · rfl
      · exfalso; apply hu
        rw [under_iff] at hu' ⊢
        exact hu'.trans ⟨[k], rfl⟩
    rw [rawDel_get? h q]
    simp [this, hc q k hne]

theorem mem_children {t : Tree} (hk : KeysOK t) {p : Path} {k : Key} {n : Node} :
    (k, n) ∈ children t p ↔ get? t (p ++ [k]) = some n := by
  simp only [children, List.mem_filterMap]
  constructor
  · rintro ⟨⟨q, m⟩, hmem, hm⟩
    cases hl : q.getLast? with
    | none => simp [hl] at hm
    | some k' =>
      simp only [hl] at hm
      split_ifs at hm with hc
      · cases hm
        simp only [Bool.and_eq_true, decide_eq_true_eq, under_iff] at hc
        obtain ⟨q', rfl⟩ := List.getLast?_eq_some_iff.mp hl
        obtain ⟨hlen, b, hb⟩ := hc
        have : q' = p := by
          have h1 : q'.length = p.length := by simpa using hlen
          have : p ++ b = q' ++ [k] := hb
          exact (List.append_inj this h1.symm).1.symm
        subst this
        exact ((mem_iff_get? hk).mp hmem).2
  · intro hg
    refine ⟨(p ++ [k], n), (mem_iff_get? hk).mpr ⟨by simp, hg⟩, ?_⟩
    simp [under]

theorem mem_descendants {t : Tree} (hk : KeysOK t) {p q : Path} {n : Node} :
    (q, n) ∈ descendants t p ↔ (get? t q = some n ∧ p <+: q ∧ q ≠ p) := by
  simp only [descendants, List.mem_filter, Bool.and_eq_true, decide_eq_true_eq, under_iff]
  constructor
  · rintro ⟨hmem, hpre, hlen⟩
    refine ⟨((mem_iff_get? hk).mp hmem).2, hpre, ?_⟩
    rintro rfl; omega
  · rintro ⟨hg, hpre, hne⟩
    have hq : q ≠ [] := by
      rintro rfl
      exact hne (List.prefix_nil.mp hpre).symm
    refine ⟨(mem_iff_get? hk).mpr ⟨hq, hg⟩, hpre, ?_⟩
    obtain ⟨b, rfl⟩ := hpre
    cases b with
    | nil => simp at hne
    | cons x b => simp

section AL
variable {α β : Type} [DecidableEq α]

theorem nodup_setAdd {l : List α} (h : l.Nodup) (a : α) : (setAdd l a).Nodup := by
  unfold setAdd
  split_ifs with hm
  · exact h
  · exact List.nodup_append.mpr ⟨h, List.nodup_singleton a, by
      intro x hx y hy
      simp only [List.mem_singleton] at hy
      subst hy
      rintro rfl
      exact hm hx⟩

theorem nodup_setRemove {l : List α} (h : l.Nodup) (a : α) : (setRemove l a).Nodup :=
  h.sublist List.filter_sublist

theorem setRemove_eq_nil {l : List α} {a : α} : setRemove l a = [] ↔ ∀ x ∈ l, x = a := by
  simp [setRemove, List.filter_eq_nil_iff]

theorem alGet_eq_none_iff (l : List (α × β)) (a : α) : alGet l a = none ↔ a ∉ alKeys l := by
  rw [← alGet_isSome_iff]
  cases alGet l a <;> simp

theorem alKeys_alSet_nodup {l : List (α × β)} (h : (alKeys l).Nodup) (a : α) (b : β) :
    (alKeys (alSet l a b)).Nodup := by
  induction l with
  | nil => simp [alSet, alKeys]
  | cons e t ih =>
    obtain ⟨k, v⟩ := e
    simp only [alKeys, List.map_cons, List.nodup_cons] at h
    simp only [alSet]
    split_ifs with hk
    · simpa [alKeys] using h
    · simp only [alKeys, List.map_cons, List.nodup_cons]
      refine ⟨?_, ih h.2⟩
      intro hm
      have : (alGet (alSet t a b) k).isSome := (alGet_isSome_iff _ _).mpr hm
      rw [alGet_alSet, if_neg hk] at this
      exact h.1 ((alGet_isSome_iff _ _).mp this)

theorem alKeys_alErase_nodup {l : List (α × β)} (h : (alKeys l).Nodup) (a : α) :
    (alKeys (alErase l a)).Nodup :=
  h.sublist ((List.filter_sublist).map Prod.fst)

theorem mem_alKeys_alSet (l : List (α × β)) (a : α) (b : β) (x : α) :
    x ∈ alKeys (alSet l a b) ↔ x ∈ alKeys l ∨ x = a := by
  rw [← alGet_isSome_iff, alGet_alSet, ← alGet_isSome_iff]
  by_cases h : x = a <;> simp [h]

theorem mem_alKeys_alErase (l : List (α × β)) (a x : α) :
    x ∈ alKeys (alErase l a) ↔ x ∈ alKeys l ∧ x ≠ a := by
  rw [← alGet_isSome_iff, alGet_alErase, ← alGet_isSome_iff]
  by_cases h : x = a <;> simp [h]

theorem alErase_eq_nil_iff {α β : Type} [DecidableEq α] (l : List (α × β)) (a : α) :
    alErase l a = [] ↔ ∀ x, (alGet l x).isSome → x = a := by
  simp only [alErase, List.filter_eq_nil_iff, alGet_isSome_iff, alKeys, List.mem_map]
  constructor
  · rintro h x ⟨⟨k, v⟩, hm, rfl⟩
    have := h (k, v) hm
    simpa using this
  · rintro h ⟨k, v⟩ hm
    have := h k ⟨(k, v), hm, rfl⟩
    simpa using this

end AL

end MetadorModel.Container
