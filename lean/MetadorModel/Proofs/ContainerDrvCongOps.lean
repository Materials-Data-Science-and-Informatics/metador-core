import MetadorModel.Proofs.ContainerDrvCong
/-!
# `ObsEq` is a congruence for links, handles, node operations and `step` (C09, reopen points)

Above `TOCSchemas` both sides are the same program, run in `ObsEq`-related states, and the
lemma of a definition is the term that walks its do-block: one rule per primitive, `CongO.bind`
between statements, `Cong.ite` at an `if`, `cases` at a `match`. After a `let s ← getSt` the
right snapshot is the left one with equivalent caches (`CongO.getSt_bind`), so everything the
code reads of the raw tree is literally the same on both sides; the caches are read only
through `alGet s.c.tocPath`, `findMissing` and `Handle.get`, which answer alike
(`CachesEqv.tocPath`, `findMissing_congr`, `handleGet_congr`).

The file closes with two facts about `run` that the congruence is used with: `run_append` and `Reachable.step`.
-/
namespace MetadorModel.Container

/-- `Cong` with `ObsEq` before and after -/
abbrev CongO {α : Type} (m m' : M α) : Prop := Cong ObsEq m m' ObsEq

namespace CongO
variable {α β : Type}

theorem pure (a : α) : CongO (Pure.pure a : M α) (Pure.pure a) := Cong.pure a fun _ _ h => h

theorem bind {m m' : M α} {f f' : α → M β} (h : CongO m m')
    (hf : ∀ a, CongO (f a) (f' a)) : CongO (m >>= f) (m' >>= f') := Cong.bind h hf

theorem raise (e : Err) : CongO (raise e : M α) (Container.raise e) := Cong.raise e fun _ _ h => h

theorem raise_bind {e : Err} {f f' : α → M β} :
    CongO (Container.raise e >>= f) (Container.raise e >>= f') := Cong.raise_bind e fun _ _ h => h

/-- both sides look the same thing up (`rfl` where the lookup does not read the caches) -/
theorem ofOpt (e : Err) {o o' : Option α} (h : o = o') : CongO (ofOpt e o) (Container.ofOpt e o') :=
  h ▸ Cong.ofOpt e o fun _ _ h => h

/-- both sides read their state: the right snapshot is the left one with equivalent caches, so
what the continuation reads of the raw tree and the uuid counter is the same term on both sides -/
theorem getSt_bind {f f' : St → M α}
    (h : ∀ s c', ObsEq s { s with c := c' } → CongO (f s) (f' { s with c := c' })) :
    CongO (getSt >>= f) (getSt >>= f') := by
  rintro s ⟨t', c', n'⟩ ⟨ht, hn, hc⟩
  subst ht hn
  exact h s c' ⟨rfl, rfl, hc⟩ s _ ⟨rfl, rfl, hc⟩

theorem liftRaw (g : Tree → Except Err Tree) : CongO (liftRaw g) (Container.liftRaw g) :=
  Cong.liftRaw g (fun _ _ h => h.1) (fun _ _ h => h) (fun _ _ _ h => ⟨rfl, h.2.1, h.2.2⟩)

theorem freshUuid : CongO freshUuid Container.freshUuid := by
  intro s s' h
  unfold Container.freshUuid
  rw [h.2.1]
  exact .ok _ ⟨h.1, rfl, h.2.2⟩

theorem guardPath (p : Path) : CongO (guardPath p) (Container.guardPath p) :=
  Cong.ite (raise _) (pure _)

theorem forEachM (l : List α) {f f' : α → M Unit} (h : ∀ a, CongO (f a) (f' a)) :
    CongO (forEachM l f) (Container.forEachM l f') := Cong.forEachM l fun a _ => h a

theorem setTocPath (u : Nat) (tp : Path) :
    CongO (modC fun c => { c with tocPath := alSet c.tocPath u tp })
      (modC fun c => { c with tocPath := alSet c.tocPath u tp }) :=
  Cong.modC fun _ _ h => ⟨h.1, h.2.1, { h.2.2 with tocPath := AlEq.alSet h.2.2.tocPath u tp }⟩

theorem eraseTocPath (u : Nat) :
    CongO (modC fun c => { c with tocPath := alErase c.tocPath u })
      (modC fun c => { c with tocPath := alErase c.tocPath u }) :=
  Cong.modC fun _ _ h => ⟨h.1, h.2.1, { h.2.2 with tocPath := AlEq.alErase h.2.2.tocPath u }⟩

end CongO

theorem linkRegister_cong (e : Env) (ref : SRef) (u : Nat) (objPath : Path) :
    CongO (linkRegister e ref u objPath) (linkRegister e ref u objPath) :=
  CongO.bind (schemaRegister_cong e ref) fun _ => CongO.bind (CongO.setTocPath _ _) fun _ => CongO.liftRaw _

theorem linkUnregister_cong (u : Nat) : CongO (linkUnregister u) (linkUnregister u) :=
  CongO.getSt_bind fun s c' hc => CongO.bind (CongO.ofOpt _ (hc.2.2.tocPath u)) fun tp =>
  Cong.ite CongO.raise_bind <| Cong.ite CongO.raise_bind <|
  CongO.bind (CongO.liftRaw _) fun _ => CongO.bind (CongO.eraseTocPath u) fun _ =>
  CongO.getSt_bind fun s c' hc => Cong.ite (CongO.pure _) <| by
    cases tp.dropLast.getLast? with
    | none => exact CongO.raise _
    | some k =>
      cases k with
      | ep ref =>
        exact CongO.bind (CongO.liftRaw _) fun _ => CongO.bind (schemaUnregister_cong ref) fun _ =>
          CongO.getSt_bind fun s c' hc => Cong.ite (CongO.pure _) (CongO.liftRaw _)
      | _ => exact CongO.raise _

theorem linkUpdate_cong (u : Nat) (newTarget : Path) :
    CongO (linkUpdate u newTarget) (linkUpdate u newTarget) :=
  CongO.getSt_bind fun _ _ hc => CongO.bind (CongO.ofOpt _ (hc.2.2.tocPath u)) fun _ =>
  CongO.bind (CongO.liftRaw _) fun _ => CongO.liftRaw _

theorem repairMissing_cong (e : Env) (missing : List Path) (update : Bool) :
    CongO (repairMissing e missing update) (repairMissing e missing update) :=
  CongO.forEachM missing fun p => by
    cases objOfPath p with
    | none => exact CongO.raise _
    | some ru =>
      refine CongO.getSt_bind fun s c' hc => ?_
      rw [← hc.2.2.tocPath ru.2]
      exact Cong.ite (linkUpdate_cong _ _) <| CongO.bind CongO.freshUuid fun u' =>
        CongO.bind (CongO.liftRaw _) fun _ => linkRegister_cong _ _ _ _

theorem Handle.setRaw_cong (e : Env) (h : Handle) (ref : SRef) (tok : String) :
    CongO (h.setRaw e ref tok) (h.setRaw e ref tok) :=
  CongO.bind CongO.freshUuid fun _ => CongO.bind (CongO.liftRaw _) fun _ =>
  CongO.bind (linkRegister_cong _ _ _ _) fun _ => CongO.pure _

theorem Handle.delRaw_cong (h : Handle) (name : String) (unlink : Bool) :
    CongO (h.delRaw name unlink) (h.delRaw name unlink) :=
  CongO.bind (CongO.ofOpt _ rfl) fun _ =>
  have rest : CongO _ _ :=
    CongO.bind (CongO.liftRaw _) fun _ => Cong.ite (CongO.bind (CongO.liftRaw _) fun _ => CongO.pure _) (CongO.pure _)
  Cong.ite (CongO.bind (linkUnregister_cong _) fun _ => rest) rest

theorem Handle.set_cong (e : Env) (h : Handle) (name : String) (ver : Option Ver) (valid : Bool)
    (tok : String) : CongO (h.set e name ver valid tok) (h.set e name ver valid tok) :=
  Cong.ite CongO.raise_bind <| by
    cases e.requireSchema name ver with
    | error err => exact CongO.raise _
    | ok info => exact Cong.ite CongO.raise_bind (Handle.setRaw_cong _ _ _ _)

theorem Handle.del_cong (h : Handle) (name : String) : CongO (h.del name) (h.del name) :=
  Cong.ite CongO.raise_bind (Handle.delRaw_cong _ _ _)

theorem Handle.destroy_cong (h : Handle) (unlink : Bool) :
    CongO (h.destroy unlink) (h.destroy unlink) := by
  unfold Handle.destroy
  generalize h.objs.map (·.1) = ns
  induction ns generalizing h with
  | nil => exact CongO.pure _
  | cons n ns ih => exact CongO.bind (Handle.delRaw_cong _ _ _) fun h' => ih h'

theorem destroyMeta_cong (p : Path) (isDs unlink : Bool) :
    CongO (destroyMeta p isDs unlink) (destroyMeta p isDs unlink) :=
  CongO.getSt_bind fun _ _ _ => CongO.bind (Handle.destroy_cong _ _) fun _ =>
  Cong.ite (CongO.forEachM _ fun _ => CongO.getSt_bind fun _ _ _ => Handle.destroy_cong _ _) (CongO.pure _)

/-- `find_missing` followed by `repair_missing`, as `move` and `copy` end -/
theorem repair_cong (e : Env) {s s' : St} (h : ObsEq s s') (p : Path) (update : Bool) :
    CongO
      (match findMissing s p with
        | .error err => raise err
        | .ok missing => repairMissing e missing update)
      (match findMissing s' p with
        | .error err => raise err
        | .ok missing => repairMissing e missing update) := by
  rw [findMissing_congr h p]
  cases findMissing s' p with
  | error err => exact CongO.raise _
  | ok missing => exact repairMissing_cong _ _ _

theorem opMove_cong (e : Env) (src dst : Path) : CongO (opMove e src dst) (opMove e src dst) :=
  CongO.bind (CongO.guardPath _) fun _ => CongO.bind (CongO.guardPath _) fun _ =>
  CongO.getSt_bind fun _ _ _ => CongO.bind (CongO.ofOpt _ rfl) fun _ => CongO.bind (CongO.liftRaw _) fun _ =>
  CongO.getSt_bind fun _ _ _ => CongO.bind (CongO.ofOpt _ rfl) fun _ =>
  CongO.bind (Cong.ite (CongO.getSt_bind fun _ _ _ =>
    Cong.ite (CongO.bind (CongO.liftRaw _) fun _ => CongO.pure _) (CongO.pure _)) (CongO.pure _)) fun _ =>
  CongO.getSt_bind fun _ _ hc => Cong.ite (repair_cong e hc _ _) (CongO.pure _)

theorem opCopy_cong (e : Env) (src dst : Path) (wm : Bool) :
    CongO (opCopy e src dst wm) (opCopy e src dst wm) :=
  have rest (k : Bool) : CongO _ _ :=
    Cong.ite (Cong.ite (destroyMeta_cong dst false false)
      (CongO.getSt_bind fun s c' hc => repair_cong e hc dst false)) (CongO.pure ())
  CongO.bind (CongO.guardPath _) fun _ => CongO.getSt_bind fun s c' hc => CongO.bind (CongO.ofOpt _ rfl) fun k =>
  CongO.bind (CongO.guardPath _) fun _ => CongO.bind (CongO.liftRaw _) fun _ => CongO.getSt_bind fun s c' hc =>
  CongO.bind (CongO.ofOpt _ rfl) fun _ =>
  Cong.ite (CongO.bind (CongO.liftRaw _) fun _ => CongO.getSt_bind fun s c' hc => by
      rw [← findMissing_congr hc]
      cases findMissing s (metaBase dst true) with
      | error err => exact CongO.raise_bind
      | ok missing => exact CongO.bind (repairMissing_cong _ _ _) fun _ => rest k)
    (rest k)

theorem metaStep_cong (e : Env) (h : Handle) (o : MetaOp) {s s' : St} (hs : ObsEq s s') :
    (metaStep e h o s).1 = (metaStep e h o s').1 ∧ ObsEq (metaStep e h o s).2 (metaStep e h o s').2 := by
  cases o with
  | set n v ok tok =>
    dsimp only [metaStep]
    exact match h.set e n v ok tok s, h.set e n v ok tok s', Handle.set_cong e h n v ok tok s s' hs with
      | _, _, .ok _ ht => ⟨rfl, ht⟩
      | _, _, .err _ ht => ⟨rfl, ht⟩
  | del n =>
    dsimp only [metaStep]
    exact match h.del n s, h.del n s', Handle.del_cong h n s s' hs with
      | _, _, .ok _ ht => ⟨rfl, ht⟩
      | _, _, .err _ ht => ⟨rfl, ht⟩
  | get n v =>
    dsimp only [metaStep]
    rw [handleGet_congr e hs]
    cases h.get e s' n v <;> exact ⟨rfl, hs⟩

theorem metaSeqTrace_cong (e : Env) (ops : List MetaOp) (h : Handle) {s s' : St} (hs : ObsEq s s') :
    (metaSeqTrace e h ops s).1 = (metaSeqTrace e h ops s').1 ∧
    ObsEq (metaSeqTrace e h ops s).2 (metaSeqTrace e h ops s').2 := by
  induction ops generalizing h s s' with
  | nil => exact ⟨rfl, hs⟩
  | cons o os ih =>
    obtain ⟨h1, h2⟩ := metaStep_cong e h o hs
    obtain ⟨i1, i2⟩ := ih (metaStep e h o s).1.2 h2
    simp only [metaSeqTrace, ← h1]
    exact ⟨by rw [i1], i2⟩

theorem step_cong (e : Env) (op : Op) : CongO (step e op) (step e op) := by
  cases op with
  | createGroup p => exact CongO.bind (CongO.guardPath p) fun _ => CongO.liftRaw _
  | createDataset p tok => exact CongO.bind (CongO.guardPath p) fun _ => CongO.liftRaw _
  | onMeta p ops =>
    exact CongO.bind (CongO.guardPath p) fun _ => CongO.getSt_bind fun s c' hc =>
      CongO.bind (CongO.ofOpt _ rfl) fun k _ _ hs => .ok () (metaSeqTrace_cong e ops _ hs).2
  | delete p =>
    exact CongO.bind (CongO.guardPath p) fun _ => CongO.getSt_bind fun s c' hc =>
      CongO.bind (CongO.ofOpt _ rfl) fun k => CongO.bind (destroyMeta_cong p k true) fun _ => CongO.liftRaw _
  | copy src dst wm => exact opCopy_cong e src dst wm
  | move src dst => exact opMove_cong e src dst
  | reopen =>
    exact fun s s' h => .ok () ⟨h.1, h.2.1,
      show CachesEqv (reload s.raw) (reload s'.raw) from h.1 ▸ CachesEqv.refl _⟩
  | patch => exact CongO.pure _

/-- **`ObsEq` is a congruence**: states with the same raw tree, the same uuid counter and
equivalent caches give the same observation for every operation and are taken to such states
again. Proved syntactically through every definition of the model; no invariant. -/
theorem obsEq_congruent (e : Env) : Congruent e ObsEq := by
  intro op s s' hs
  have h1 := step_cong e op s s' hs
  refine ⟨?_, h1.obsEq⟩
  unfold obs
  rw [h1.fst_eq]
  cases op with
  | onMeta p ops => simp only [c9_nodeKind_congr hs, openHandle_congr hs, (metaSeqTrace_cong e ops _ hs).1]
  | _ => rfl

theorem run_append (e : Env) (s : St) (h h' : List Op) : run e s (h ++ h') = run e (run e s h) h' := by
  induction h generalizing s with
  | nil => rfl
  | cons op ops ih => simp only [List.cons_append, run, ih]

theorem Reachable.step {e : Env} {s : St} (hr : Reachable e s) (op : Op) :
    Reachable e (step e op s).2 := by
  obtain ⟨h, rfl⟩ := hr
  exact ⟨h ++ [op], by rw [run_append]; rfl⟩

end MetadorModel.Container
