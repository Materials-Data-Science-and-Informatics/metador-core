import MetadorModel.Model.Acl
/-! Helper lemmas for the node-restriction model (C15): the flag order, the facts a `TableOk`
table provides, and the one-step lemmas the chain theorems are folded from. -/
namespace MetadorModel.Acl

theorem Flags.le_iff {a b : Flags} : a.le b = true ↔ ∀ f, a.has f = true → b.has f = true := by
  have imp : ∀ x y : Bool, (!x || y) = true ↔ (x = true → y = true) := by decide
  simp only [Flags.le, Bool.and_eq_true, imp]
  exact ⟨fun h f => match f with | .ro => h.1.1 | .loc => h.1.2 | .skel => h.2,
    fun h => ⟨⟨h .ro, h .loc⟩, h .skel⟩⟩

theorem Flags.has_union (a b : Flags) (f : Flag) : (a.union b).has f = (a.has f || b.has f) := by
  cases f <;> rfl

theorem Flags.le_refl (a : Flags) : a.le a = true := Flags.le_iff.2 fun _ h => h

theorem Flags.le_trans {a b c : Flags} (h1 : a.le b = true) (h2 : b.le c = true) : a.le c = true :=
  Flags.le_iff.2 fun f h => Flags.le_iff.1 h2 f (Flags.le_iff.1 h1 f h)

theorem Flags.le_union_left (a b : Flags) : a.le (a.union b) = true :=
  Flags.le_iff.2 fun f h => by rw [Flags.has_union, h, Bool.true_or]

theorem Flags.le_union_right (a b : Flags) : b.le (a.union b) = true :=
  Flags.le_iff.2 fun f h => by rw [Flags.has_union, h, Bool.or_true]

structure Facts (t : AclTable) : Prop where
  wraps : ∀ p : Prim, t.wrapsPrim p.name = true
  wrapsParent : t.wrapsPrim "parent" = true
  inherit : t.childKwargsInheritAll = true
  restrictOrs : t.restrictOrs = true
  parentUnion : t.parentMode = .lpUnion
  absGuard : t.absGuardLocal = true
  fallback : t.propertyFallbackRefused = true
  mutG : ∀ op ∈ mutatingOps, (t.guardsOf op).contains Flag.ro = true
  readG : ∀ op ∈ readingOps, (t.guardsOf op).contains Flag.skel = true
  upG : ∀ op ∈ upwardOps, (t.guardsOf op).contains Flag.loc = true

theorem facts_of_tableOk (t : AclTable) (h : TableOk t = true) : Facts t := by
  simp only [TableOk, tableConds, List.all_cons, id, Bool.and_eq_true, List.all_eq_true] at h
  obtain ⟨h1, h2, h3, h4, h5, h6, h7, h8, h9, h10, -⟩ := h
  exact ⟨fun p => h1 p (by cases p <;> decide), h2, h3, h4, by simpa using h5, h6, h7, h8, h9, h10⟩

/-- what `TableOk` demands of the attribute manager (the last ten conditions of `tableConds`, in their order) -/
structure AttrFacts (t : AclTable) : Prop where
  wrappedRo : t.attrsWrappedFor.contains Flag.ro = true
  wrappedSkel : t.attrsWrappedFor.contains Flag.skel = true
  keys : ∀ e ∈ t.attrWhitelist, (e.1 == Flag.ro || e.1 == Flag.skel) = true
  roNonempty : (!(t.attrAllowed ⟨true, false, false⟩).isEmpty) = true
  skelNonempty : (!(t.attrAllowed ⟨false, false, true⟩).isEmpty) = true
  bothNonempty : (!(t.attrAllowed ⟨true, false, true⟩).isEmpty) = true
  roNoMut : ∀ m ∈ attrMutMethods, (!(t.attrAllowed ⟨true, false, false⟩).contains m) = true
  bothNoMut : ∀ m ∈ attrMutMethods, (!(t.attrAllowed ⟨true, false, true⟩).contains m) = true
  skelNoValue : ∀ m ∈ attrValueMethods, (!(t.attrAllowed ⟨false, false, true⟩).contains m) = true
  bothNoValue : ∀ m ∈ attrValueMethods, (!(t.attrAllowed ⟨true, false, true⟩).contains m) = true

theorem attrFacts_of_tableOk (t : AclTable) (h : TableOk t = true) : AttrFacts t := by
  simp only [TableOk, tableConds, List.all_cons, id, Bool.and_eq_true, List.all_eq_true] at h
  obtain ⟨-, -, -, -, -, -, -, -, -, -, h11, h12, h13, h14, h15, h16, h17, h18, h19, h20, -⟩ := h
  exact ⟨h11, h12, h13, h14, h15, h16, h17, h18, h19, h20⟩

theorem find_opGuards_of_guard {t : AclTable} {op : String} {fl : Flag}
    (h : (t.guardsOf op).contains fl = true) : (t.opGuards.find? (·.1 == op)).isSome = true := by
  unfold AclTable.guardsOf at h
  split at h
  · simp [*]
  · cases h

theorem find_wraps_of_wrapsPrim {t : AclTable} {n : String} (h : t.wrapsPrim n = true) :
    (t.wraps.find? (·.1 == n)).isSome = true := by
  unfold AclTable.wrapsPrim at h
  split at h
  · simp [*]
  · cases h

theorem refuses_of_guard (t : AclTable) (op : String) (f : Flags) (fl : Flag)
    (hg : (t.guardsOf op).contains fl = true) (hf : f.has fl = true) : t.refuses op f = true :=
  List.any_eq_true.2 ⟨fl, List.contains_iff_mem.1 hg, hf⟩

theorem refusesOn_eq (t : AclTable) (hfb : t.propertyFallbackRefused = true) (g : Bool) (op : String)
    (f : Flags) : t.refusesOn g op f = t.refuses op f := by
  simp [AclTable.refusesOn, hfb]

theorem childWrapper_ok (t : AclTable) (hi : t.childKwargsInheritAll = true) (w : Wrapper) (p : Path) :
    childWrapper t true w p = ⟨p, w.flags, if w.flags.loc then (w.path, w.flags) :: w.lps else []⟩ := by
  simp [childWrapper, hi]

theorem step_parent_root (t : AclTable) (F : Facts t) (T : Tree) (w : Wrapper)
    (hl : w.flags.loc = true) (hlps : w.lps = []) : step t T w .parent = .error .unsupported := by
  have hr : t.refuses "parent" w.flags = true :=
    refuses_of_guard t "parent" w.flags .loc (F.upG "parent" (by simp [upwardOps])) hl
  simp only [step, hl, hlps, refusesOn_eq t F.fallback, hr, ↓reduceIte]

/-- an `if` that comes out as `.ok x` took a branch that comes out as `.ok x` -/
theorem ok_of_ite {ε α : Type} {c G : Prop} [Decidable c] {a b : Except ε α} {x : α}
    (ha : c → a = .ok x → G) (hb : ¬c → b = .ok x → G) (h : (if c then a else b) = .ok x) : G := by
  split at h
  · exact ha ‹_› h
  · exact hb ‹_› h

theorem step_cases (t : AclTable) (F : Facts t) (T : Tree) (w w' : Wrapper) (s : Step)
    (h : step t T w s = .ok w') :
    -- same object (query yielding the start node)
    w' = w ∨
    -- a node below, or the true parent, or an absolute lookup by a non-local node: inherited flags
    (∃ p, w' = ⟨p, w.flags, if w.flags.loc then (w.path, w.flags) :: w.lps else []⟩ ∧
      ((∃ rel, p = w.path ++ rel) ∨ w.flags.loc = false)) ∨
    -- the remembered local parent with the united flags
    (w.flags.loc = true ∧ ∃ p f rest, w.lps = (p, f) :: rest ∧ w' = ⟨p, f.union w.flags, rest⟩) ∨
    -- restrict
    (∃ f, w' = ⟨w.path, w.flags.union f, if f.loc then [] else w.lps⟩) := by
  cases s with
  | child p rel =>
    simp only [step, F.wraps, childWrapper_ok t F.inherit] at h
    revert h
    -- along the chain of guards every raising leaf is impossible (`nofun`); two `.ok` leaves remain
    refine ok_of_ite (fun _ => ok_of_ite ?_ nofun)
      fun _ => ok_of_ite nofun fun _ => ok_of_ite nofun fun _ => ok_of_ite nofun fun _ h => ?_
    · rintro - ⟨⟩; exact Or.inl rfl
    · split at h
      · cases h
      · revert h
        refine ok_of_ite nofun fun _ => ok_of_ite nofun ?_
        rintro - ⟨⟩
        exact Or.inr (Or.inl ⟨_, rfl, Or.inl ⟨rel, rfl⟩⟩)
  | abs p path =>
    simp only [step, F.wraps, childWrapper_ok t F.inherit, F.absGuard, Bool.true_and] at h
    revert h
    refine ok_of_ite nofun fun _ => ok_of_ite nofun fun _ => ok_of_ite nofun fun hl h => ?_
    split at h
    · cases h
    · cases h
      exact Or.inr (Or.inl ⟨_, rfl, Or.inr (Bool.not_eq_true _ ▸ hl)⟩)
  | parent =>
    by_cases hl : w.flags.loc = true
    · cases hlps : w.lps with
      | nil => rw [step_parent_root t F T w hl hlps] at h; cases h
      | cons e rest =>
        obtain ⟨p, f⟩ := e
        simp only [step, hl, hlps, ↓reduceIte, F.parentUnion] at h
        cases h
        exact Or.inr (Or.inr (Or.inl ⟨hl, p, f, rest, rfl, rfl⟩))
    · simp only [step, hl, Bool.false_eq_true, ↓reduceIte] at h
      rw [F.wrapsParent, childWrapper_ok t F.inherit] at h
      cases h
      refine Or.inr (Or.inl ⟨_, rfl, Or.inr ?_⟩)
      simpa using hl
  | restrict f =>
    simp only [step, F.restrictOrs, ↓reduceIte] at h
    cases h
    exact Or.inr (Or.inr (Or.inr ⟨f, rfl⟩))

theorem nav_invariant (t : AclTable) (T : Tree) (Inv : Wrapper → Prop)
    (hstep : ∀ x y s, Inv x → step t T x s = .ok y → Inv y) (chain : List Step) (x w : Wrapper)
    (hx : Inv x) (h : nav t T chain x = .ok w) : Inv w := by
  induction chain generalizing x with
  | nil => cases h; exact hx
  | cons s ss ih =>
    simp only [nav] at h
    split at h
    · cases h
    · exact ih _ (hstep x _ s hx ‹_›) h

theorem runOp_refused {σ α : Type} (t : AclTable) (F : Facts t) (g : Bool) (w : Wrapper) (op : String)
    (fl : Flag) (hg : (t.guardsOf op).contains fl = true) (hf : w.flags.has fl = true)
    (raw : σ → Except NavErr (σ × α)) (s : σ) : runOp t g w op raw s = .error .unsupported := by
  simp [runOp, refusesOn_eq t F.fallback, refuses_of_guard t op w.flags fl hg hf]

end MetadorModel.Acl
