import MetadorModel.Proofs.OverlayWriteSem
/-!
# C01 write side: the basic write paths evaluated

For a record `c :: older` with the invariant, each write path (`create_group`, `create_dataset`,
`__delitem__`, `attrs[k] = v`, `del attrs[k]`) is evaluated: it does not fail when the plain
tree would accept the call, and the resulting newest container is described point-wise (`Leaf` /
`ChainShape` for nodes, `setAttrRaw_shape` for attributes); `chain_sem` / `graft` / `attr_sem`
then give the new view. Each `…_ok` lemma re-establishes the invariant and gives the new view in
terms of the old one; each `…_err` lemma says when the write path refuses.
-/
namespace MetadorModel.Overlay
open MetadorModel.Tree
variable {V : Type}

theorem anc_groups (c : Cont V) (older : Rec V) (hinv : Inv (c :: older)) (p : Path)
    (hvis : ∀ x ∈ properPrefixes p, viewKind (c :: older) x = some .group) :
    ∀ x ∈ properPrefixes p, ∀ m, aget x c = some m → m.kind.isGroup = true :=
  fun x hx m hm => entry_isGroup_of_view_group c older hinv x m (hvis x hx) hm

theorem pp_visible_of_visible (r : Rec V) (p : Path) (h : viewKind r p ≠ none) :
    ∀ x ∈ properPrefixes p, viewKind r x = some .group := by
  intro x hx
  obtain ⟨s, hs, rfl⟩ := (mem_properPrefixes _ _).1 hx
  exact view_prefix_group r x s hs h

theorem entry_at_invisible (c : Cont V) (older : Rec V) (hinv : Inv (c :: older)) (p : Path) (n : RNode V)
    (hv : viewKind (c :: older) p = none) (hp : aget p c = some n) : n.kind.isDel = true := by
  rw [(view_cons c older hinv.1 hinv.2.1 p).1] at hv
  unfold applyKind at hv
  by_cases hnv : nvPrefix c p = true
  · simp only [hnv, ↓reduceIte, hp, plainK, Option.bind_some] at hv
    cases hk : n.kind <;> simp_all [plainKind, RKind.isDel]
  · simp only [hnv, hp] at hv
    cases hk : viewKind older p <;> simp [hk] at hv

theorem free_below (c : Cont V) (hwf : WF c) (p : Path) (h : aget p c = none ∨ isDelAt c p = true) :
    ∀ s, s ≠ [] → aget (p ++ s) c = none := by
  intro s hs
  rcases h with h | h
  · exact hwf.below_none p s h
  · unfold isDelAt at h
    cases hp : aget p c with
    | none => exact hwf.below_none p s hp
    | some n =>
      simp only [hp] at h
      have : n.kind.isGroup = false := by cases hk : n.kind <;> simp_all [RKind.isDel, RKind.isGroup]
      exact hwf.below_nongroup p s n hp this hs

theorem parent_visible (c : Cont V) (older : Rec V) (hinv : Inv (c :: older)) (x : Path) (j : Key)
    (h : aget (x ++ [j]) c ≠ none) : viewKind (c :: older) x = some .group := by
  obtain ⟨m, hm, hg⟩ := hinv.1.parent x j h
  rw [(view_cons c older hinv.1 hinv.2.1 x).1]
  unfold applyKind
  by_cases hnv : nvPrefix c x = true
  · simp [hnv, hm, plainK, plainKind_group_of_isGroup hg]
  · simp only [hnv, hm]
    by_cases hx0 : x = []
    · subst hx0; rw [viewKind_root]; rfl
    · rcases hinv.2.1 x m hx0 hm (by simpa using hnv) with h1 | ⟨_, h2⟩ | h3
      · rw [h1]; rfl
      · exact absurd (h2 [j] (by simp)) h
      · rw [viewKind_none_of_unmentioned older x hx0 h3]; rfl

theorem base_present (c : Cont V) (hinv : Inv [c]) (x : Path) (h : viewKind [c] x ≠ none) : aget x c ≠ none := by
  rw [(view_cons c [] hinv.1 hinv.2.1 x).1] at h
  unfold applyKind at h
  intro hx
  by_cases hnv : nvPrefix c x = true
  · simp [hnv, hx, plainK] at h
  · simp only [hnv, hx] at h
    by_cases hx0 : x = []
    · subst hx0
      obtain ⟨a, ha⟩ := hinv.1.root
      rw [ha] at hx; cases hx
    · exact h (viewKind_nil x hx0)

theorem Leaf.free {c cg : Cont V} {p : Path} {n : RNode V} (h : Leaf c p n cg) (s : Path) (hs : s ≠ []) :
    aget (p ++ s) cg = none := by
  rw [h]; simp [hs, isPre_append]

theorem Leaf.at {c cg : Cont V} {p : Path} {n : RNode V} (h : Leaf c p n cg) : aget p cg = some n := by
  rw [h]; simp

theorem Leaf.out {c cg : Cont V} {p : Path} {n : RNode V} (h : Leaf c p n cg) (q : Path) (hq : isPre p q = false) :
    aget q cg = withCarriers c p q := by
  rw [h]
  have : q ≠ p := by rintro rfl; rw [isPre_refl] at hq; cases hq
  simp [this, hq]

theorem withCarriers_isGroup (c : Cont V) (p x : Path) (m : RNode V)
    (hanc : ∀ x ∈ properPrefixes p, ∀ m, aget x c = some m → m.kind.isGroup = true)
    (hx : x ∈ properPrefixes p) (h : withCarriers c p x = some m) : m.kind.isGroup = true := by
  unfold withCarriers at h
  cases hc : aget x c with
  | some m' => simp only [hc, Option.some.injEq] at h; subst h; exact hanc x hx m' hc
  | none => simp only [hc, hx, ↓reduceIte, Option.some.injEq] at h; subst h; rfl

theorem Leaf.anc {c cg : Cont V} {p0 : Path} {g : RKind V} (h : Leaf c p0 ⟨g, []⟩ cg) (hg : g.isGroup = true)
    (hanc : ∀ x ∈ properPrefixes p0, ∀ m, aget x c = some m → m.kind.isGroup = true) (more : Path) :
    ∀ x ∈ properPrefixes (p0 ++ more), ∀ m, aget x cg = some m → m.kind.isGroup = true := by
  intro x hx m hm
  by_cases hb : isPre p0 x = true
  · obtain ⟨s, rfl⟩ := (isPre_iff _ _).1 hb
    by_cases hs : s = []
    · subst hs
      simp only [List.append_nil] at hm
      rw [h.at] at hm
      cases hm; exact hg
    · rw [h.free s hs] at hm; cases hm
  · have hb' : isPre p0 x = false := by simpa using hb
    rw [h.out x hb'] at hm
    exact withCarriers_isGroup c p0 x m hanc (mem_pp_of_mem_pp_append p0 more x hx hb') hm

/-! ### `create_group`: the newest container afterwards -/

theorem createGroupAt_first (c : Cont V) (older : Rec V) (pre : Path) (k : Key) (hinv : Inv (c :: older))
    (hpre : viewKind (c :: older) pre = some .group) (hk : viewKind (c :: older) (pre ++ [k]) = none) :
    ∃ cg, W.createGroupAt (c :: older) (pre ++ [k]) = .ok (cg :: older) ∧
      Leaf c (pre ++ [k]) ⟨gk older, []⟩ cg := by
  have hfree : aget (pre ++ [k]) c = none ∨ isDelAt c (pre ++ [k]) = true := by
    cases hp : aget (pre ++ [k]) c with
    | none => exact Or.inl rfl
    | some n => right; simp [isDelAt, hp, entry_at_invisible c older hinv _ n hk hp]
  exact createGroupAt_shape c older (pre ++ [k]) hfree (free_below c hinv.1 _ hfree)
    (anc_groups c older hinv _ (pp_visible_of_part _ pre k hpre))

theorem createGroup_eval (c : Cont V) (older : Rec V) (path pre : Path) (k : Key) (more : Path)
    (hinv : Inv (c :: older)) (hl : look (c :: older) path = .part pre (k :: more)) :
    ∃ c', W.createGroup (c :: older) path = .ok (c' :: older) ∧
      ChainShape c (pre ++ [k]) (gk older) more ⟨gk older, []⟩ c' := by
  obtain ⟨k', y', hpath, hy, hpre, hk⟩ := look_part_props _ _ _ _ hl
  simp only [List.cons.injEq] at hy
  obtain ⟨rfl, rfl⟩ := hy
  obtain ⟨cg, hcg, hleaf⟩ := createGroupAt_first c older pre k hinv hpre hk
  have hancc := anc_groups c older hinv _ (pp_visible_of_part _ pre k hpre)
  by_cases hm : more = []
  · subst hm
    subst hpath
    refine ⟨cg, ?_, hleaf.chain _⟩
    simp only [W.createGroup, hl, ↓reduceIte]
    exact hcg
  · have hp2 : path = pre ++ [k] ++ more := by rw [hpath]; simp
    obtain ⟨c', hc', hleaf'⟩ := createGroupAt_shape cg older (pre ++ [k] ++ more)
      (Or.inl (hleaf.free more hm))
      (fun s _ => by rw [List.append_assoc]; exact hleaf.free (more ++ s) (by simp [hm]))
      (hleaf.anc (gk_isGroup older) hancc more)
    refine ⟨c', ?_, hleaf.extend hleaf'⟩
    simp only [W.createGroup, hl, hm, ↓reduceIte, hcg, bind, Except.bind]
    rw [hp2]; exact hc'

/-! ### `create_dataset`: the newest container afterwards -/

theorem createDataset_eval (c : Cont V) (older : Rec V) (path pre : Path) (k : Key) (more : Path) (v : V)
    (hinv : Inv (c :: older)) (hl : look (c :: older) path = .part pre (k :: more)) :
    ∃ c', W.createDataset (c :: older) path v = .ok (c' :: older) ∧
      ChainShape c (pre ++ [k]) (gk older) more ⟨.data v, []⟩ c' := by
  obtain ⟨k', y', hpath, hy, hpre, hk⟩ := look_part_props _ _ _ _ hl
  simp only [List.cons.injEq] at hy
  obtain ⟨rfl, rfl⟩ := hy
  have hp2 : path = pre ++ [k] ++ more := by rw [hpath]; simp
  have hancc := anc_groups c older hinv _ (pp_visible_of_part _ pre k hpre)
  -- an entry at `path` in the newest container forces `more = []`
  have hshallow : aget path c ≠ none → more = [] := by
    intro hne
    rcases List.eq_nil_or_concat more with h | ⟨m', j, h⟩
    · exact h
    · exfalso
      have hx : path = (pre ++ [k] ++ m') ++ [j] := by rw [hp2, h]; simp
      rw [hx] at hne
      have := parent_visible c older hinv _ j hne
      rw [view_below_none _ (pre ++ [k]) m' hk] at this
      cases this
  have hpathnone : viewKind (c :: older) path = none := by
    rw [hp2]; exact view_below_none _ _ more hk
  cases hp : aget path c with
  | some n =>
    -- necessarily a deletion marker, and `path = pre ++ [k]`
    have hm := hshallow (by simp [hp])
    subst hm
    simp only [List.append_nil] at hp2
    have hdel : isDelAt c path = true := by
      simp [isDelAt, hp, entry_at_invisible c older hinv _ n hpathnone hp]
    subst hp2
    obtain ⟨c', hc', hleaf⟩ := rmCreate_shape c (pre ++ [k]) ⟨.data v, []⟩ hancc
    refine ⟨c', ?_, hleaf.chain _⟩
    simp only [W.createDataset, hl, hdel, ↓reduceIte, pure, Except.pure, bind, Except.bind, hc']
  | none =>
    have hdel : isDelAt c path = false := by simp [isDelAt, hp]
    obtain ⟨cg, hcg, hleaf⟩ := createGroupAt_first c older pre k hinv hpre hk
    have hl1 : look (c :: older) (pre ++ [k]) = .part pre [k] := by
      apply look_part_first _ pre k more
      rw [← hpath]; exact hl
    have hcgroup : W.createGroup (c :: older) (pre ++ [k]) = .ok (cg :: older) := by
      simp only [W.createGroup, hl1, ↓reduceIte]
      exact hcg
    by_cases hm : more = []
    · subst hm
      simp only [List.append_nil] at hp2
      subst hp2
      obtain ⟨c', hc', hleaf'⟩ := rmCreate_shape cg (pre ++ [k]) ⟨.data v, []⟩
        (by simpa using hleaf.anc (gk_isGroup older) hancc [])
      refine ⟨c', ?_, hleaf.extend (more := []) (by rw [List.append_nil]; exact hleaf')⟩
      simp only [W.createDataset, hl, hdel, hp, W.createVirtual, hcgroup, Bool.false_eq_true, ↓reduceIte,
        Option.isNone_none, pure, Except.pure, bind, Except.bind, hleaf.at, Option.isNone_some, hc']
    · -- the deep case: groups down to `path`, removed again, then the dataset
      have hanc_cg := hleaf.anc (gk_isGroup older) hancc more
      obtain ⟨c3, hc3, hleaf3⟩ := create_shape_free cg (pre ++ [k] ++ more) vnode
        (fun s => by rw [List.append_assoc]; exact hleaf.free (more ++ s) (by simp [hm])) hanc_cg
      have hanc3 : ∀ x ∈ properPrefixes (pre ++ [k] ++ more), ∀ m, aget x c3 = some m → m.kind.isGroup = true := by
        intro x hx m hxm
        rw [hleaf3.out x (isPre_false_of_mem_pp _ x hx)] at hxm
        exact withCarriers_isGroup cg _ x m hanc_cg hx hxm
      obtain ⟨c', hc', hleaf'⟩ := rmCreate_shape c3 (pre ++ [k] ++ more) ⟨.data v, []⟩ hanc3
      have hleaf2 : Leaf cg (pre ++ [k] ++ more) ⟨.data v, []⟩ c' := hleaf'.rebase (fun q hq => hleaf3.out q hq)
      refine ⟨c', ?_, hleaf.extend hleaf2⟩
      subst hp2
      simp only [W.createDataset, hl, hdel, hp, W.createVirtual, hcgroup, hm, Bool.false_eq_true, ↓reduceIte,
        Option.isNone_none, pure, Except.pure, bind, Except.bind, Raw.createGroup, hc3, hleaf3.at, Option.isNone_some, hc']

/-! ### `__delitem__`: the newest container afterwards -/

theorem delete_eval_patch (c o : Cont V) (os : Rec V) (path : Path) (hinv : Inv (c :: o :: os))
    (hne : path ≠ []) (hvis : viewKind (c :: o :: os) path ≠ none) :
    ∃ c', W.delete (c :: o :: os) path = .ok (c' :: o :: os) ∧ Leaf c path ⟨.del, []⟩ c' := by
  obtain ⟨cf, nf, hl⟩ := found_of_viewKind _ _ hvis
  have hanc := anc_groups c (o :: os) hinv path (pp_visible_of_visible _ path hvis)
  cases hp : aget path c with
  | some n =>
    obtain ⟨c', hc', hleaf⟩ := rmCreate_shape c path ⟨.del, []⟩ hanc
    refine ⟨c', ?_, hleaf⟩
    simp only [W.delete, hne, ↓reduceIte, hl, hp, Option.isSome_some, List.isEmpty_cons, Bool.false_eq_true,
      bind, Except.bind, hc', pure, Except.pure]
  | none =>
    obtain ⟨c', hc', hleaf⟩ := create_shape_free c path ⟨.del, []⟩ (fun s => hinv.1.below_none path s hp) hanc
    refine ⟨c', ?_, hleaf⟩
    simp only [W.delete, hne, ↓reduceIte, hl, hp, Option.isSome_none, List.isEmpty_cons, Bool.false_eq_true,
      bind, Except.bind, hc', pure, Except.pure]

theorem delete_eval_base (c : Cont V) (path : Path) (hinv : Inv [c])
    (hne : path ≠ []) (hvis : viewKind [c] path ≠ none) :
    ∃ c', W.delete [c] path = .ok [c'] ∧ ∀ q, aget q c' = if isPre path q then none else aget q c := by
  obtain ⟨cf, nf, hl⟩ := found_of_viewKind _ _ hvis
  cases hp : aget path c with
  | some n =>
    refine ⟨removeSub path c, ?_, fun q => aget_removeSub path q c⟩
    simp only [W.delete, hne, ↓reduceIte, hl, hp, Option.isSome_some, List.isEmpty_nil,
      bind, Except.bind, pure, Except.pure]
  | none =>
    -- cannot happen: a visible path of the base container has an entry
    exact absurd hp (base_present c hinv path hvis)

theorem withCarriers_of_present (c : Cont V) (hwf : WF c) (p q : Path) (hp : aget p c ≠ none) :
    withCarriers c p q = aget q c := by
  unfold withCarriers
  cases hq : aget q c with
  | some m => rfl
  | none =>
    by_cases hm : q ∈ properPrefixes p
    · exfalso
      obtain ⟨s, hs, rfl⟩ := (mem_properPrefixes _ _).1 hm
      obtain ⟨m, hm', _⟩ := hwf.anc s q hs hp
      rw [hq] at hm'; cases hm'
    · simp [hm]

/-- body of `IH5AttributeManager.__setitem__` on the newest container -/
theorem setAttrRaw_shape (c : Cont V) (older : Rec V) (path : Path) (k : Key) (w : Option V)
    (hanc : ∀ x ∈ properPrefixes path, ∀ m, aget x c = some m → m.kind.isGroup = true) :
    ∃ c' n', W.setAttrRaw (c :: older) path k w = .ok (c' :: older) ∧ aget path c' = some n' ∧
      (n'.kind = match aget path c with | some n => n.kind | none => .vgroup) ∧
      (∀ k', aget k' n'.attrs = if k' = k then some w else rawAttrs c path k') ∧
      ∀ q, q ≠ path → aget q c' = match aget path c with
        | none => withCarriers c path q
        | some _ => aget q c := by
  cases hp : aget path c with
  | none =>
    obtain ⟨t1, ht1, hget1⟩ := createNode_shape c path vnode hp hanc
    have hat1 : aget path t1 = some vnode := by rw [hget1]; simp
    refine ⟨aput path { (vnode : RNode V) with attrs := aput k w (vnode : RNode V).attrs } t1, _, ?_, aget_aput_same _ _ _, rfl, ?_, ?_⟩
    · simp only [W.setAttrRaw, hp, Option.isNone_none, ↓reduceIte, Raw.createGroup, ht1, bind, Except.bind,
        Raw.setAttr, hat1, pure, Except.pure]
    · intro k'
      simp only [vnode, aget_aput, rawAttrs, hp, Option.bind_none, aget]
    · intro q hq
      rw [aget_aput, hget1]
      simp [hq]
  | some n =>
    refine ⟨aput path { n with attrs := aput k w n.attrs } c, _, ?_, aget_aput_same _ _ _, rfl, ?_, ?_⟩
    · simp only [W.setAttrRaw, hp, Option.isNone_some, Bool.false_eq_true, ↓reduceIte, bind, Except.bind,
        Raw.setAttr, pure, Except.pure]
    · intro k'
      simp only [aget_aput, rawAttrs, hp, Option.bind_some]
    · intro q hq
      rw [aget_aput]
      simp [hq]

theorem attr_sem (c c' : Cont V) (older : Rec V) (path : Path) (n' : RNode V) (k : Key)
    (wraw : Option (Option V))
    (hinv : Inv (c :: older)) (hvis : viewKind (c :: older) path ≠ none)
    (hat : aget path c' = some n')
    (hkind : n'.kind = match aget path c with | some n => n.kind | none => .vgroup)
    (hattrs : ∀ k', aget k' n'.attrs = if k' = k then wraw else rawAttrs c path k')
    (hout : ∀ q, q ≠ path → aget q c' = match aget path c with
        | none => withCarriers c path q
        | some _ => aget q c) :
    Inv (c' :: older) ∧ (∀ q, viewKind (c' :: older) q = viewKind (c :: older) q) ∧
    ∀ q k', viewAttr (c' :: older) q k' =
      if q = path ∧ k' = k then (if nvPrefix c path then wraw.join else wraw.getD (viewAttr older path k))
      else viewAttr (c :: older) q k' := by
  have hout' : ∀ q, q ≠ path → aget q c' = withCarriers c path q := by
    intro q hq
    rw [hout q hq]
    cases hp : aget path c with
    | none => rfl
    | some n => exact (withCarriers_of_present c hinv.1 path q (by simp [hp])).symm
  obtain ⟨hinv', hk', ha', hnv⟩ := neutral_edit c c' older hinv
    (fun x n hx => by
      by_cases hxp : x = path
      · subst hxp; exact ⟨n', hat, by rw [hkind, hx]⟩
      · exact ⟨n, by rw [hout' x hxp, withCarriers_some c path x n hx], rfl⟩)
    (fun x m hx hx' => by
      by_cases hxp : x = path
      · subst hxp; rw [hat] at hx'; cases hx'
        exact ⟨by rw [hkind, hx], hvis⟩
      · rw [hout' x hxp] at hx'
        by_cases hm : x ∈ properPrefixes path
        · rw [withCarriers_none_mem c path x hx hm] at hx'; cases hx'
          exact ⟨rfl, by rw [pp_visible_of_visible _ path hvis x hm]; simp⟩
        · rw [withCarriers_none_not c path x hx hm] at hx'; cases hx')
    (fun x j hne => by
      by_cases hxp : x = path
      · rw [hxp, hat]; simp
      · rw [hout' x hxp]
        by_cases hxj : x ++ [j] = path
        · exact withCarriers_parent c hinv.1 path x j (Or.inr hxj)
        · rw [hout' _ hxj] at hne
          exact withCarriers_parent c hinv.1 path x j (Or.inl hne))
  refine ⟨hinv', hk', fun q k' => ?_⟩
  by_cases hqk : q = path ∧ k' = k
  · obtain ⟨rfl, rfl⟩ := hqk
    have hr : rawAttrs c' q k' = wraw := by unfold rawAttrs; rw [hat, Option.bind_some, hattrs k', if_pos rfl]
    rw [if_pos ⟨rfl, rfl⟩, viewAttr_top c' older q hinv' (by rw [hk']; exact hvis) k', hr, hnv q]
  · rw [if_neg hqk]
    apply ha'
    by_cases hq : q = path
    · subst hq
      unfold rawAttrs
      rw [hat, Option.bind_some, hattrs k', if_neg (fun h => hqk ⟨rfl, h⟩)]
      rfl
    · unfold rawAttrs
      rw [hout' q hq]
      exact rawAttrs_withCarriers c path q k'

/-- `IH5AttributeManager.__setitem__` with a value or with the deletion marker, at a visible path -/
theorem setAttrRaw_ok (c : Cont V) (older : Rec V) (path : Path) (k : Key) (w : Option V)
    (hinv : Inv (c :: older)) (hvis : viewKind (c :: older) path ≠ none) :
    ∃ c', W.setAttrRaw (c :: older) path k w = .ok (c' :: older) ∧ Inv (c' :: older) ∧
      (∀ q, viewKind (c' :: older) q = viewKind (c :: older) q) ∧
      ∀ q k', viewAttr (c' :: older) q k' = if q = path ∧ k' = k then w else viewAttr (c :: older) q k' := by
  obtain ⟨c', n', h1, h2, h3, h4, h5⟩ := setAttrRaw_shape c older path k w
    (anc_groups c older hinv path (pp_visible_of_visible _ path hvis))
  refine ⟨c', h1, ?_⟩
  simpa only [Option.join_some, Option.getD_some, ite_self] using
    attr_sem c c' older path n' k (some w) hinv hvis h2 h3 h4 h5

/-! ### `attrs[k] = v` -/

theorem setAttr_ok (c : Cont V) (older : Rec V) (path : Path) (k : Key) (v : V)
    (hinv : Inv (c :: older)) (hvis : viewKind (c :: older) path ≠ none) :
    ∃ c', W.setAttr (c :: older) path k v = .ok (c' :: older) ∧ Inv (c' :: older) ∧
      (∀ q, viewKind (c' :: older) q = viewKind (c :: older) q) ∧
      ∀ q k', viewAttr (c' :: older) q k' = if q = path ∧ k' = k then some v else viewAttr (c :: older) q k' := by
  obtain ⟨cf, nf, hl⟩ := found_of_viewKind _ _ hvis
  simp only [W.setAttr, hl]
  exact setAttrRaw_ok c older path k (some v) hinv hvis

theorem setAttr_err (r : Rec V) (path : Path) (k : Key) (v : V) (hvis : viewKind r path = none) :
    ∃ e, W.setAttr r path k v = .error e := by
  unfold W.setAttr
  cases hl : look r path with
  | found cf nf =>
    exact absurd hvis (viewKind_ne_none_of_found hl)
  | part _ _ => exact ⟨_, rfl⟩
  | insideValue => exact ⟨_, rfl⟩

/-! ### `del attrs[k]` -/

theorem delAttr_err (c : Cont V) (older : Rec V) (path : Path) (k : Key)
    (h : viewAttr (c :: older) path k = none) : ∃ e, W.delAttr (c :: older) path k = .error e := by
  cases hl : look (c :: older) path with
  | found cf nf =>
    rw [(view_of_found hl).2 k] at h
    unfold attrOf at h
    cases hf : attrFind path k cf (c :: older) with
    | none => exact ⟨.missing, by simp only [W.delAttr, hl, hf]⟩
    | some x =>
      obtain ⟨i, ov⟩ := x
      cases ov with
      | none => exact ⟨.missing, by simp only [W.delAttr, hl, hf]⟩
      | some v0 => rw [hf] at h; cases h
  | part _ _ => exact ⟨.missing, by simp only [W.delAttr, hl]⟩
  | insideValue => exact ⟨.missing, by simp only [W.delAttr, hl]⟩

theorem attrFind_top (q : Path) (k : Key) (cf : Nat) (c : Cont V) (older : Rec V) (h : cf ≤ older.length) :
    attrFind q k cf (c :: older) = match rawAttrs c q k with
      | some v => some (older.length, v)
      | none => attrFind q k cf older := by
  rw [attrFind_cons q k cf c older h]
  unfold rawAttrs
  cases aget q c <;> rfl

theorem delAttr_ok (c : Cont V) (older : Rec V) (path : Path) (k : Key)
    (hinv : Inv (c :: older)) (h : viewAttr (c :: older) path k ≠ none) :
    ∃ c', W.delAttr (c :: older) path k = .ok (c' :: older) ∧ Inv (c' :: older) ∧
      (∀ q, viewKind (c' :: older) q = viewKind (c :: older) q) ∧
      ∀ q k', viewAttr (c' :: older) q k' = if q = path ∧ k' = k then none else viewAttr (c :: older) q k' := by
  have hvis : viewKind (c :: older) path ≠ none := fun hn => h (viewAttr_none_of_viewKind_none _ _ hn k)
  obtain ⟨cf, nf, hl⟩ := found_of_viewKind _ _ hvis
  rw [(view_of_found hl).2 k] at h
  unfold attrOf at h
  -- the attribute is found, with a value
  rcases hf : attrFind path k cf (c :: older) with _ | ⟨i, _ | v0⟩
  · exact absurd (by rw [hf]) h
  · exact absurd (by rw [hf]) h
  have hcf : cf ≤ older.length := by
    by_contra hgt
    have : (c :: older).length ≤ cf := by simp; omega
    rw [attrFind_none_of_le _ _ _ _ this] at hf; cases hf
  have hfc := attrFind_top path k cf c older hcf
  rw [hf] at hfc
  -- is the attribute stored in the newest container?
  cases hr : rawAttrs c path k with
  | some x =>
    -- yes: it is removed there first
    obtain ⟨n1, hn1, hx⟩ := Option.bind_eq_some_iff.1 hr
    have hi : i = older.length := by rw [hr] at hfc; cases hfc; rfl
    let n2 : RNode V := { n1 with attrs := aerase k n1.attrs }
    have hraw : Raw.delAttr c path k = .ok (aput path n2 c) := by
      simp only [Raw.delAttr, hn1, hx, n2]
    obtain ⟨hinv1, hk1, ha1⟩ := attr_sem c (aput path n2 c) older path n2 k none hinv hvis (aget_aput_same _ _ _)
      (by simp [hn1, n2]) (fun k' => by simp only [n2, aget_aerase, rawAttrs, hn1, Option.bind_some])
      (fun q hq => by simp [aget_aput, hq, hn1])
    cases older with
    | nil =>
      refine ⟨aput path n2 c, ?_, hinv1, hk1, fun q k' => ?_⟩
      · simp only [W.delAttr, hl, hf, hi, List.length_nil, ↓reduceIte, hraw, bind, Except.bind,
          List.isEmpty_nil, pure, Except.pure]
      · simp only [ha1, viewAttr_nil, Option.join_none, Option.getD_none, ite_self]
    | cons o os =>
      -- and the deletion marker is written into the entry that is left
      obtain ⟨c', h1, hinv', hk', ha'⟩ := setAttrRaw_ok (aput path n2 c) (o :: os) path k none hinv1
        (by rw [hk1]; exact hvis)
      refine ⟨c', ?_, hinv', fun q => (hk' q).trans (hk1 q), fun q k' => ?_⟩
      · simp only [W.delAttr, hl, hf, hi, ↓reduceIte, hraw, bind, Except.bind, List.isEmpty_cons,
          Bool.false_eq_true, h1]
      · rw [ha', ha1]
        exact ite_congr rfl (fun _ => rfl) (fun hn => if_neg hn)
  | none =>
    -- no: found in an older container; a deletion marker is written
    rw [hr] at hfc
    have hi : i < older.length := attrFind_idx_lt _ _ _ _ _ _ hfc.symm
    obtain ⟨c', h1, h2⟩ := setAttrRaw_ok c older path k none hinv hvis
    cases older with
    | nil => simp at hi
    | cons o os =>
      refine ⟨c', ?_, h2⟩
      simp only [W.delAttr, hl, hf, Nat.ne_of_lt hi, ↓reduceIte, bind, Except.bind, pure, Except.pure,
        List.isEmpty_cons, Bool.false_eq_true, h1]

theorem chain_view (c c' : Cont V) (older : Rec V) (pre : Path) (k : Key) (more : Path) (fin : RNode V)
    (hinv : Inv (c :: older)) (hpre : viewKind (c :: older) pre = some .group)
    (hsh : ChainShape c (pre ++ [k]) (gk older) more fin c')
    (hfin : older ≠ [] → more = [] → fin.kind.isVirtual = false) (hfa : fin.attrs = []) :
    Inv (c' :: older) ∧ ∀ q, obsR (c' :: older) q =
      if isPre (pre ++ [k]) q then
        ((if q = pre ++ [k] ++ more then plainKind fin.kind
          else if isPre q (pre ++ [k] ++ more) then some .group else none), fun _ => none)
      else obsR (c :: older) q := by
  obtain ⟨hinv', hview⟩ := chain_sem c c' older pre k more fin hinv hpre hsh hfin
  refine ⟨hinv', fun q => ?_⟩
  rw [hview q]
  by_cases hb : isPre (pre ++ [k]) q = true
  · obtain ⟨s, rfl⟩ := (isPre_iff _ _).1 hb
    simp only [hb, ↓reduceIte, hsh.inside, plainK_chainAt _ _ _ (gk_isGroup older), plainA_chainAt _ _ _ hfa,
      isPre_append_append, List.append_cancel_left_eq]
  · simp [hb]

/-! ### `create_group`, `create_dataset`: the view afterwards -/

/-- `create_group` / `create_dataset`, by the kind of node to be created -/
def wCreate (r : Rec V) (tgt : Path) : NKind V → Except Err (Rec V)
  | .group => W.createGroup r tgt
  | .data v => W.createDataset r tgt v

theorem create_ok (c : Cont V) (older : Rec V) (path pre : Path) (k : Key) (more : Path) (kd : NKind V)
    (hinv : Inv (c :: older)) (hl : look (c :: older) path = .part pre (k :: more)) :
    ∃ c', wCreate (c :: older) path kd = .ok (c' :: older) ∧ Inv (c' :: older) ∧ ∀ q,
      obsR (c' :: older) q =
        if isPre (pre ++ [k]) q then
          ((if q = path then some kd else if isPre q path then some .group else none), fun _ => none)
        else obsR (c :: older) q := by
  obtain ⟨_, _, hpath, _, hpre, _⟩ := look_part_props _ _ _ _ hl
  have hp2 : path = pre ++ [k] ++ more := by rw [hpath]; simp
  -- both calls write a chain that ends in a node `fin` of the wanted kind
  obtain ⟨fin, hfk, hfv, hfa, c', h1, hsh⟩ : ∃ fin : RNode V, plainKind fin.kind = some kd ∧
      (older ≠ [] → more = [] → fin.kind.isVirtual = false) ∧ fin.attrs = [] ∧
      ∃ c', wCreate (c :: older) path kd = .ok (c' :: older) ∧
        ChainShape c (pre ++ [k]) (gk older) more fin c' := by
    cases kd with
    | group =>
      exact ⟨⟨gk older, []⟩, plainKind_group_of_isGroup (gk_isGroup older), fun ho _ => gk_nv older ho, rfl,
        createGroup_eval c older path pre k more hinv hl⟩
    | data v =>
      exact ⟨⟨.data v, []⟩, rfl, fun _ _ => rfl, rfl, createDataset_eval c older path pre k more v hinv hl⟩
  obtain ⟨hinv', hview⟩ := chain_view c c' older pre k more fin hinv hpre hsh hfv hfa
  refine ⟨c', h1, hinv', fun q => ?_⟩
  rw [hview q, ← hp2, hfk]

theorem create_err (c : Cont V) (older : Rec V) (path : Path) (kd : NKind V)
    (h : (∃ cf nf, look (c :: older) path = .found cf nf) ∨ look (c :: older) path = .insideValue) :
    ∃ e, wCreate (c :: older) path kd = .error e := by
  rcases h with ⟨cf, nf, hl⟩ | hl
  · exact ⟨.exists_, by cases kd <;> simp only [wCreate, W.createGroup, W.createDataset, hl]⟩
  · exact ⟨.insideValue, by cases kd <;> simp only [wCreate, W.createGroup, W.createDataset, hl]⟩

/-! ### `__delitem__`: the view afterwards -/

theorem delete_ok (c : Cont V) (older : Rec V) (path : Path) (hinv : Inv (c :: older))
    (hne : path ≠ []) (hvis : viewKind (c :: older) path ≠ none) :
    ∃ c', W.delete (c :: older) path = .ok (c' :: older) ∧ Inv (c' :: older) ∧ ∀ q,
      obsR (c' :: older) q = if isPre path q then NodeObs.none else obsR (c :: older) q := by
  obtain ⟨pre, k, rfl⟩ : ∃ pre k, path = pre ++ [k] := by
    rcases List.eq_nil_or_concat path with h | ⟨a, k, h⟩
    · exact absurd h hne
    · exact ⟨a, k, by simpa using h⟩
  have hpre : viewKind (c :: older) pre = some .group := view_prefix_group _ pre [k] (by simp) hvis
  cases older with
  | cons o os =>
    obtain ⟨c', h1, hleaf⟩ := delete_eval_patch c o os (pre ++ [k]) hinv hne hvis
    obtain ⟨hinv', hview⟩ := chain_view c c' (o :: os) pre k [] _ hinv hpre (hleaf.chain _) (fun _ _ => rfl) rfl
    refine ⟨c', h1, hinv', fun q => ?_⟩
    rw [hview q]
    by_cases hb : isPre (pre ++ [k]) q = true
    · simp only [hb, ↓reduceIte, List.append_nil, plainKind]
      by_cases hq : q = pre ++ [k]
      · simp [hq, NodeObs.none]
      · have := isPre_false_of_isPre_ne q (pre ++ [k]) hb hq
        simp [hq, this, NodeObs.none]
    · simp [hb]
  | nil =>
    obtain ⟨c', h1, hget⟩ := delete_eval_base c (pre ++ [k]) hinv hne hvis
    have hpar : aget pre c ≠ none := base_present c hinv pre (by rw [hpre]; simp)
    obtain ⟨hinv', hview⟩ := graft c c' [] pre k hinv hpre hpar
      (fun q hq => by rw [hget, hq]; rfl)
      (fun s j hne' => by rw [hget, List.append_assoc, isPre_append] at hne'; exact absurd rfl hne')
      (Or.inr (Or.inl rfl))
    refine ⟨c', h1, hinv', fun q => ?_⟩
    rw [hview q]
    by_cases hb : isPre (pre ++ [k]) q = true
    · rw [if_pos hb, if_pos hb, hget, if_pos hb]
      rfl
    · rw [if_neg hb, if_neg hb]

theorem delete_err (c : Cont V) (older : Rec V) (path : Path)
    (h : path = [] ∨ viewKind (c :: older) path = none) : ∃ e, W.delete (c :: older) path = .error e := by
  by_cases hp : path = []
  · exact ⟨.root, by simp only [W.delete, hp, ↓reduceIte]⟩
  · rcases h with h | h
    · exact absurd h hp
    · cases hl : look (c :: older) path with
      | found cf nf =>
        exact absurd h (viewKind_ne_none_of_found hl)
      | part _ _ => exact ⟨.missing, by simp only [W.delete, hp, ↓reduceIte, hl]⟩
      | insideValue => exact ⟨.missing, by simp only [W.delete, hp, ↓reduceIte, hl]⟩

end MetadorModel.Overlay
