import MetadorModel.Proofs.DiffEq
/-! Directory diffs (C18): processing the listing of `compare a b` in order on `a` never fails and
ends in `b`. -/
namespace MetadorModel.Diff
open MetadorModel

theorem applyAll_append (t : DirTree) (l1 l2 : List Rec) :
    applyAll t (l1 ++ l2) = (applyAll t l1).bind (fun t' => applyAll t' l2) := by
  induction l1 generalizing t with
  | nil => rfl
  | cons r rs ih =>
    rw [List.cons_append, applyAll, applyAll]
    cases applyRec t r with
    | none => rfl
    | some t' => exact ih t'

theorem removeAt_deep (es : Entries) (k k2 : String) (p : Path) {t : DirTree}
    (hg : AL.get es k = some t) :
    removeAt (.dir es) (k :: k2 :: p) = (removeAt t (k2 :: p)).map (fun t' => .dir (AL.ins k t' es)) := by
  rw [removeAt, hg]
  dsimp only
  cases removeAt t (k2 :: p) <;> rfl

theorem addAt_deep (x : DirTree) (es : Entries) (k k2 : String) (p : Path) {t : DirTree}
    (hg : AL.get es k = some t) :
    addAt x (.dir es) (k :: k2 :: p) = (addAt x t (k2 :: p)).map (fun t' => .dir (AL.ins k t' es)) := by
  rw [addAt, hg]
  dsimp only
  cases addAt x t (k2 :: p) <;> rfl

/-- a step below the entry `k` of a directory is a step on that entry -/
theorem applyRec_pre {E : Entries} (hs : AL.sorted E = true) {k : String} {t : DirTree}
    (hg : AL.get E k = some t) (r : Rec) (hp : r.path ≠ []) :
    applyRec (.dir E) (Rec.pre [k] r) = (applyRec t r).map (fun t' => .dir (AL.ins k t' E)) := by
  obtain ⟨path, pv, cv⟩ := r
  cases path with
  | nil => exact absurd rfl hp
  | cons k2 p =>
    simp only [applyRec, Rec.pre, List.singleton_append]
    cases pv with
    | none =>
      cases cv with
      | none => rfl
      | some c => exact addAt_deep _ _ _ _ _ hg
    | some pv =>
      cases cv with
      | none => exact removeAt_deep _ _ _ _ hg
      | some c =>
        by_cases hb : bothDir (some pv) (some c) = true
        · simp only [hb, if_true]
          rw [lookup_cons_dir, hg]
          cases hl : lookupO (some t) (k2 :: p) with
          | none => rw [lookupO] at hl; rw [hl]; rfl
          | some u =>
            rw [lookupO] at hl
            rw [hl]
            cases u with
            | file s => rfl
            | dir ds => simp [AL.ins_of_get hs hg]
        · simp only [hb]
          rw [removeAt_deep _ _ _ _ hg]
          cases removeAt t (k2 :: p) with
          | none => rfl
          | some t1 =>
            simp only [Option.map_some, Bool.false_eq_true, if_false]
            rw [addAt_deep _ _ _ _ _ (AL.get_ins_self k t1 E)]
            cases addAt (shell c) t1 (k2 :: p) with
            | none => rfl
            | some t2 => simp [AL.ins_ins k t1 t2 hs]

theorem applyAll_pre {E : Entries} (hs : AL.sorted E = true) {k : String} {t : DirTree}
    (hg : AL.get E k = some t) (L : List Rec) (hp : ∀ r ∈ L, r.path ≠ []) :
    applyAll (.dir E) (L.map (Rec.pre [k])) = (applyAll t L).map (fun t' => .dir (AL.ins k t' E)) := by
  induction L generalizing E t with
  | nil => simp [applyAll, AL.ins_of_get hs hg]
  | cons r rs ih =>
    simp only [List.map_cons, applyAll]
    rw [applyRec_pre hs hg r (hp r (List.mem_cons_self ..))]
    cases applyRec t r with
    | none => rfl
    | some t1 =>
      simp only [Option.map_some]
      rw [ih (AL.sorted_ins k t1 hs) (AL.get_ins_self k t1 E) (fun r hr => hp r (List.mem_cons_of_mem _ hr))]
      cases applyAll t1 rs with
      | none => rfl
      | some t2 => simp [AL.ins_ins k t1 t2 hs]

theorem addEs_paths (es : Entries) : ∀ r ∈ nodesL (addEs [] es), r.path ≠ [] := by
  induction es with
  | nil => intro r hr; cases hr
  | cons a es ih =>
    intro r hr
    have h := addT_pre.1 a.2 [a.1] []
    rw [List.append_nil] at h
    rw [addEs, nodesL_cons, List.nil_append, h] at hr
    rcases List.mem_append.mp hr with h | h
    · obtain ⟨r', _, rfl⟩ := List.mem_map.mp h
      exact List.cons_ne_nil _ _
    · exact ih r h

theorem remEs_paths (es : Entries) : ∀ r ∈ nodesL (remEs [] es), r.path ≠ [] := by
  induction es with
  | nil => intro r hr; cases hr
  | cons a es ih =>
    intro r hr
    have h := remT_pre.1 a.2 [a.1] []
    rw [List.append_nil] at h
    rw [remEs, nodesL_cons, List.nil_append, h] at hr
    rcases List.mem_append.mp hr with h | h
    · obtain ⟨r', _, rfl⟩ := List.mem_map.mp h
      exact List.cons_ne_nil _ _
    · exact ih r h

/-- listings `L k`, each rewriting the entry at its own name `k` whatever the others are, one after the other -/
theorem applyAll_keys {u v : String → Option DirTree} {L : String → List Rec} (ks : List String) (hn : ks.Nodup)
    (hL : ∀ k ∈ ks, ∀ E, AL.sorted E = true → AL.get E k = u k →
      applyAll (.dir E) (L k) = some (.dir (AL.put k (v k) E))) :
    ∀ X, AL.sorted X = true → (∀ k ∈ ks, AL.get X k = u k) →
    ∃ X', applyAll (.dir X) (ks.flatMap L) = some (.dir X') ∧ AL.sorted X' = true ∧
      ∀ n, AL.get X' n = if n ∈ ks then v n else AL.get X n := by
  induction ks with
  | nil => exact fun X hX _ => ⟨X, rfl, hX, fun n => by simp⟩
  | cons k ks ih =>
    intro X hX hu
    have hn' := List.nodup_cons.mp hn
    obtain ⟨X', h1, h2, h3⟩ := ih hn'.2 (fun k' hk' => hL k' (List.mem_cons_of_mem _ hk'))
      (AL.put k (v k) X) (AL.sorted_put k _ hX) (fun k' hk' => by
        have hne : k' ≠ k := fun e => hn'.1 (e ▸ hk')
        rw [AL.get_put _ _ _ hX, if_neg hne, hu k' (List.mem_cons_of_mem _ hk')])
    refine ⟨X', ?_, h2, fun n => ?_⟩
    · rw [List.flatMap_cons, applyAll_append, hL k List.mem_cons_self X hX (hu k List.mem_cons_self)]
      exact h1
    · rw [h3, AL.get_put _ _ _ hX]
      by_cases hnk : n = k
      · subst hnk; simp [hn'.1]
      · simp [hnk]

/-- what is to be shown of a pair of entries: the listing, seen from the directory that holds the
old entry at `k`, replaces it by the new one -/
def Replaces (x y : Option DirTree) : Prop :=
  ∀ (k : String) (E : Entries), AL.sorted E = true → AL.get E k = x →
    applyAll (.dir E) ((N x y).map (Rec.pre [k])) = some (.dir (AL.put k y E))

/-- the children of a directory node, processed in the order of the listing: first those only on
the old side and those on both sides (giving `X2`), then those only on the new side -/
theorem phases {x y : Option DirTree} (hx : wfO x) (hy : wfO y)
    (ih : ∀ k, Replaces (AL.get (entriesO x) k) (AL.get (entriesO y) k)) :
    ∃ X2, AL.sorted X2 = true ∧
      (∀ n, AL.get X2 n = if (AL.get (entriesO x) n).isSome then AL.get (entriesO y) n else none) ∧
      applyAll (.dir (entriesO x)) ((only (entriesO x) (entriesO y)).flatMap (sub x y) ++
        (both (entriesO x) (entriesO y)).flatMap (sub x y)) = some (.dir X2) ∧
      applyAll (.dir X2) ((only (entriesO y) (entriesO x)).flatMap (sub x y)) = some (.dir (entriesO y)) := by
  have se := (wfO_entries hx).1
  have sf := (wfO_entries hy).1
  have nd : ∀ {es fs : Entries}, AL.sorted es = true → (only es fs).Nodup ∧ (both es fs).Nodup :=
    fun h => ⟨(AL.keys_nodup h).filter _, (AL.keys_nodup h).filter _⟩
  have step := fun ks hn => applyAll_keys (u := fun k => AL.get (entriesO x) k)
    (v := fun k => AL.get (entriesO y) k) (L := sub x y) ks hn fun k _ => ih k k
  obtain ⟨X1, r1, s1, g1⟩ := step _ (nd (fs := entriesO y) se).1 _ se fun _ _ => rfl
  obtain ⟨X2, r2, s2, g2⟩ := step _ (nd (fs := entriesO y) se).2 X1 s1 fun k hk => by
    rw [g1, if_neg fun h => by have h2 := (mem_both.mp hk).2; rw [(mem_only.mp h).2] at h2; cases h2]
  obtain ⟨X3, r3, s3, g3⟩ := step _ (nd (fs := entriesO x) sf).1 X2 s2 fun k hk => by
    have hn : ¬ (AL.get (entriesO x) k).isSome = true := by rw [(mem_only.mp hk).2]; exact Bool.false_ne_true
    rw [g2, g1, if_neg fun h => hn (mem_both.mp h).1, if_neg fun h => hn (mem_only.mp h).1]
  have e3 : X3 = entriesO y := AL.ext s3 sf fun n => by
    rw [g3, g2, g1]
    simp only [mem_only, mem_both]
    cases AL.get (entriesO x) n <;> cases AL.get (entriesO y) n <;> simp
  refine ⟨X2, s2, fun n => ?_, ?_, e3 ▸ r3⟩
  · rw [g2, g1]
    simp only [mem_only, mem_both]
    cases AL.get (entriesO x) n <;> cases AL.get (entriesO y) n <;> simp
  · rw [applyAll_append, r1]; exact r2

theorem apply_add_here {E : Entries} {k : String} (x : DirTree) (hg : AL.get E k = none) :
    applyRec (.dir E) ⟨[k], none, some x⟩ = some (.dir (AL.ins k (shell x) E)) := by
  simp [applyRec, addAt, hg]

theorem apply_rem_here {E : Entries} {k : String} {t pv : DirTree} (hg : AL.get E k = some t)
    (hr : removable t = true) :
    applyRec (.dir E) ⟨[k], some pv, none⟩ = some (.dir (AL.erase k E)) := by
  simp [applyRec, removeAt, hg, hr]

theorem apply_replace_here {E : Entries} (hs : AL.sorted E = true) {k : String} {t pv c : DirTree}
    (hg : AL.get E k = some t) (hr : removable t = true) (hb : bothDir (some pv) (some c) = false) :
    applyRec (.dir E) ⟨[k], some pv, some c⟩ = some (.dir (AL.ins k (shell c) E)) := by
  simp only [applyRec, hb, Bool.false_eq_true, if_false, removeAt, hg, hr, if_true, addAt]
  rw [AL.get_erase_self k hs]
  simp [AL.ins_erase k _ hs]

theorem apply_keep_here {E : Entries} {k : String} {a b ds : Entries}
    (hg : AL.get E k = some (.dir ds)) :
    applyRec (.dir E) ⟨[k], some (.dir a), some (.dir b)⟩ = some (.dir E) := by
  simp only [applyRec, bothDir, if_true]
  rw [lookup_cons_dir, hg]
  rfl

theorem replaces_self {x : Option DirTree} (hx : wfO x) : Replaces x x := by
  intro k E hs hg
  rw [N_eq hx, AL.put_of_get hs hg]
  rfl

/-- The listing of two entries, seen from the directory that holds the old one, replaces it by the
new one. The entry at `k` goes through: children only on the old side removed and common children
replaced (`X2`); the entry itself removed, created or replaced by its shell; children only on the
new side added. -/
theorem replaces : ∀ x y, wfO x → wfO y → Replaces x y := by
  apply pair_induction (replaces_self trivial)
  intro x y hx hy ih k E hs hg
  by_cases hne : x = y
  · subst hne; exact replaces_self hx k E hs hg
  obtain ⟨X2, s2, g2, r12, r3⟩ := phases hx hy ih
  have hX2 : entriesO x = [] ∨ entriesO y = [] → X2 = [] := fun h =>
    AL.ext s2 rfl fun n => by rw [g2]; rcases h with h | h <;> simp [h]
  -- the children only on the new side, processed below an entry `shell c` or `dir X2`
  have after : ∀ E2 fs, AL.sorted E2 = true → AL.get E2 k = some (.dir X2) → y = some (.dir fs) →
      applyAll (.dir E2) (((only (entriesO y) (entriesO x)).flatMap (sub x y)).map (Rec.pre [k])) =
        some (.dir (AL.ins k (.dir fs) E2)) := by
    intro E2 fs h2 hg2 hy'
    rw [applyAll_pre h2 hg2 _ sub_path_ne_nil, r3, hy']
    rfl
  have after_shell : ∀ E2 c, AL.sorted E2 = true → AL.get E2 k = some (shell c) → y = some c →
      (entriesO x = [] ∨ entriesO y = []) →
      applyAll (.dir E2) (((only (entriesO y) (entriesO x)).flatMap (sub x y)).map (Rec.pre [k])) =
        some (.dir (AL.ins k c E2)) := by
    intro E2 c h2 hg2 hy' hnil
    cases c with
    | file s =>
      have hg2' : AL.get E2 k = some (.file s) := hg2
      subst hy'; rw [AL.ins_of_get h2 hg2']; rfl
    | dir fs => exact after E2 fs h2 (by rw [hg2, hX2 hnil]; rfl) hy'
  rw [N_ne hx hy hne, ← List.append_assoc, List.map_append, List.map_cons, applyAll_append]
  rcases x with _ | s | es
  · -- nothing → `c`: create the shell, then the children
    obtain ⟨c, rfl⟩ := Option.ne_none_iff_exists'.mp (Ne.symm hne)
    have h1 : applyRec (.dir E) (Rec.pre [k] ⟨[], none, some c⟩) = _ := apply_add_here c hg
    rw [show applyAll (.dir E) _ = some (.dir E) from rfl, Option.bind_some, applyAll, h1]
    dsimp only
    rw [after_shell _ c (AL.sorted_ins k _ hs) (AL.get_ins_self k _ E) rfl (Or.inl rfl), AL.ins_ins k _ _ hs]
    rfl
  · rw [show applyAll (.dir E) _ = some (.dir E) from rfl, Option.bind_some, applyAll]
    rcases y with _ | c
    · -- file → nothing
      have h1 : applyRec (.dir E) (Rec.pre [k] ⟨[], some (.file s), none⟩) = _ := apply_rem_here hg rfl
      rw [h1]
      rfl
    · -- file → `c`: replace by the shell, then the children
      have h1 : applyRec (.dir E) (Rec.pre [k] ⟨[], some (.file s), some c⟩) = _ :=
        apply_replace_here hs hg rfl rfl
      rw [h1]
      dsimp only
      rw [after_shell _ c (AL.sorted_ins k _ hs) (AL.get_ins_self k _ E) rfl (Or.inl rfl), AL.ins_ins k _ _ hs]
      rfl
  · -- directory → …: first the children that go or change
    have r12' : applyAll (.dir es) _ = _ := r12
    rw [applyAll_pre hs hg _ (by rw [← List.flatMap_append]; exact sub_path_ne_nil), r12', Option.map_some,
      Option.bind_some, applyAll]
    have s1 := AL.sorted_ins k (.dir X2) hs
    have g1 := AL.get_ins_self k (.dir X2) E
    rcases y with _ | s' | fs
    · have h1 : applyRec (.dir (AL.ins k (.dir X2) E)) (Rec.pre [k] ⟨[], some (.dir es), none⟩) = _ :=
        apply_rem_here g1 (by rw [hX2 (Or.inr rfl)]; rfl)
      rw [h1, AL.erase_ins k _ hs]
      rfl
    · have h1 : applyRec (.dir (AL.ins k (.dir X2) E)) (Rec.pre [k] ⟨[], some (.dir es), some (.file s')⟩) = _ :=
        apply_replace_here s1 g1 (by rw [hX2 (Or.inr rfl)]; rfl) rfl
      rw [h1, AL.ins_ins k _ _ hs]
      rfl
    · have h1 : applyRec (.dir (AL.ins k (.dir X2) E)) (Rec.pre [k] ⟨[], some (.dir es), some (.dir fs)⟩) = _ :=
        apply_keep_here g1
      rw [h1]
      dsimp only
      rw [after _ fs s1 g1 rfl, AL.ins_ins k _ _ hs]
      rfl

theorem thmA : (t : DirTree) → t.wf = true → ∀ (k : String) (E : Entries), AL.sorted E = true →
    AL.get E k = none →
    applyAll (.dir E) ((nodes (addT [] t)).map (Rec.pre [k])) = some (.dir (AL.ins k t E)) :=
  fun t hw => replaces none (some t) trivial hw

theorem thmR : (t : DirTree) → t.wf = true → ∀ (k : String) (E : Entries), AL.sorted E = true →
    AL.get E k = some t →
    applyAll (.dir E) ((nodes (remT [] t)).map (Rec.pre [k])) = some (.dir (AL.erase k E)) :=
  fun t hw => replaces (some t) none hw trivial

theorem thmC : (a : DirTree) → a.wf = true → ∀ (b : DirTree) (k : String) (E : Entries), b.wf = true →
    AL.sorted E = true → AL.get E k = some a →
    applyAll (.dir E) ((nodesO (cmpT [] a b)).map (Rec.pre [k])) = some (.dir (AL.ins k b E)) :=
  fun a ha b k E hb => replaces (some a) (some b) ha hb k E

end MetadorModel.Diff
