import MetadorModel.Proofs.Diff
/-! Directory diffs (C18): a comparison reports nothing exactly on equal trees; the node of two
different entries in uniform shape (its children are the nodes of the entries at each name);
induction over a pair of entries along their common names. -/
namespace MetadorModel.Diff
open MetadorModel

theorem filter_isNone_nil (es fs : Entries) :
    (es.filter fun e => (AL.get fs e.1).isNone) = [] ↔
      ∀ n, (AL.get es n).isSome = true → (AL.get fs n).isSome = true := by
  simp only [List.filter_eq_nil_iff, ← AL.mem_keys es, List.forall_mem_map, Option.isNone_iff_eq_none,
    ← Option.ne_none_iff_isSome, ne_eq]

theorem remSel_nil_iff (p : Path) (es fs : Entries) :
    remSel p es fs = [] ↔ ∀ n, (AL.get es n).isSome = true → (AL.get fs n).isSome = true := by
  rw [remSel_filter, ← List.isEmpty_iff, remEs_isEmpty, List.isEmpty_iff, filter_isNone_nil]

theorem addSel_nil_iff (p : Path) (fs es : Entries) :
    addSel p fs es = [] ↔ ∀ n, (AL.get fs n).isSome = true → (AL.get es n).isSome = true := by
  rw [addSel_filter, ← List.isEmpty_iff, addEs_isEmpty, List.isEmpty_iff, filter_isNone_nil]

theorem cmp_none :
    (∀ a p b, a.wf = true → b.wf = true → cmpT p a b = none → a = b) ∧
    ∀ es p fs, wfEs es = true → wfEs fs = true → cmpEs p es fs = [] →
      ∀ n t u, AL.get es n = some t → AL.get fs n = some u → t = u := by
  refine tree_induction (fun s p b _ _ h => ?_) (fun es ih p b ha hb h => ?_)
    (fun p fs _ _ _ n t u h => by cases h) fun k t0 r iht ihr p fs hw hwf h => ?_
  · cases b with
    | file s' =>
      simp only [cmpT] at h
      split_ifs at h with hs
      rw [hs]
    | dir fs => cases h
  · cases b with
    | file s' => cases h
    | dir fs =>
      rw [cmpT_dir_dir] at h
      split_ifs at h with hc
      simp only [Bool.and_eq_true, List.isEmpty_iff] at hc
      obtain ⟨⟨h1, h2⟩, h3⟩ := hc
      have ha' := (wf_dir es).mp ha
      have hb' := (wf_dir fs).mp hb
      have e1 := (remSel_nil_iff p es fs).mp h1
      have e3 := (addSel_nil_iff p fs es).mp h3
      have e2 := ih p fs ha'.2 hb'.2 h2
      congr 1
      apply AL.ext ha'.1 hb'.1
      intro n
      cases hx : AL.get es n with
      | none =>
        cases hy : AL.get fs n with
        | none => rfl
        | some u => have := e3 n (by rw [hy]; rfl); rw [hx] at this; cases this
      | some t =>
        cases hy : AL.get fs n with
        | none => have := e1 n (by rw [hx]; rfl); rw [hy] at this; cases this
        | some u => rw [e2 n t u hx hy]
  · have hw' := (wfEs_cons k t0 r).mp hw
    -- nothing listed for the head entry, nothing for the rest
    have hh : (∀ u, AL.get fs k = some u → cmpT (p ++ [k]) t0 u = none) ∧ cmpEs p r fs = [] := by
      rw [cmpEs_cons] at h
      cases hg : AL.get fs k with
      | none => rw [hg] at h; exact ⟨nofun, h⟩
      | some u0 =>
        rw [hg] at h
        dsimp only at h
        cases hc : cmpT (p ++ [k]) t0 u0 with
        | some d => rw [hc] at h; cases h
        | none => rw [hc] at h; exact ⟨fun u e => by cases e; exact hc, h⟩
    intro n t u hx hy
    rw [AL.get_cons] at hx
    split_ifs at hx with hk
    · subst hk
      cases hx
      exact iht (p ++ [k]) u hw'.1 (wfEs_get hwf hy) (hh.1 u hy)
    · exact ihr p fs hw'.2 hwf hh.2 n t u hx hy

theorem cmpEs_nil : (es : Entries) → ∀ (p : Path) (fs : Entries), wfEs es = true → wfEs fs = true →
    cmpEs p es fs = [] → ∀ n t u, AL.get es n = some t → AL.get fs n = some u → t = u :=
  cmp_none.2

theorem cmp_self :
    (∀ a p, a.wf = true → cmpT p a a = none) ∧
    ∀ es' p es, wfEs es' = true → (∀ k t, (k, t) ∈ es' → AL.get es k = some t) → cmpEs p es' es = [] := by
  refine tree_induction (fun s p _ => by simp [cmpT]) (fun es ih p ha => ?_) (fun _ _ _ _ => rfl)
    fun k t r iht ihr p es hw hm => ?_
  · have ha' := (wf_dir es).mp ha
    rw [cmpT_dir_dir, (remSel_nil_iff p es es).mpr fun _ h => h, (addSel_nil_iff p es es).mpr fun _ h => h,
      ih p es ha'.2 fun k t hm => (AL.mem_iff_get ha'.1 k t).mp hm]
    rfl
  · have hw' := (wfEs_cons k t r).mp hw
    rw [cmpEs_cons, hm k t List.mem_cons_self]
    dsimp only
    rw [iht (p ++ [k]) hw'.1]
    exact ihr p es hw'.2 fun k' t' h => hm k' t' (List.mem_cons_of_mem _ h)

theorem cmpEs_self : (es' : Entries) → ∀ (p : Path) (es : Entries), wfEs es' = true →
    (∀ k t, (k, t) ∈ es' → AL.get es k = some t) → cmpEs p es' es = [] :=
  cmp_self.2

theorem compareAt_eq {x : Option DirTree} (h : wfO x) (p : Path) : compareAt p x x = none := by
  cases x with
  | none => rfl
  | some t => exact cmp_self.1 t p h

/-- the node of the entries at name `k` below the node of `x` and `y` at `p` -/
def kid (p : Path) (x y : Option DirTree) (k : String) : Option DNode :=
  compareAt (p ++ [k]) (AL.get (entriesO x) k) (AL.get (entriesO y) k)

theorem only_nil_right (es : Entries) : only es [] = es.map Prod.fst :=
  List.filter_eq_self.mpr fun _ _ => rfl

theorem both_nil_right (es : Entries) : both es [] = [] :=
  List.filter_eq_nil_iff.mpr fun _ _ => Bool.false_ne_true

theorem compareAt_dir_dir {es fs : Entries} (he : AL.sorted es = true) (hf : AL.sorted fs = true) (p : Path) :
    compareAt p (some (.dir es)) (some (.dir fs)) =
      if ((only es fs).filterMap (kid p (some (.dir es)) (some (.dir fs)))).isEmpty &&
          ((both es fs).filterMap (kid p (some (.dir es)) (some (.dir fs)))).isEmpty &&
          ((only fs es).filterMap (kid p (some (.dir es)) (some (.dir fs)))).isEmpty then none
      else some (.mk p (some (.dir es)) (some (.dir fs))
        ((only es fs).filterMap (kid p (some (.dir es)) (some (.dir fs))))
        ((both es fs).filterMap (kid p (some (.dir es)) (some (.dir fs))))
        ((only fs es).filterMap (kid p (some (.dir es)) (some (.dir fs))))) := by
  rw [compareAt, cmpT_dir_dir, remSel_eq he, cmpEs_eq he, addSel_eq hf]
  rfl

/-- the node of two different entries has the same shape whatever the two are -/
theorem compareAt_ne {x y : Option DirTree} (hx : wfO x) (hy : wfO y) (hne : x ≠ y) (p : Path) :
    compareAt p x y = some (.mk p x y ((only (entriesO x) (entriesO y)).filterMap (kid p x y))
      ((both (entriesO x) (entriesO y)).filterMap (kid p x y))
      ((only (entriesO y) (entriesO x)).filterMap (kid p x y))) := by
  have h : compareAt p x y = some (.mk p x y (remSel p (entriesO x) (entriesO y))
      (cmpEs p (entriesO x) (entriesO y)) (addSel p (entriesO y) (entriesO x))) := by
    rcases x with _ | s | es <;> rcases y with _ | s' | fs
    · exact absurd rfl hne
    · rfl
    · exact congrArg (fun l => some (DNode.mk p none _ [] [] l)) (addSel_nil_right p fs).symm
    · rfl
    · have : s ≠ s' := fun e => hne (by rw [e])
      simp only [compareAt, cmpT, if_neg this]; rfl
    · exact congrArg (fun l => some (DNode.mk p _ _ [] [] l)) (addSel_nil_right p fs).symm
    · simp only [entriesO, cmpEs_nil_right, remSel_nil_right]; rfl
    · simp only [entriesO, cmpEs_nil_right, remSel_nil_right]; rfl
    · have hc : cmpT p (.dir es) (.dir fs) ≠ none := fun h => hne (by rw [cmp_none.1 _ _ _ hx hy h])
      simp only [compareAt, entriesO]
      rw [cmpT_dir_dir] at hc ⊢
      split_ifs at hc ⊢
      · exact absurd rfl hc
      · rfl
  rw [h, remSel_eq (wfO_entries hx).1, cmpEs_eq (wfO_entries hx).1, addSel_eq (wfO_entries hy).1]
  rfl

/-- the listing of `compare(x, y, Path(""))` -/
def N (x y : Option DirTree) : List Rec := nodesO (compareAt [] x y)

/-- the listing of the entries at name `k`, seen from one level up -/
def sub (x y : Option DirTree) (k : String) : List Rec :=
  (N (AL.get (entriesO x) k) (AL.get (entriesO y) k)).map (Rec.pre [k])

theorem N_eq {x : Option DirTree} (h : wfO x) : N x x = [] := by
  rw [N, compareAt_eq h]; rfl

theorem N_ne {x y : Option DirTree} (hx : wfO x) (hy : wfO y) (hne : x ≠ y) :
    N x y = (only (entriesO x) (entriesO y)).flatMap (sub x y) ++
      ((both (entriesO x) (entriesO y)).flatMap (sub x y) ++
        (⟨[], x, y⟩ :: (only (entriesO y) (entriesO x)).flatMap (sub x y))) := by
  have hk : (fun k => nodesO (kid [] x y k)) = sub x y :=
    funext fun k => nodesO_compareAt_pre [k] [] _ _
  rw [N, compareAt_ne hx hy hne, nodesO, nodes_mk, nodesL_filterMap, nodesL_filterMap, nodesL_filterMap, hk]

theorem sub_path_ne_nil {x y : Option DirTree} {ks : List String} :
    ∀ r ∈ ks.flatMap (sub x y), r.path ≠ [] := by
  intro r hr
  obtain ⟨k, _, hk⟩ := List.mem_flatMap.mp hr
  obtain ⟨r', _, rfl⟩ := List.mem_map.mp hk
  exact List.cons_ne_nil _ _

mutual
def size : DirTree → Nat
  | .file _ => 1
  | .dir es => 1 + sizeEs es
def sizeEs : Entries → Nat
  | [] => 0
  | (_, t) :: r => size t + sizeEs r
end

def sizeO : Option DirTree → Nat
  | none => 0
  | some t => size t

theorem size_get {es : Entries} {k : String} {t : DirTree} (h : AL.get es k = some t) :
    size t ≤ sizeEs es := by
  induction es with
  | nil => cases h
  | cons a r ih =>
    rw [AL.get_cons] at h
    rw [sizeEs]
    split_ifs at h with h1
    · cases h; exact Nat.le_add_right _ _
    · exact Nat.le_trans (ih h) (Nat.le_add_left _ _)

theorem sizeO_child (x : Option DirTree) (k : String) :
    AL.get (entriesO x) k = none ∨ sizeO (AL.get (entriesO x) k) < sizeO x := by
  rcases x with _ | s | es
  · exact Or.inl rfl
  · exact Or.inl rfl
  · cases hg : AL.get (entriesO (some (.dir es))) k with
    | none => exact Or.inl rfl
    | some u =>
      rw [sizeO, sizeO, size, Nat.add_comm]
      exact Or.inr (Nat.lt_succ_of_le (size_get (es := es) hg))

/-- induction over pairs of entries along the names of their children (on the sum of the sizes) -/
theorem pair_induction {P : Option DirTree → Option DirTree → Prop} (h0 : P none none)
    (h : ∀ x y, wfO x → wfO y → (∀ k, P (AL.get (entriesO x) k) (AL.get (entriesO y) k)) → P x y) :
    ∀ x y, wfO x → wfO y → P x y := by
  intro x y
  induction hn : sizeO x + sizeO y using Nat.strong_induction_on generalizing x y with
  | _ n ih =>
    intro hx hy
    subst hn
    refine h x y hx hy fun k => ?_
    rcases sizeO_child x k with h1 | h1 <;> rcases sizeO_child y k with h2 | h2
    · rw [h1, h2]; exact h0
    · exact ih _ (by rw [h1, sizeO, Nat.zero_add]; exact Nat.lt_of_lt_of_le h2 (Nat.le_add_left _ _)) _ _ rfl
        (wfO_get hx k) (wfO_get hy k)
    · exact ih _ (by rw [h2, sizeO]; exact Nat.lt_of_lt_of_le h1 (Nat.le_add_right _ _)) _ _ rfl
        (wfO_get hx k) (wfO_get hy k)
    · exact ih _ (Nat.add_lt_add h1 h2) _ _ rfl (wfO_get hx k) (wfO_get hy k)

end MetadorModel.Diff
