import MetadorModel.Proofs.Single
/-!
# The canonical listing of a record as a map (helper lemmas for C05 / C10)

`Overlay.listing r` is a sorted, duplicate-free list of `(path, kind, attributes)`;
looked up as an association list it is exactly the user-visible view:
`aget q (listing r) = (viewKind r q).map (·, attrsList r q)` and
`aget k (attrsList r q) = viewAttr r q k`.
-/
namespace MetadorModel.Listing
open MetadorModel.Tree MetadorModel.Overlay MetadorModel.Single

variable {V : Type}

/-! ## sorting and deduplication keep the elements -/

theorem insertBy_perm {α : Type} (lt : α → α → Bool) (x : α) (l : List α) :
    (insertBy lt x l).Perm (x :: l) := by
  induction l with
  | nil => simp [insertBy]
  | cons y ys ih =>
    simp only [insertBy]
    split
    · exact List.Perm.refl _
    · exact (List.Perm.cons y ih).trans (List.Perm.swap x y ys)

theorem sortBy_perm {α : Type} (lt : α → α → Bool) (l : List α) : (sortBy lt l).Perm l := by
  induction l with
  | nil => simp [sortBy]
  | cons x xs ih =>
    simp only [sortBy, List.foldr_cons] at ih ⊢
    exact (insertBy_perm lt x _).trans (List.Perm.cons x ih)

theorem mem_dedup {α : Type} [DecidableEq α] (x : α) (l : List α) : x ∈ dedup l ↔ x ∈ l := by
  induction l with
  | nil => simp [dedup]
  | cons y ys ih =>
    simp only [dedup]
    split
    · rename_i h
      rw [ih, List.mem_cons]
      constructor
      · exact Or.inr
      · rintro (rfl | h')
        · exact h
        · exact h'
    · simp [ih]

theorem nodup_dedup {α : Type} [DecidableEq α] (l : List α) : (dedup l).Nodup := by
  induction l with
  | nil => simp [dedup]
  | cons y ys ih =>
    simp only [dedup]
    split
    · exact ih
    · rename_i h
      exact List.nodup_cons.mpr ⟨fun hc => h ((mem_dedup y ys).mp hc), ih⟩

theorem mem_sort_dedup {α : Type} [DecidableEq α] (lt : α → α → Bool) (x : α) (l : List α) :
    x ∈ sortBy lt (dedup l) ↔ x ∈ l :=
  ((sortBy_perm lt _).mem_iff).trans (mem_dedup x l)

theorem nodup_sort_dedup {α : Type} [DecidableEq α] (lt : α → α → Bool) (l : List α) :
    (sortBy lt (dedup l)).Nodup :=
  (sortBy_perm lt _).nodup_iff.mpr (nodup_dedup l)

theorem aget_filterMap {κ β : Type} [DecidableEq κ] (f : κ → Option β) (cs : List κ) (q : κ) :
    aget q (cs.filterMap (fun p => (f p).map (fun x => (p, x)))) = if q ∈ cs then f q else none := by
  induction cs with
  | nil => simp [aget]
  | cons c cs ih =>
    simp only [List.filterMap_cons, List.mem_cons]
    cases hf : f c with
    | none =>
      simp only [Option.map_none, ih]
      by_cases hq : q = c
      · subst hq; simp [hf]
      · simp [hq]
    | some x =>
      simp only [Option.map_some, aget]
      by_cases hq : c = q
      · subst hq; simp [hf]
      · have : ¬ q = c := fun h => hq h.symm
        simp [hq, this, ih]

theorem keys_filterMap_sublist {κ β : Type} (f : κ → Option β) (cs : List κ) :
    ((cs.filterMap (fun p => (f p).map (fun x => (p, x)))).map (·.1)).Sublist cs := by
  induction cs with
  | nil => simp
  | cons c cs ih =>
    simp only [List.filterMap_cons]
    cases hf : f c with
    | none => simpa using ih.cons c
    | some x => simpa using ih.cons_cons c

/-! ## what is visible lies in some container -/

theorem viewKind_some_mem (r : Rec V) (q : Path) (hq : q ≠ []) (kd : NKind V)
    (h : viewKind r q = some kd) : q ∈ candidates r := by
  obtain ⟨i, n, hl⟩ := found_of_viewKind r q (by rw [h]; exact Option.some_ne_none _)
  obtain ⟨p, hp, hsome⟩ := lookFrom_found_mem r q [] 0 vnode i n hl hq
  obtain ⟨m, hm⟩ := Option.ne_none_iff_exists'.1 hsome
  rw [candidates, mem_sort_dedup]
  simp only [List.mem_flatMap, List.mem_map]
  exact ⟨p, hp, (q, m), aget_mem _ _ _ hm, rfl⟩

theorem attrFind_some_mem (q : Path) (k : Key) (c : Nat) (r : Rec V) (i : Nat) (v : Option V)
    (h : attrFind q k c r = some (i, v)) : ∃ p ∈ r, ∃ n, aget q p = some n ∧ aget k n.attrs = some v := by
  induction r with
  | nil => cases h
  | cons p rest ih =>
    have older : attrFind q k c rest = some (i, v) →
        ∃ p' ∈ p :: rest, ∃ n, aget q p' = some n ∧ aget k n.attrs = some v := fun h' => by
      obtain ⟨p', hp', hn⟩ := ih h'
      exact ⟨p', List.mem_cons_of_mem _ hp', hn⟩
    simp only [attrFind] at h
    split at h
    · cases h
    · split at h
      · exact older h
      · rename_i n hn
        split at h
        · rename_i w hw
          cases h
          exact ⟨p, List.mem_cons_self, n, hn, hw⟩
        · exact older h

theorem viewAttr_some_mem (r : Rec V) (q : Path) (k : Key) (h : viewAttr r q k ≠ none) : k ∈ attrKeys r q := by
  simp only [viewAttr, attrOf] at h
  split at h
  · rename_i c n _
    split at h
    · rename_i i v hf
      obtain ⟨p, hp, n', hn', hk⟩ := attrFind_some_mem q k c r i _ hf
      rw [attrKeys, mem_sort_dedup]
      simp only [List.mem_flatMap]
      exact ⟨p, hp, by rw [hn']; exact List.mem_map_of_mem (f := (·.1)) (aget_mem _ _ _ hk)⟩
    · exact absurd rfl h
  · exact absurd rfl h

theorem aget_filterMap_of {κ β : Type} [DecidableEq κ] (f : κ → Option β) (cs : List κ) (q : κ)
    (h : f q ≠ none → q ∈ cs) : aget q (cs.filterMap (fun p => (f p).map (fun x => (p, x)))) = f q := by
  rw [aget_filterMap]
  split
  · rfl
  · rename_i hq
    exact (not_not.1 (mt h hq)).symm

theorem aget_attrsList (r : Rec V) (q : Path) (k : Key) :
    aget k (attrsList r q) = viewAttr r q k :=
  aget_filterMap_of (fun k => viewAttr r q k) (attrKeys r q) k (viewAttr_some_mem r q k)

theorem attrsList_nodup (r : Rec V) (q : Path) : ((attrsList r q).map (·.1)).Nodup :=
  (keys_filterMap_sublist _ _).nodup (nodup_sort_dedup _ _)

theorem listing_eq (r : Rec V) : Overlay.listing r = (candidates r).filterMap
    (fun p => ((viewKind r p).map (fun kd => (kd, attrsList r p))).map (fun x => (p, x))) := by
  unfold Overlay.listing
  congr 1
  funext p
  cases viewKind r p <;> rfl

theorem aget_listing (r : Rec V) (q : Path) (hq : q ≠ []) :
    aget q (Overlay.listing r) = (viewKind r q).map (fun kd => (kd, attrsList r q)) := by
  rw [listing_eq]
  refine aget_filterMap_of _ _ q (fun h => ?_)
  cases hv : viewKind r q with
  | none => rw [hv] at h; exact absurd rfl h
  | some kd => exact viewKind_some_mem r q hq kd hv

theorem listing_attrs_nodup (r : Rec V) : ∀ e ∈ Overlay.listing r, (e.2.2.map (·.1)).Nodup := by
  intro e he
  simp only [Overlay.listing, List.mem_filterMap] at he
  obtain ⟨q, _, hq⟩ := he
  cases hv : viewKind r q with
  | none => simp [hv] at hq
  | some kd =>
    simp only [hv, Option.map_some, Option.some.injEq] at hq
    subst hq
    exact attrsList_nodup r q

open MetadorModel.Merge

theorem aget_nonRoot (l : Listing V) (q : Path) (hq : q ≠ []) : aget q (nonRoot l) = aget q l := by
  induction l with
  | nil => rfl
  | cons e es ih =>
    obtain ⟨p, x⟩ := e
    simp only [nonRoot, List.filter_cons] at ih ⊢
    by_cases hp : p = []
    · subst hp
      have : ¬ ([] : Path) = q := fun h => hq h.symm
      simp [aget, this, ih]
    · simp only [bne_iff_ne, ne_eq, hp, not_false_eq_true, if_true, aget]
      by_cases hpq : p = q
      · simp [hpq]
      · simp [hpq, ih]

theorem rootAttrsOf_eq (l : Listing V) : rootAttrsOf l = ((aget [] l).map (·.2)).getD [] := by
  induction l with
  | nil => rfl
  | cons e es ih =>
    obtain ⟨p, kd, as⟩ := e
    by_cases hp : p = []
    · subst hp; simp [rootAttrsOf, aget]
    · have hb : (p == []) = false := by simpa using hp
      simp only [rootAttrsOf, List.find?_cons, hb, hp, aget, if_false] at ih ⊢
      exact ih

theorem aget_listing_root (r : Rec V) :
    aget [] (Overlay.listing r) = if [] ∈ candidates r then some (.group, attrsList r []) else none := by
  rw [listing_eq, aget_filterMap]
  simp [viewKind_root]

theorem rootAttrs_listing (r : Rec V) : rootAttrsOf (Overlay.listing r) = attrsList r [] := by
  rw [rootAttrsOf_eq, aget_listing_root]
  by_cases hc : [] ∈ candidates r
  · simp [hc]
  · -- no container has a root entry, so there are no attribute names to look up
    have hk : attrKeys r [] = [] := by
      rw [List.eq_nil_iff_forall_not_mem]
      intro k hk
      rw [attrKeys, mem_sort_dedup] at hk
      simp only [List.mem_flatMap] at hk
      obtain ⟨c, hcr, hk⟩ := hk
      cases hroot : aget [] c with
      | none => simp [hroot] at hk
      | some n =>
        apply hc
        rw [candidates, mem_sort_dedup]
        simp only [List.mem_flatMap, List.mem_map]
        exact ⟨c, hcr, ([], n), aget_mem _ _ _ hroot, rfl⟩
    simp [hc, attrsList, hk]

theorem root_attr_listing (r : Rec V) (k : Key) :
    aget k (rootAttrsOf (Overlay.listing r)) = viewAttr r [] k := by
  rw [rootAttrs_listing, aget_attrsList]

theorem rootAttrs_nodup (r : Rec V) : ((rootAttrsOf (Overlay.listing r)).map (·.1)).Nodup := by
  rw [rootAttrs_listing]
  exact attrsList_nodup r []

theorem stub_root_attr (empty : V) (r s : Rec V) (h : Replayable (Overlay.listing r))
    (hs : stubCont empty r = .ok s) (k : Key) :
    viewAttr s [] k = (viewAttr r [] k).map (fun _ => empty) := by
  have hnd : ((rootAttrsOf (stubListing empty (Overlay.listing r))).map (·.1)).Nodup := by
    rw [rootAttrsOf_stub]
    simpa [List.map_map, Function.comp_def] using rootAttrs_nodup r
  rw [materialise_root_attr _ (replayable_stub empty _ h) s hs hnd k, rootAttrsOf_stub,
    aget_map_val (fun _ => empty) (rootAttrsOf (Overlay.listing r)) k, root_attr_listing]

end MetadorModel.Listing
