import MetadorModel.Model.CodecParsers
import MetadorModel.Proofs.Codec
/-!
# Facts about the glue-code model (`Model/CodecParsers.lean`) that C12 needs

* the encoder of every schema class reaches the registry, and with it `.json()` of the model is
  `encode` of `Model/Codec.lean` (`encodeVia_classLeaf`, `jsonText_default`); pydantic's own encoder
  fails on the three opaque classes (`pydanticLeaf_fails`, the behaviour before the repair F4);
* the own JSON, bytes and YAML text of a valid instance is accepted by `parseRaw` and gives back an equal
  value (`parseRaw_own_json/bytes/yaml`), for the `Env` that the parsers and libraries define (`envOf`);
* validation of an opaque field in `Model/Codec.lean` (`decode (envOf L) (.opq k)`) has the outcome of the
  parser pipeline (`decode_opq_envOf`); pint exceptions never abort a validation (`pint_never_crashes`, F27);
* `override_consts` as an explicit `dict.update` is what `decode` does with constants (`decode_overrideConsts`);
  the JSON schema lists every constant (`schemaExtraLoop_spec`);
* `NumValue`: booleans are refused (F20), a unit-less number stays unit-less (F29), own output is a fixed
  point (`numParse_own_output`).
Library laws are hypotheses (`TextLaws`, `NumLaws`).
-/
namespace MetadorModel.CodecParsers
open MetadorModel.Codec

theorem registry_get (k : Opq) : ∃ f, registryModel.get (.opq k) = some f ∧ ∀ L s, applyEncFn L f (.opq k s) = .ok (.str s) := by
  cases k
  · exact ⟨.durationIsoformat, by decide, fun _ _ => rfl⟩
  · exact ⟨.str, by decide, fun _ _ => rfl⟩
  · exact ⟨.str, by decide, fun _ _ => rfl⟩

theorem classLeaf_opq (L : Lib) (k : Opq) (s : Str) : classLeaf L registryModel (.opq k s) = .ok (.str s) := by
  obtain ⟨f, hf, ha⟩ := registry_get k
  simp [classLeaf, dynLeaf, pydanticLeaf, pyTypeKey, hf, ha]

mutual
/-- with the dynamic lookup (and the forced options `by_alias`, `exclude_none`) the dump of the glue-code
model is `encode` of `Model/Codec.lean` -/
theorem encodeVia_classLeaf (L : Lib) (un : Str → Str) : ∀ v : PyVal,
    encodeVia (classLeaf L registryModel) ⟨true, true⟩ un v = .ok (encode v)
  | .none | .bool _ | .int _ | .float _ | .str _ => rfl
  | .opq k s => by simp [encodeVia, encode, classLeaf_opq]
  | .list vs | .set vs => by simp [encodeVia, encode, encodeViaList_classLeaf L un vs]
  | .obj n fs cs xs => by simp [encodeVia, encode, encodeViaFields_classLeaf L un fs]
theorem encodeViaList_classLeaf (L : Lib) (un : Str → Str) : ∀ vs : List PyVal,
    encodeViaList (classLeaf L registryModel) ⟨true, true⟩ un vs = .ok (encodeList vs)
  | [] => rfl
  | v :: vs => by simp [encodeViaList, encodeList, encodeVia_classLeaf L un v, encodeViaList_classLeaf L un vs]
theorem encodeViaFields_classLeaf (L : Lib) (un : Str → Str) : ∀ fs : List (Str × PyVal),
    encodeViaFields (classLeaf L registryModel) ⟨true, true⟩ un fs = .ok (encodeFields fs)
  | [] => rfl
  | (k, v) :: r => by
    cases v <;> simp [encodeViaFields, encodeFields, encodeViaFields_classLeaf L un r, encodeVia_classLeaf L un]
end

/-- pydantic's own encoder (what a class has whose metaclass `__init__` did not chain, F4) cannot dump an
instance that holds a duration, unit or quantity -/
theorem pydanticLeaf_fails (o : DumpOpts) (un : Str → Str) (n f : Str) (k : Opq) (s : Str) (cs xs : Dict) :
    encodeVia pydanticLeaf o un (.obj n [(f, .opq k s)] cs xs) = .error .typeError := by
  simp [encodeVia, encodeViaFields, pydanticLeaf]

theorem dumpOpts_forced_nil : dumpOpts (forcedKw []) = ⟨true, true⟩ := by decide
theorem kwRest_forced_nil : kwRest (forcedKw []) = [] := by decide

/-- an explicit option of the caller is respected -/
theorem forcedKw_keeps (kw : Dict) (k : Str) (x : Json) (h : lookup k kw = some x) : lookup k (forcedKw kw) = some x := by
  have hk : ∀ (k' : Str) (d : Dict), lookup k d = some x → lookup k (if hasKey k' d then d else setKey k' (.bool true) d) = some x := by
    intro k' d hd
    split
    · exact hd
    · rename_i hh
      have hne : k ≠ k' := by
        intro e
        subst e
        have : lookup k d = none := lookup_none_of_hasKey k d (by simpa using hh)
        rw [this] at hd
        cases hd
      rw [lookup_setKey_ne k' k (.bool true) d hne]
      exact hd
  unfold forcedKw
  exact hk _ _ (hk _ _ h)

/-- `.json()` without arguments of an instance of a class with the dynamic encoder -/
theorem jsonText_default (L : Lib) (v : PyVal) :
    jsonText L (classLeaf L registryModel) v [] = .ok (L.jsonDumps [] (encode v)) := by
  simp [jsonText, pydJson, dumpOpts_forced_nil, kwRest_forced_nil, encodeVia_classLeaf]

/-- laws of the text libraries that the round trip needs -/
structure TextLaws (L : Lib) : Prop where
  json_rt : ∀ j, L.jsonLoads (L.jsonDumps [] j) = some j
  json_nl : ∀ j, L.jsonLoads (L.jsonDumps [] j ++ ['\n']) = some j
  yaml_rt : ∀ j, L.yamlLoad (L.yamlDump j) = .ok j
  /-- YAML text that happens to be JSON denotes the same data -/
  yaml_json : ∀ j j', L.jsonLoads (L.yamlDump j) = some j' → j' = j

theorem pydValidate_own (L : Lib) (t : Ty) (v : PyVal) (h : Valid (envOf L) t v) :
    pydValidate L t (encode v) = .ok v := by
  simp [pydValidate, roundtrip_core (envOf L) t v h]

/-- `S.parse_raw(o.json()) == o` -/
theorem parseRaw_own_json (L : Lib) (hl : TextLaws L) (t : Ty) (v : PyVal) (h : Valid (envOf L) t v) :
    ∃ s, jsonText L (classLeaf L registryModel) v [] = .ok s ∧ parseRaw L t s [] = .ok v := by
  refine ⟨_, jsonText_default L v, ?_⟩
  simp [parseRaw, pydParseRaw, hl.json_rt, pydValidate_own L t v h]

/-- `S.parse_raw(bytes(o)) == o` -/
theorem parseRaw_own_bytes (L : Lib) (hl : TextLaws L) (t : Ty) (v : PyVal) (h : Valid (envOf L) t v) :
    ∃ s, bytesOf L (classLeaf L registryModel) v = .ok s ∧ parseRaw L t s [] = .ok v := by
  refine ⟨L.jsonDumps [] (encode v) ++ ['\n'], by simp [bytesOf, jsonText_default], ?_⟩
  simp [parseRaw, pydParseRaw, hl.json_nl, pydValidate_own L t v h]

/-- `S.parse_raw(o.yaml()) == o`: whether or not the YAML text is also JSON -/
theorem parseRaw_own_yaml (L : Lib) (hl : TextLaws L) (t : Ty) (v : PyVal) (h : Valid (envOf L) t v) :
    ∃ s, yamlText L (classLeaf L registryModel) v = .ok s ∧ parseRaw L t s [] = .ok v := by
  refine ⟨L.yamlDump (encode v), by simp [yamlText, jsonDict, jsonText_default, loadsOrRaise, hl.json_rt], ?_⟩
  simp only [parseRaw, pydParseRaw, List.isEmpty_nil, if_true]
  cases hj : L.jsonLoads (L.yamlDump (encode v)) with
  | none => simp [parseYamlRawAs, hl.yaml_rt, pydValidate_own L t v h]
  | some j' =>
    have := hl.yaml_json _ _ hj
    subst this
    simp [pydValidate_own L t v h]

/-- `o.json_dict()` is the dump itself, hence shows every constant (`C12.constants_forced`) -/
theorem jsonDict_default (L : Lib) (hl : TextLaws L) (v : PyVal) :
    jsonDict L (classLeaf L registryModel) v [] = .ok (encode v) := by
  simp [jsonDict, jsonText_default, loadsOrRaise, hl.json_rt]

/-- an exception that is no validation error is never retried as YAML -/
theorem parseRaw_crash (L : Lib) (t : Ty) (dat : Str) (kw : Dict) (e : PyErr) (he : e ≠ .validationError)
    (h : pydParseRaw L t dat kw = .error e) : parseRaw L t dat kw = .error e := by
  cases e <;> simp_all [parseRaw]

/-- accepted / refused with a validation error / aborted -/
inductive Outcome (α : Type)
  | ok (a : α)
  | refused
  | aborted

def outcomeE {α : Type} : Except Err α → Outcome α
  | .ok a => .ok a
  | .error .crash => .aborted
  | .error _ => .refused

def outcomeM : M Obj → Outcome PyVal
  | .ok (.inst k n) => .ok (.opq k n)
  | .ok _ => .aborted   -- not reached: strict parsers return instances
  | .error e => if e.isValidation then .refused else .aborted

theorem validateOpq_inst (L : Lib) (k : Opq) (v r : Obj) (h : validateOpq L k v = .ok r) : ∃ n, r = .inst k n := by
  cases k <;> simp only [validateOpq] at h
  · split at h
    · split at h <;> simp at h
      exact ⟨_, h.symm⟩
    · simp at h; exact ⟨_, h.symm⟩
    · cases h
  all_goals
    split at h
    · cases h
    · split at h
      · split at h <;> simp at h
        rename_i hk
        simp at hk
        subst hk
        exact ⟨_, h.symm⟩
      · split at h
        · simp at h; exact ⟨_, h.symm⟩
        · split at h <;> cases h
      · cases h

/-- the opaque case of `decode` in `Model/Codec.lean`, instantiated with `envOf L`, has the outcome of the
modelled parser pipeline on every JSON input -/
theorem decode_opq_envOf (L : Lib) (k : Opq) (j : Json) :
    outcomeE (decode (envOf L) (.opq k) j) = outcomeM (validateOpq L k (.json j)) := by
  cases j with
  | str s =>
    have key : ∀ r, validateOpq L k (.json (.str s)) = r →
        outcomeE (decode (envOf L) (.opq k) (.str s)) = outcomeM r := by
      intro r hr
      simp only [decode, envOf, hr]
      cases r with
      | error e => cases he : e.isValidation <;> simp [outcomeE, outcomeM, he]
      | ok r =>
        obtain ⟨n, rfl⟩ := validateOpq_inst L k _ r hr
        simp [outcomeE, outcomeM]
    exact key _ rfl
  | _ =>
    cases k <;> simp [decode, validateOpq, outcomeE, Obj.truthy] <;> (try split) <;> simp [outcomeM, PyErr.isValidation]

/-- whatever pint raises is turned into a validation error (F27): a unit / quantity field never aborts -/
theorem pint_never_crashes (L : Lib) (s : Str) : (envOf L).crash .unit s = false ∧ (envOf L).crash .qty s = false := by
  constructor <;>
  · simp only [envOf, validateOpq]
    split
    · rename_i e he
      split at he
      · cases he; rfl
      · split at he <;> simp at he
        rename_i e' _
        by_cases hv : e'.isValidation = true
        · simp [hv] at he; subst he; simp [hv]
        · simp [hv] at he; subst he; rfl
    · rfl

/-- the cache of `__get_validators__` is coherent: a second call yields the same validators -/
theorem validatorsOf_idem (c c' : PCls) (vs : List Validator) (h : validatorsOf c = .ok (c', vs)) :
    validatorsOf c' = .ok (c', vs) := by
  simp only [validatorsOf] at h
  split at h
  · simp at h
    obtain ⟨rfl, rfl⟩ := h
    rename_i f hf
    simp [validatorsOf, hf]
  · split at h
    · cases h
    · simp at h
      obtain ⟨rfl, rfl⟩ := h
      simp [validatorsOf, pfuncValidators]
    · simp at h
      obtain ⟨rfl, rfl⟩ := h
      simp [validatorsOf, pfuncValidators]


/-- `override_consts` written as the explicit `values.update(cls.__constants__)` of the source changes nothing
for `decode`, which ignores whatever the input says under a constant key: the treatment of constants in
`Model/Codec.lean` is the source's -/
theorem decode_overrideConsts (env : Env) (n : Str) (ex : Extra) (fs : List Field) (cs : Dict) (kvs : Dict)
    (hdisj : ∀ f ∈ fs, hasKey (fieldName f) cs = false) :
    decode env (.model n ex fs cs) (.obj (overrideConsts cs kvs)) = decode env (.model n ex fs cs) (.obj kvs) :=
  decode_setKeys_consts env n ex fs cs hdisj cs kvs fun p hp => List.any_eq_true.mpr ⟨p, hp, by simp⟩

theorem dictSet2_spec (d : Dict) (k1 k2 : Str) (v : Json) (inner : Dict) (h : lookup k1 d = some (.obj inner)) :
    dictSet2 d k1 k2 v = .ok (setKey k1 (.obj (setKey k2 v inner)) d) := by
  simp [dictSet2, h]

/-- **constants are exported into the JSON schema**: on a schema with a `properties` object, `schema_extra`
does not raise, lists every constant under `properties` (as `True`, so that it is not rejected) and stores its
value under `$metador_constants` -/
theorem schemaExtraLoop_spec : ∀ (cs : Dict) (schema ps ks : Dict),
    lookup kProperties schema = some (.obj ps) → lookup kConstFlds schema = some (.obj ks) →
    ∃ r, schemaExtraLoop schema cs = .ok r ∧
      lookup kProperties r = some (.obj (dictUpdate ps (cs.map (fun p => (p.1, Json.bool true))))) ∧
      lookup kConstFlds r = some (.obj (dictUpdate ks cs))
  | [], schema, ps, ks, hp, hk => ⟨schema, rfl, by simpa [dictUpdate] using hp, by simpa [dictUpdate] using hk⟩
  | (c, v) :: rest, schema, ps, ks, hp, hk => by
    have hne : kConstFlds ≠ kProperties := by decide
    simp only [schemaExtraLoop, dictSet2_spec schema kProperties c (.bool true) ps hp]
    have h1 : lookup kConstFlds (setKey kProperties (.obj (setKey c (.bool true) ps)) schema) = some (.obj ks) := by
      rw [lookup_setKey_ne kProperties kConstFlds _ schema hne]; exact hk
    simp only [dictSet2_spec _ kConstFlds c v ks h1]
    have h2 : lookup kProperties (setKey kConstFlds (.obj (setKey c v ks)) (setKey kProperties (.obj (setKey c (.bool true) ps)) schema))
        = some (.obj (setKey c (.bool true) ps)) := by
      rw [lookup_setKey_ne kConstFlds kProperties _ _ (Ne.symm hne)]; exact lookup_setKey_self _ _ _
    obtain ⟨r, hr, hrp, hrk⟩ := schemaExtraLoop_spec rest _ _ _ h2 (lookup_setKey_self _ _ _)
    exact ⟨r, hr, by simpa [dictUpdate] using hrp, by simpa [dictUpdate] using hrk⟩

/-- … for the whole function: a class with constants gets the `$metador_constants` object -/
theorem schemaExtra_spec (L : Lib) (schema : Dict) (model : SchemaCls) (ps : Dict)
    (hc : model.unwrap.constants ≠ [])
    (hp : lookup kProperties (if model.unwrap.isMetadataSchema then schema else L.addDescriptions schema) = some (.obj ps)) :
    ∃ r, schemaExtra L schema model = .ok r ∧
      lookup kConstFlds r = some (.obj (dictUpdate [] model.unwrap.constants)) := by
  have hne : kProperties ≠ kConstFlds := by decide
  have he : model.unwrap.constants.isEmpty = false := by
    cases h : model.unwrap.constants with
    | nil => exact absurd h hc
    | cons _ _ => rfl
  simp only [schemaExtra, he]
  obtain ⟨r, hr, _, hrk⟩ := schemaExtraLoop_spec model.unwrap.constants
    (setKey kConstFlds (.obj []) (if model.unwrap.isMetadataSchema then schema else L.addDescriptions schema)) ps []
    (by rw [lookup_setKey_ne kConstFlds kProperties _ _ hne]; exact hp) (lookup_setKey_self _ _ _)
  exact ⟨r, by simpa using hr, hrk⟩

/-- F20: a boolean is refused, whatever the configuration -/
theorem numParse_bool_refused (L : Lib) (cfg : NumCfg) (b : Bool) :
    numParse L cfg (.json (.bool b)) = .error .typeError := rfl

/-- F29: with a parser that infers no unit, a bare number has no unit … -/
theorem numParse_unitless (L : Lib) (au : List Str) (i : Int) :
    numParse L ⟨au, none, false⟩ (.json (.int i)) = .ok (.qv ⟨.tcls, .int i, .null, .null⟩) := rfl

/-- what pydantic guarantees about the helper calls of the parser on the parser's own output -/
structure NumLaws (L : Lib) : Prop where
  /-- validating the dump of a parser-built value against the base class gives its value and unit back -/
  base_dump : ∀ q : QV, q.unitCode = .null →
    L.baseValidate (.json (.obj (dumpQV q))) = .ok (.qv ⟨.base, q.value, q.unitText, .null⟩)
  number_id : ∀ j, isNumber j = true → L.parseNumber (.json j) = .ok (.json j)
  numstr_id : ∀ j s, isNumber j = true →
    L.parseNumStr (.tuple [.json j, .json (.str s)]) = .ok (.tuple [.json j, .json (.str s)])

/-- the values the parser builds: a number, no `unitCode`, and either no unit (possible only when none is inferred
or required) or a non-empty unit that is allowed -/
def GoodOut (cfg : NumCfg) (q : QV) : Prop :=
  q.cls = .tcls ∧ isNumber q.value = true ∧ q.unitCode = .null ∧
    ((q.unitText = .null ∧ cfg.inferUnit = none ∧ cfg.requireUnit = false) ∨
     (∃ s, q.unitText = .str s ∧ s ≠ [] ∧ (cfg.allowedUnits = [] ∨ cfg.allowedUnits.contains s = true)))

/-- **own output is accepted and gives back an equal value**: the dict the parser-built value is dumped as is
parsed into the same value (with F29 repaired also when it has no unit) -/
theorem numParse_own_output (L : Lib) (hl : NumLaws L) (cfg : NumCfg) (q : QV) (h : GoodOut cfg q) :
    numParse L cfg (.json (.obj (dumpQV q))) = .ok (.qv q) := by
  obtain ⟨hc, hn, hu, hunit⟩ := h
  obtain ⟨c, value, unitText, unitCode⟩ := q
  simp only at hc hn hu
  subst hc hu
  simp only [numParse, hl.base_dump ⟨.tcls, value, unitText, .null⟩ rfl, isBaseInst]
  rcases hunit with ⟨h1, h2, h3⟩ | ⟨s, h1, h2, h3⟩
  · simp only at h1
    subst h1
    simp [numUnpack, truthyJ, h2, ofOptStr, isNull, numFinish, pyLen, pyIndex, h3, hl.number_id value hn, numConstruct]
  · simp only at h1
    subst h1
    have ht : truthyJ (.str s) = true := by
      cases s with
      | nil => exact absurd rfl h2
      | cons _ _ => rfl
    have e := hl.numstr_id value s hn
    rcases h3 with h3 | h3
    · simp [numUnpack, ht, isNull, numFinish, pyLen, e, pyIndex, numConstruct, h3]
    · have h3' : s ∈ cfg.allowedUnits := by simpa using h3
      simp [numUnpack, ht, isNull, numFinish, pyLen, e, pyIndex, numConstruct, Obj.inStrs, h3']

/-- the numeric shortcut produces such a value when the class attributes are coherent (the inferred unit is
non-empty and allowed, e.g. `Pixels`: `"px"` in `["px"]`) -/
theorem numParse_number_good (L : Lib) (cfg : NumCfg) (j : Json) (hj : isNumber j = true) (q : QV)
    (hcfg : ∀ u, cfg.inferUnit = some u → u ≠ [] ∧ (cfg.allowedUnits = [] ∨ cfg.allowedUnits.contains u = true))
    (h : numParse L cfg (.json j) = .ok (.qv q)) : GoodOut cfg q := by
  cases j <;> simp [isNumber] at hj <;> simp only [numParse] at h <;>
  · split at h
    · cases h
    · rename_i hr
      simp [numConstruct] at h
      subst h
      refine ⟨rfl, rfl, rfl, ?_⟩
      cases hi : cfg.inferUnit with
      | none => left; exact ⟨rfl, rfl, by simpa using hr⟩
      | some u => right; exact ⟨u, rfl, (hcfg u hi).1, (hcfg u hi).2⟩

end MetadorModel.CodecParsers
