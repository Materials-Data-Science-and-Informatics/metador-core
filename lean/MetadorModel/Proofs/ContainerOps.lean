import MetadorModel.Proofs.ContainerInit
import MetadorModel.Proofs.ContainerTreeOps
/-!
# Frame lemmas for the container invariant, its TOC part relative to a link relation, and the
creation of user nodes (`create_group`, `__setitem__`)
-/
namespace MetadorModel.Container

theorem isInternal_toc (rest : Path) : isInternal (.toc :: rest) = true := by
  simp [isInternal, Key.internal]

theorem isInternal_of_head_toc {q : Path} (h : q.head? = some .toc) : isInternal q = true := by
  cases q with
  | nil => simp at h
  | cons k q => simp at h; subst h; exact isInternal_toc q

theorem snoc2_assoc (a : Path) (k1 k2 : Key) : a ++ [k1, k2] = (a ++ [k1]) ++ [k2] := by simp

theorem dropLast_snoc2 (a : Path) (k1 k2 : Key) : (a ++ [k1, k2]).dropLast = a ++ [k1] := by
  rw [snoc2_assoc, List.dropLast_concat]

theorem UShape.of_user {q : Path} {n : Node} (h : UShape q n) (hq : isInternal q = false) :
    n = .grp ∨ ∃ tok, n = .ds (.data tok) := by
  cases h with
  | user q n _ h' => exact h'
  | metaDir base m _ => rw [isInternal_metaDir base m []] at hq; cases hq
  | obj base m r u tok _ => rw [isInternal_metaDir base m _] at hq; cases hq

theorem ObjAt.internal {t : Tree} {p : Path} {r : SRef} {u : Nat} (h : ObjAt t p r u) : isInternal p = true := by
  obtain ⟨base, m, -, rfl, -⟩ := h
  exact isInternal_metaDir base m _

theorem nodeKind_true {s : St} {p : Path} (h : nodeKind s p = some true) : ∃ v, get? s.raw p = some (.ds v) :=
  (nodeKind_some h).elim (fun h => by cases h.1) (·.2)

theorem nodeKind_false {s : St} {p : Path} (h : nodeKind s p = some false) : get? s.raw p = some .grp :=
  (nodeKind_some h).elim (·.2) (fun h => by cases h.1)

theorem none_below_ds {t : Tree} (hc : PClosed t) {src q : Path} {v : Val} (hv : get? t src = some (.ds v))
    (hpre : src <+: q) (hne : q ≠ src) : get? t q = none := by
  by_contra hg
  have := prefix_grp' hc hpre (fun h => hne h.symm) hg
  rw [hv] at this; cases this

theorem no_obj_below_ds {t : Tree} (hc : PClosed t) {src : Path} {v : Val} (hs : isInternal src = false)
    (hv : get? t src = some (.ds v)) {c : Path} {r : SRef} {u : Nat} : ¬ ObjAt t (src ++ c) r u := fun ho => by
  obtain ⟨_, _, _, _, hg⟩ := id ho
  refine hg (none_below_ds hc hv (List.prefix_append _ _) fun h => ?_)
  rw [h] at ho
  rw [ho.internal] at hs; cases hs

theorem ObjAt.congr_internal {t t' : Tree} (hf : ∀ q, isInternal q = true → get? t' q = get? t q)
    (p : Path) (r : SRef) (u : Nat) : ObjAt t' p r u ↔ ObjAt t p r u := by
  constructor
  · rintro ⟨base, m, hb, rfl, hg⟩
    exact ⟨base, m, hb, rfl, by rw [← hf _ (isInternal_metaDir base m _)]; exact hg⟩
  · rintro ⟨base, m, hb, rfl, hg⟩
    exact ⟨base, m, hb, rfl, by rw [hf _ (isInternal_metaDir base m _)]; exact hg⟩

theorem TreeOKx.weaken {e : Env} {t : Tree} {ex ex' : Path → Prop} (h : TreeOKx e t ex)
    (hx : ∀ base m, isInternal base = false → get? t (base ++ [.metaDir m]) ≠ none →
      ex (base ++ [.metaDir m]) → ex' (base ++ [.metaDir m])) : TreeOKx e t ex' :=
  ⟨h.keys, h.pclosed, h.ushape, fun b m hb hg hne => h.host_ds b m hb hg (fun hx' => hne (hx b m hb hg hx')),
    h.host_obj, h.objenv, h.onename⟩

theorem inv_of_same_objs {e : Env} {s : St} (hi : Inv e s) {t' : Tree} (ht : TreeOK e t')
    (htoc : ∀ q, q.head? = some .toc → get? t' q = get? s.raw q)
    (hobj : ∀ p r u, ObjAt t' p r u ↔ ObjAt s.raw p r u) : Inv e ⟨t', s.c, s.next⟩ := by
  have hused : ∀ r, (∃ p u, ObjAt t' p r u) ↔ (∃ p u, ObjAt s.raw p r u) := fun r =>
    ⟨fun ⟨p, u, h⟩ => ⟨p, u, (hobj _ _ _).mp h⟩, fun ⟨p, u, h⟩ => ⟨p, u, (hobj _ _ _).mpr h⟩⟩
  refine inv_of_parts ht ⟨(hi.toc.frame htoc).congr hobj hused, hi.scache.congr hused, ?_, ?_⟩ ?_
  · intro u tp
    rw [hi.lcache u tp]
    constructor
    · rintro ⟨p, r, h, rfl⟩; exact ⟨p, r, (hobj _ _ _).mpr h, rfl⟩
    · rintro ⟨p, r, h, rfl⟩; exact ⟨p, r, (hobj _ _ _).mp h, rfl⟩
  · intro p p' r r' u h1 h2
    exact hi.mok.uniq p p' r r' u ((hobj _ _ _).mp h1) ((hobj _ _ _).mp h2)
  · intro p r u h; exact hi.mok.bound p r u ((hobj _ _ _).mp h)

/-- A change of the raw tree that touches no reserved name (only user groups and datasets come
and go, and no dataset that owns a metadata directory disappears) keeps the invariant. -/
theorem inv_of_user_change {e : Env} {s : St} (hi : Inv e s) {t' : Tree}
    (hk : KeysOK t') (hc : PClosed t')
    (hint : ∀ q, isInternal q = true → get? t' q = get? s.raw q)
    (huser : ∀ q n, q ≠ [] → isInternal q = false → get? t' q = some n →
      (n = .grp ∨ ∃ tok, n = .ds (.data tok)))
    (hhost : ∀ base m v, isInternal base = false → get? s.raw (base ++ [.metaDir m]) ≠ none →
      get? s.raw (base ++ [.user m]) = some (.ds v) → ∃ v', get? t' (base ++ [.user m]) = some (.ds v')) :
    Inv e ⟨t', s.c, s.next⟩ := by
  have ht := hi.treeOK
  have hobj : ∀ p r u, ObjAt t' p r u ↔ ObjAt s.raw p r u := ObjAt.congr_internal hint
  refine inv_of_same_objs hi ⟨hk, hc, fun q n hq hqt hg => ?_, fun base m hb hg _ => ?_, fun base m hb hg => ?_,
    fun p r u ho => ht.objenv p r u ((hobj p r u).mp ho), fun base m r u r' u' hb hg1 hg2 => ?_⟩
    (fun q hq => hint q (isInternal_of_head_toc hq)) hobj
  · cases hiq : isInternal q with
    | true => rw [hint q hiq] at hg; exact ht.ushape q n hq hqt hg
    | false => exact .user q n hiq (huser q n hq hiq hg)
  · rw [hint _ (isInternal_metaDir base m [])] at hg
    exact (ht.host_ds base m hb hg (fun h => h)).imp_right fun ⟨v, hv⟩ => hhost base m v hb hg hv
  · rw [hint _ (isInternal_metaDir base m [])] at hg
    obtain ⟨r, u, h2⟩ := ht.host_obj base m hb hg
    exact ⟨r, u, by rw [hint _ (isInternal_metaDir base m _)]; exact h2⟩
  · rw [hint _ (isInternal_metaDir base m _)] at hg1 hg2
    exact ht.onename base m r u r' u' hb hg1 hg2

theorem ObjAt.not_below_free {t : Tree} {p d : Path} {r : SRef} {u : Nat} (ho : ObjAt t p r u) (hc : PClosed t)
    (hfree : get? t d = none) : ¬ d <+: p := fun hpre => by
  obtain ⟨_, _, _, _, hg⟩ := ho
  exact hg (none_below_free hc hfree hpre)

theorem ne_toc_of_prefix {p q : Path} (hp0 : p ≠ []) (hpt : p.head? ≠ some .toc) (h : p <+: q) :
    q ≠ [] ∧ q.head? ≠ some .toc := by
  obtain ⟨c, rfl⟩ := h
  cases p with
  | nil => exact absurd rfl hp0
  | cons x p => exact ⟨by simp, by simpa using hpt⟩

theorem isInternal_prefix {q p : Path} (h : q <+: p) (hp : isInternal p = false) : isInternal q = false := by
  obtain ⟨b, rfl⟩ := h
  rw [isInternal_append] at hp
  simp only [Bool.or_eq_false_iff] at hp
  exact hp.1

theorem createNode_inv {e : Env} {s : St} (hi : Inv e s) {p : Path} (hp : isInternal p = false) {n : Node}
    (hn : n = .grp ∨ ∃ tok, n = .ds (.data tok)) {t' : Tree} (h : rawCreate s.raw p n = .ok t') :
    Inv e ⟨t', s.c, s.next⟩ := by
  have hmid : ∀ q, isMid [] p q = true → isInternal q = false := fun q hm =>
    isInternal_prefix (isMid_nil_iff.mp hm).2.1 hp
  refine inv_of_user_change hi (rawCreate_keys h hi.keys) (rawCreate_pclosed h hi.pclosed) ?_ ?_ ?_
  · intro q hq
    rw [rawCreate_get? h q]
    have : q ≠ p := by rintro rfl; rw [hp] at hq; cases hq
    rw [if_neg this]
    cases hg : get? s.raw q with
    | some x => rfl
    | none =>
      cases hm : isMid [] p q with
      | false => simp
      | true => rw [hmid q hm] at hq; cases hq
  · intro q x hq0 hq hg
    rw [rawCreate_get? h q] at hg
    by_cases h1 : q = p
    · rw [if_pos h1] at hg; cases hg; exact hn
    · rw [if_neg h1] at hg
      cases hx : get? s.raw q with
      | some y =>
        rw [hx] at hg; cases hg
        exact (hi.mok.ushape q _ hq0 (isInternal_head_ne_toc hq) hx).of_user hq
      | none =>
        rw [hx] at hg
        cases hm : isMid [] p q with
        | true => simp [hm] at hg; exact Or.inl hg.symm
        | false => simp [hm] at hg
  · intro base m v hb _ hv
    refine ⟨v, ?_⟩
    rw [rawCreate_get? h]
    have hfree := (rawCreate_inv h).2.1
    have : base ++ [Key.user m] ≠ p := by rintro rfl; rw [hfree] at hv; cases hv
    rw [if_neg this, hv]

/-- `create_group` and `__setitem__` are the guarded creation of one node: what holds before and is
kept by a successful `rawCreate` at a user path holds afterwards, success or failure -/
theorem createNode_post (P : St → Prop) {s : St} (p : Path) (n : Node) (h0 : P s)
    (h1 : isInternal p = false → ∀ t', rawCreate s.raw p n = .ok t' → P ⟨t', s.c, s.next⟩) :
    P ((do guardPath p; liftRaw fun t => rawCreate t p n : M Unit) s).2 := by
  unfold guardPath
  cases hint : isInternal p with
  | true => exact h0
  | false =>
    simp only [Bool.false_eq_true, if_false, bind, M.bind, run_pure, run_liftRaw]
    cases h : rawCreate s.raw p n with
    | error err => exact h0
    | ok t' => exact h1 hint t' h

theorem opCreateGroup_inv {e : Env} {s : St} (hi : Inv e s) (p : Path) : Inv e (opCreateGroup p s).2 :=
  createNode_post (Inv e) p .grp hi fun hp _ h => createNode_inv hi hp (Or.inl rfl) h

theorem opCreateDataset_inv {e : Env} {s : St} (hi : Inv e s) (p : Path) (tok : String) :
    Inv e (opCreateDataset p tok s).2 :=
  createNode_post (Inv e) p _ hi fun hp _ h => createNode_inv hi hp (Or.inr ⟨tok, rfl⟩) h

end MetadorModel.Container
