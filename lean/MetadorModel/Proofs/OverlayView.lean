import MetadorModel.Proofs.OverlayBase
import MetadorModel.Proofs.OverlayDefs
import Mathlib.Tactic.ByContra
import Mathlib.Tactic.SplitIfs
/-!
# Reading a record is applying its containers as patches (`view_cons`)

The child scan and the walk get their equations for a record `p :: r` once (`scan_cons`, `child_cons`,
`look_snoc`). `look_cons` then compares the walk through `p :: r` with the walk through `r` one
segment at a time; `view_cons` reads kinds and attributes off it.
-/
namespace MetadorModel.Overlay
open MetadorModel.Tree
variable {V : Type}

theorem isVirtual_iff (kd : RKind V) : kd.isVirtual = true ↔ kd = .vgroup := by
  cases kd <;> simp [RKind.isVirtual]

theorem isGroup_of_plainKind {kd : RKind V} (h : plainKind kd = some .group) : kd.isGroup = true := by
  cases kd <;> first | rfl | cases h

theorem plainKind_eq_none (kd : RKind V) : plainKind kd = none ↔ kd.isDel = true := by
  cases kd <;> simp [plainKind, RKind.isDel]

theorem plainKind_ne_none_of_notDel {kd : RKind V} (h : kd.isDel = false) : plainKind kd ≠ none :=
  mt (plainKind_eq_none kd).1 (ne_true_of_eq_false h)

theorem scan_none_of_le (q : Path) (c : Nat) (r : Rec V) (h : r.length ≤ c) : scan q c r = none := by
  cases r with
  | nil => rfl
  | cons p rest => exact if_pos (Nat.lt_of_succ_le h)

theorem scan_cons (q : Path) (c : Nat) (p : Cont V) (r : Rec V) (h : c ≤ r.length) :
    scan q c (p :: r) = match aget q p with
      | none => scan q c r
      | some n => if n.kind.isVirtual then some ((scan q c r).getD (r.length, n)) else some (r.length, n) :=
  if_neg (Nat.not_lt.2 h)

/-- the container with index `i` of a record (newest first) -/
theorem reverse_getElem?_cons (p : Cont V) (r : Rec V) (i : Nat) :
    (p :: r).reverse[i]? = if i = r.length then some p else r.reverse[i]? := by
  rw [List.reverse_cons]
  split_ifs with h
  · rw [h, ← r.length_reverse, List.getElem?_concat_length]
  · rcases Nat.lt_or_gt_of_ne h with h | h
    · exact List.getElem?_append_left (by rwa [List.length_reverse])
    · rw [List.getElem?_eq_none (by simp; omega), List.getElem?_eq_none (by simp; omega)]

/-- what `scan` returns: the node `n` that container `i ≥ c` holds at `q`, every newer container
holding at most a pass-through group there -/
theorem scan_spec (q : Path) (c : Nat) (r : Rec V) (i : Nat) (n : RNode V) (h : scan q c r = some (i, n)) :
    c ≤ i ∧ (∃ f, r.reverse[i]? = some f ∧ aget q f = some n) ∧
      ∀ j f m, i < j → r.reverse[j]? = some f → aget q f = some m → m.kind.isVirtual = true := by
  induction r generalizing i n with
  | nil => cases h
  | cons p r ih =>
    by_cases hc : c ≤ r.length
    · rw [scan_cons q c p r hc] at h
      -- either the entry of `p` is the answer, or `p` holds at most a pass-through group
      have key : (aget q p = some n ∧ i = r.length) ∨
          ((∀ m, aget q p = some m → m.kind.isVirtual = true) ∧ scan q c r = some (i, n)) := by
        cases hp : aget q p with
        | none => rw [hp] at h; exact .inr ⟨fun _ hm => (nomatch hm), h⟩
        | some m =>
          rw [hp] at h
          dsimp only at h
          by_cases hv : m.kind.isVirtual = true
          · rw [if_pos hv] at h
            cases hs : scan q c r with
            | none => rw [hs] at h; cases h; exact .inl ⟨rfl, rfl⟩
            | some x => rw [hs] at h; exact .inr ⟨fun m' hm' => by cases hm'; exact hv, h⟩
          · rw [if_neg hv] at h; cases h; exact .inl ⟨rfl, rfl⟩
      simp only [reverse_getElem?_cons]
      rcases key with ⟨hp, rfl⟩ | ⟨hp, hs⟩
      · refine ⟨hc, ⟨p, if_pos rfl, hp⟩, fun j f m hj hf _ => ?_⟩
        rw [if_neg (by omega), List.getElem?_eq_none (by simp; omega)] at hf; cases hf
      · obtain ⟨h1, ⟨f, hf, hn⟩, h3⟩ := ih i n hs
        have hi : i < r.length := by simpa using (List.getElem?_eq_some_iff.1 hf).1
        refine ⟨h1, ⟨f, by rw [if_neg (by omega)]; exact hf, hn⟩, fun j f' m hj hf' hm => ?_⟩
        split_ifs at hf' with hjr
        · cases hf'; exact hp m hm
        · exact h3 j f' m hj hf' hm
    · rw [scan_none_of_le q c (p :: r) (by simp; omega)] at h; cases h

theorem scan_idx_lt (q : Path) (c : Nat) (r : Rec V) (i : Nat) (n : RNode V)
    (h : scan q c r = some (i, n)) : i < r.length := by
  obtain ⟨_, ⟨f, hf, _⟩, _⟩ := scan_spec q c r i n h
  simpa using (List.getElem?_eq_some_iff.1 hf).1

theorem scan_some_mem (q : Path) (c : Nat) (r : Rec V) (i : Nat) (n : RNode V)
    (h : scan q c r = some (i, n)) : ∃ cont ∈ r, aget q cont ≠ none := by
  obtain ⟨_, ⟨f, hf, hn⟩, _⟩ := scan_spec q c r i n h
  exact ⟨f, List.mem_reverse.1 (List.mem_of_getElem? hf), by simp [hn]⟩

theorem attrFind_none_of_le (q : Path) (k : Key) (c : Nat) (r : Rec V) (h : r.length ≤ c) :
    attrFind q k c r = none := by
  cases r with
  | nil => rfl
  | cons p rest => exact if_pos (Nat.lt_of_succ_le h)

theorem attrFind_cons (q : Path) (k : Key) (c : Nat) (p : Cont V) (r : Rec V) (h : c ≤ r.length) :
    attrFind q k c (p :: r) = match aget q p with
      | none => attrFind q k c r
      | some n => match aget k n.attrs with
        | some v => some (r.length, v)
        | none => attrFind q k c r :=
  if_neg (Nat.not_lt.2 h)

theorem child_eq_some (r : Rec V) (q : Path) (c i : Nat) (n : RNode V) :
    child r q c = some (i, n) ↔ scan q c r = some (i, n) ∧ n.kind.isDel = false := by
  unfold child
  cases scan q c r with
  | none => simp
  | some x =>
    obtain ⟨j, m⟩ := x
    dsimp only
    split_ifs with hd
    · exact ⟨nofun, fun ⟨e, hn⟩ => by cases e; rw [hd] at hn; cases hn⟩
    · exact ⟨fun e => ⟨e, by cases e; simpa using hd⟩, And.left⟩

/-- the newest container `p` against the older ones, below a node created in container `c` -/
theorem child_cons (p : Cont V) (r : Rec V) (q : Path) (c : Nat) (h : c ≤ r.length) :
    child (p :: r) q c = match aget q p with
      | none => child r q c
      | some m =>
        if m.kind.isVirtual then
          match scan q c r with
          | none => some (r.length, m)
          | some _ => child r q c
        else if m.kind.isDel then none else some (r.length, m) := by
  unfold child
  rw [scan_cons q c p r h]
  cases aget q p with
  | none => rfl
  | some m =>
    dsimp only
    by_cases hv : m.kind.isVirtual = true
    · simp only [if_pos hv]
      cases scan q c r with
      | none =>
        have hd : m.kind.isDel = false := by rw [(isVirtual_iff _).1 hv]; rfl
        exact if_neg (ne_true_of_eq_false hd)
      | some x => rfl
    · simp only [if_neg hv]

/-- below a node created in the newest container only that container counts -/
theorem child_top (p : Cont V) (r : Rec V) (q : Path) :
    child (p :: r) q r.length = match aget q p with
      | none => none
      | some m => if m.kind.isDel then none else some (r.length, m) := by
  unfold child
  rw [scan_cons q _ p r (Nat.le_refl _), scan_none_of_le q _ r (Nat.le_refl _)]
  cases aget q p with
  | none => rfl
  | some m => dsimp only [Option.getD_none]; rw [ite_self]

theorem lookFrom_cons (r : Rec V) (pre : Path) (c : Nat) (cur : RNode V) (k : Key) (rest : Path) :
    lookFrom r pre c cur (k :: rest) =
      if cur.kind.isGroup then
        match child r (pre ++ [k]) c with
        | none => .part pre (k :: rest)
        | some (i, n) => lookFrom r (pre ++ [k]) i n rest
      else .insideValue := rfl

theorem lookFrom_append (r : Rec V) (b rest : Path) : ∀ (a : Path) (c0 : Nat) (n0 : RNode V),
    lookFrom r a c0 n0 (b ++ rest) = match lookFrom r a c0 n0 b with
      | .found c cur => lookFrom r (a ++ b) c cur rest
      | .part x y => .part x (y ++ rest)
      | .insideValue => .insideValue := by
  induction b with
  | nil => intro a c0 n0; rw [List.nil_append, List.append_nil]; rfl
  | cons k b ih =>
    intro a c0 n0
    rw [List.cons_append, lookFrom_cons, lookFrom_cons]
    split_ifs
    · cases child r (a ++ [k]) c0 with
      | none => rfl
      | some x => dsimp only; rw [ih, List.append_assoc]; rfl
    · rfl

theorem lookFrom_found_child (r : Rec V) (rest : Path) : ∀ (pre : Path) (c0 : Nat) (n0 : RNode V) (c : Nat) (cur : RNode V),
    lookFrom r pre c0 n0 rest = .found c cur → rest ≠ [] → ∃ c', child r (pre ++ rest) c' = some (c, cur) := by
  induction rest with
  | nil => intro _ _ _ _ _ _ h; exact absurd rfl h
  | cons k rest ih =>
    intro pre c0 n0 c cur h _
    rw [lookFrom_cons] at h
    split_ifs at h
    cases hc : child r (pre ++ [k]) c0 with
    | none => rw [hc] at h; cases h
    | some x =>
      rw [hc] at h
      cases rest with
      | nil => cases h; exact ⟨c0, hc⟩
      | cons k' rest =>
        obtain ⟨c', h'⟩ := ih _ _ _ _ _ h (List.cons_ne_nil _ _)
        exact ⟨c', by rwa [List.append_assoc] at h'⟩

theorem lookFrom_found_props (r : Rec V) (rest : Path) : ∀ (pre : Path) (c0 : Nat) (n0 : RNode V) (c : Nat) (cur : RNode V),
    lookFrom r pre c0 n0 rest = .found c cur → c0 ≤ r.length → n0.kind.isDel = false →
    c ≤ r.length ∧ cur.kind.isDel = false := by
  intro pre c0 n0 c cur h h1 h2
  cases rest with
  | nil => cases h; exact ⟨h1, h2⟩
  | cons k rest =>
    obtain ⟨c', hc⟩ := lookFrom_found_child r _ pre c0 n0 c cur h (List.cons_ne_nil _ _)
    obtain ⟨hs, hd⟩ := (child_eq_some _ _ _ _ _).1 hc
    exact ⟨Nat.le_of_lt (scan_idx_lt _ _ _ _ _ hs), hd⟩

theorem lookFrom_found_mem (r : Rec V) (rest : Path) : ∀ (pre : Path) (c0 : Nat) (n0 : RNode V) (c : Nat) (cur : RNode V),
    lookFrom r pre c0 n0 rest = .found c cur → rest ≠ [] → ∃ cont ∈ r, aget (pre ++ rest) cont ≠ none := by
  intro pre c0 n0 c cur h hr
  obtain ⟨c', hc⟩ := lookFrom_found_child r rest pre c0 n0 c cur h hr
  exact scan_some_mem _ _ _ _ _ ((child_eq_some _ _ _ _ _).1 hc).1

theorem look_snoc (r : Rec V) (q : Path) (k : Key) :
    look r (q ++ [k]) = match look r q with
      | .found c cur =>
        if cur.kind.isGroup then
          match child r (q ++ [k]) c with
          | none => .part q [k]
          | some (i, n) => .found i n
        else .insideValue
      | .part x y => .part x (y ++ [k])
      | .insideValue => .insideValue := by
  unfold look
  rw [lookFrom_append]
  cases lookFrom r [] 0 vnode q with
  | found c cur => exact lookFrom_cons r _ c cur k []
  | _ => rfl

theorem nvFrom_append (p : Cont V) (a b c : Path) :
    nvFrom p a (b ++ c) = (nvFrom p a b || nvFrom p (a ++ b) c) := by
  induction b generalizing a with
  | nil => simp [nvFrom]
  | cons k b ih =>
    simp only [List.cons_append, nvFrom, ih, Bool.or_assoc]
    simp

theorem nvFrom_false_of_none (p : Cont V) (pre rest : Path)
    (h : ∀ s, s ≠ [] → aget (pre ++ s) p = none) : nvFrom p pre rest = false := by
  induction rest generalizing pre with
  | nil => rfl
  | cons k rest ih =>
    rw [nvFrom, h [k] (List.cons_ne_nil _ _), ih]
    · rfl
    · intro s hs
      rw [List.append_assoc]
      exact h (k :: s) (List.cons_ne_nil _ _)

theorem nvPrefix_concat (p : Cont V) (q : Path) (k : Key) :
    nvPrefix p (q ++ [k]) = (nvPrefix p q || match aget (q ++ [k]) p with
      | some n => !n.kind.isVirtual
      | none => false) := by
  unfold nvPrefix
  rw [nvFrom_append, List.nil_append, nvFrom, nvFrom, Bool.or_false]
  rfl

theorem virtual_of_not_nv (p : Cont V) (q : Path) (n : RNode V) (hq : q ≠ [])
    (hnv : nvPrefix p q = false) (hn : aget q p = some n) : n.kind.isVirtual = true := by
  rw [← List.dropLast_concat_getLast hq] at hnv hn
  rw [nvPrefix_concat, hn, Bool.or_eq_false_iff] at hnv
  simpa using hnv.2

theorem apply_nv (p : Cont V) (t : Path → Option (NKind V)) (ta : Path → Key → Option V) (q : Path)
    (hnv : nvPrefix p q = true) :
    applyKind p t q = plainK (aget q p) ∧ ∀ k, applyAttr p ta q k = plainA (aget q p) k :=
  ⟨if_pos hnv, fun _ => if_pos hnv⟩

theorem apply_fresh (p : Cont V) (t : Path → Option (NKind V)) (ta : Path → Key → Option V) (q : Path)
    (hq : q ≠ []) (ht : t q = none) (hta : ∀ k, ta q k = none) :
    applyKind p t q = plainK (aget q p) ∧ ∀ k, applyAttr p ta q k = plainA (aget q p) k := by
  by_cases hnv : nvPrefix p q = true
  · exact apply_nv p t ta q hnv
  · unfold applyKind applyAttr
    simp only [if_neg hnv, ht, hta]
    cases hn : aget q p with
    | none => exact ⟨rfl, fun _ => rfl⟩
    | some n =>
      have hv := (isVirtual_iff _).1 (virtual_of_not_nv p q n hq (by simpa using hnv) hn)
      refine ⟨by simp [plainK, hv, plainKind], fun k => ?_⟩
      simp only [plainA, hv, plainKind, Option.bind_some]
      cases aget k n.attrs <;> rfl

theorem WF.anc {p : Cont V} (h : WF p) (s : Path) : ∀ x : Path, s ≠ [] → aget (x ++ s) p ≠ none →
    ∃ m, aget x p = some m ∧ m.kind.isGroup = true := by
  induction s with
  | nil => intro x hs; exact absurd rfl hs
  | cons k s ih =>
    intro x _ hne
    cases s with
    | nil => exact h.parent x k hne
    | cons k' s =>
      rw [List.append_cons] at hne
      obtain ⟨m, hm, _⟩ := ih (x ++ [k]) (List.cons_ne_nil _ _) hne
      exact h.parent x k (by rw [hm]; nofun)

theorem WF.below_none {p : Cont V} (h : WF p) (x s : Path) (hx : aget x p = none) :
    aget (x ++ s) p = none := by
  cases s with
  | nil => rwa [List.append_nil]
  | cons k s =>
    by_contra hne
    obtain ⟨m, hm, _⟩ := h.anc (k :: s) x (List.cons_ne_nil _ _) hne
    rw [hx] at hm; cases hm

theorem WF.below_nongroup {p : Cont V} (h : WF p) (x s : Path) (m : RNode V) (hx : aget x p = some m)
    (hg : m.kind.isGroup = false) (hs : s ≠ []) : aget (x ++ s) p = none := by
  by_contra hne
  obtain ⟨m', hm, hg'⟩ := h.anc s x hs hne
  cases hx.symm.trans hm
  rw [hg] at hg'; cases hg'

theorem WF.child_none {p : Cont V} (h : WF p) (q : Path) (k : Key)
    (hq : ∀ m, aget q p = some m → m.kind.isGroup = false) : aget (q ++ [k]) p = none := by
  by_contra hne
  obtain ⟨m, hm, hg⟩ := h.parent q k hne
  rw [hq m hm] at hg; cases hg

theorem isGroup_false_of_isDel {kd : RKind V} (h : kd.isDel = true) : kd.isGroup = false := by
  cases kd <;> first | rfl | cases h

/-- what a walk shows when at its last step only the entry `a` of container `i` counts: the node
there unless it is missing or a deletion marker -/
def Look.Top (i : Nat) (a : Option (RNode V)) : Look V → Prop
  | .found c n => c = i ∧ a = some n ∧ n.kind.isDel = false
  | _ => plainK a = none

theorem plainK_eq_none {a : Option (RNode V)} (h : plainK a = none) (m : RNode V) (hm : a = some m) :
    m.kind.isDel = true := by
  subst hm; exact (plainKind_eq_none _).1 h

theorem Look.Top.snoc {p : Cont V} {r : Rec V} (hwf : WF p) (q : Path) (k : Key)
    (h : (look (p :: r) q).Top r.length (aget q p)) :
    (look (p :: r) (q ++ [k])).Top r.length (aget (q ++ [k]) p) := by
  rw [look_snoc]
  cases hL : look (p :: r) q with
  | found c n =>
    rw [hL] at h
    obtain ⟨rfl, ha, hd⟩ := h
    dsimp only
    split_ifs with hg
    · rw [child_top]
      cases aget (q ++ [k]) p with
      | none => exact rfl
      | some m =>
        dsimp only
        split_ifs with hmd
        · exact (plainKind_eq_none _).2 hmd
        · exact ⟨rfl, rfl, by simpa using hmd⟩
    · rw [hwf.child_none q k (fun m hm => by cases ha.symm.trans hm; simpa using hg)]; rfl
  | _ =>
    rw [hL] at h
    rw [hwf.child_none q k (fun m hm => isGroup_false_of_isDel (plainK_eq_none h m hm))]; rfl

theorem view_of_found {r : Rec V} {q : Path} {c : Nat} {n : RNode V} (h : look r q = .found c n) :
    viewKind r q = plainKind n.kind ∧ ∀ k, viewAttr r q k = attrOf r q c k := by
  unfold viewKind viewAttr; rw [h]; exact ⟨rfl, fun _ => rfl⟩

theorem view_of_not_found {r : Rec V} {q : Path} (h : ∀ c n, look r q ≠ .found c n) :
    viewKind r q = none ∧ ∀ k, viewAttr r q k = none := by
  unfold viewKind viewAttr
  cases hL : look r q with
  | found c n => exact absurd hL (h c n)
  | _ => exact ⟨rfl, fun _ => rfl⟩

theorem snoc_induction {P : Path → Prop} (nil : P []) (snoc : ∀ q k, P q → P (q ++ [k])) (q : Path) : P q := by
  rw [← q.reverse_reverse]
  induction q.reverse with
  | nil => exact nil
  | cons k t ih => rw [List.reverse_cons]; exact snoc _ k ih

/-- **The walk through `p :: r` against the walk through `r`.** As long as `p` holds only
pass-through groups on the way and the older walk arrives, the walk arrives at the same node;
from the first non-virtual entry of `p` on, or where the older containers hold nothing, only
`p` counts. -/
theorem look_cons (p : Cont V) (r : Rec V) (hwf : WF p) (hinv : InvLast p r) (q : Path) :
    (nvPrefix p q = false ∧ ∃ c n, look r q = .found c n ∧ look (p :: r) q = .found c n) ∨
    ((nvPrefix p q = true ∨ ∀ c n, look r q ≠ .found c n) ∧
      (look (p :: r) q).Top r.length (aget q p)) := by
  induction q using snoc_induction with
  | nil => exact .inl ⟨rfl, 0, vnode, rfl, rfl⟩
  | snoc q k ih =>
    rcases ih with ⟨hnv, c, n, hL, hL'⟩ | ⟨hB, htop⟩
    · obtain ⟨hc, hd⟩ := lookFrom_found_props r q [] 0 vnode c n hL (Nat.zero_le _) rfl
      have eN := nvPrefix_concat p q k
      have e := look_snoc r q k
      have e' := look_snoc (p :: r) q k
      rw [hnv, Bool.false_or] at eN
      rw [hL] at e
      rw [hL'] at e'
      dsimp only at e e'
      by_cases hg : n.kind.isGroup = true
      · rw [if_pos hg] at e e'
        rw [child_cons p r _ c hc] at e'
        cases ha' : aget (q ++ [k]) p with
        | none =>
          rw [ha'] at eN e'
          cases hcr : child r (q ++ [k]) c with
          | none =>
            rw [hcr] at e e'
            exact .inr ⟨.inr (by rw [e]; exact fun _ _ h => nomatch h), by rw [e']; exact rfl⟩
          | some x =>
            rw [hcr] at e e'
            exact .inl ⟨eN, x.1, x.2, e, e'⟩
        | some m =>
          rw [ha'] at eN e'
          dsimp only at eN e'
          cases hv : m.kind.isVirtual with
          | true =>
            rw [hv] at eN e'
            rw [if_pos rfl] at e'
            cases hs : scan (q ++ [k]) c r with
            | none =>
              have hcr : child r (q ++ [k]) c = none := by unfold child; rw [hs]
              rw [hs] at e'
              rw [hcr] at e
              refine .inr ⟨.inr (by rw [e]; exact fun _ _ h => nomatch h), ?_⟩
              rw [e']
              exact ⟨rfl, rfl, by rw [(isVirtual_iff _).1 hv]; rfl⟩
            | some x =>
              rw [hs] at e'
              cases hcr : child r (q ++ [k]) c with
              | some y =>
                rw [hcr] at e e'
                exact .inl ⟨eN, y.1, y.2, e, e'⟩
              | none =>
                -- the older containers hold a deletion marker below the carrier: excluded by the invariant
                exfalso
                have hvk : viewKind r (q ++ [k]) = none := by unfold viewKind; rw [e, hcr]
                rcases hinv (q ++ [k]) m (List.append_ne_nil_of_right_ne_nil q (List.cons_ne_nil k [])) ha' eN with h | ⟨⟨v, h⟩, _⟩ | h
                · rw [hvk] at h; cases h
                · rw [hvk] at h; cases h
                · obtain ⟨ct, hm, hne⟩ := scan_some_mem _ _ _ _ _ hs
                  exact hne (h ct hm)
          | false =>
            rw [hv] at eN e'
            rw [if_neg Bool.false_ne_true] at e'
            refine .inr ⟨.inl eN, ?_⟩
            rw [e']
            split_ifs with hmd
            · exact (plainKind_eq_none _).2 hmd
            · exact ⟨rfl, rfl, by simpa using hmd⟩
      · -- the node reached so far is a dataset: `p` holds nothing below it
        rw [if_neg hg] at e e'
        have ha' : aget (q ++ [k]) p = none := by
          cases ha : aget q p with
          | none => exact hwf.child_none q k (fun m hm => by rw [ha] at hm; cases hm)
          | some m =>
            have hq : q ≠ [] := by rintro rfl; cases hL; exact hg rfl
            rcases hinv q m hq ha hnv with h | ⟨_, h⟩ | h
            · rw [(view_of_found hL).1] at h
              exact absurd (isGroup_of_plainKind h) hg
            · exact h [k] (List.cons_ne_nil k [])
            · obtain ⟨ct, hm, hne⟩ := lookFrom_found_mem r q [] 0 vnode c n hL hq
              exact absurd (h ct hm) hne
        exact .inr ⟨.inr (by rw [e]; exact fun _ _ h => nomatch h), by rw [e', ha']; exact rfl⟩
    · refine .inr ⟨?_, htop.snoc hwf q k⟩
      rcases hB with h | h
      · left; rw [nvPrefix_concat, h]; rfl
      · right
        rw [look_snoc]
        cases hL : look r q with
        | found c n => exact absurd hL (h c n)
        | _ => exact fun _ _ h => nomatch h

theorem attrOf_cons (p : Cont V) (r : Rec V) (q : Path) (c : Nat) (k : Key) (h : c ≤ r.length) :
    attrOf (p :: r) q c k = match aget q p with
      | none => attrOf r q c k
      | some n => match aget k n.attrs with
        | some v => v
        | none => attrOf r q c k := by
  unfold attrOf
  rw [attrFind_cons q k c p r h]
  cases aget q p with
  | none => rfl
  | some n =>
    dsimp only
    cases aget k n.attrs with
    | none => rfl
    | some v => cases v <;> rfl

theorem plainA_eq_none {a : Option (RNode V)} (h : plainK a = none) (k : Key) : plainA a k = none := by
  cases a with
  | none => rfl
  | some m => unfold plainA; rw [Option.bind_some, show plainKind m.kind = none from h]; rfl

/-- Adding the container `p` on top of the record `r` is applying the patch `p` to the view of `r`
(point-wise, kinds/values and attributes). Records are newest-first: `p :: r` is `r ++ [p]` in
file order. -/
theorem view_cons (p : Cont V) (r : Rec V) (hwf : WF p) (hinv : InvLast p r) (q : Path) :
    viewKind (p :: r) q = applyKind p (viewKind r) q ∧
    ∀ k, viewAttr (p :: r) q k = applyAttr p (viewAttr r) q k := by
  rcases look_cons p r hwf hinv q with ⟨hnv, c, n, hL, hL'⟩ | ⟨hB, htop⟩
  · -- the older node, with the attributes of `p`'s pass-through group laid over it
    obtain ⟨hc, hd⟩ := lookFrom_found_props r q [] 0 vnode c n hL (Nat.zero_le _) rfl
    obtain ⟨kd, hkd⟩ := Option.ne_none_iff_exists'.1 (plainKind_ne_none_of_notDel hd)
    obtain ⟨e1, e2⟩ := view_of_found hL
    obtain ⟨e1', e2'⟩ := view_of_found hL'
    unfold applyKind applyAttr
    simp only [e1, e1', e2, e2', if_neg (ne_true_of_eq_false hnv), hkd, attrOf_cons p r q c _ hc]
    exact ⟨by cases aget q p <;> rfl, fun _ => rfl⟩
  · -- the plain reading of `p`
    have happ : applyKind p (viewKind r) q = plainK (aget q p) ∧
        ∀ k, applyAttr p (viewAttr r) q k = plainA (aget q p) k := by
      rcases hB with h | h
      · exact apply_nv p _ _ q h
      · obtain ⟨e1, e2⟩ := view_of_not_found h
        exact apply_fresh p _ _ q (by rintro rfl; exact h 0 vnode rfl) e1 e2
    rw [happ.1]
    simp only [happ.2]
    cases hL' : look (p :: r) q with
    | found c n =>
      rw [hL'] at htop
      obtain ⟨rfl, ha, hd⟩ := htop
      obtain ⟨kd, hkd⟩ := Option.ne_none_iff_exists'.1 (plainKind_ne_none_of_notDel hd)
      obtain ⟨e1, e2⟩ := view_of_found hL'
      refine ⟨by rw [e1, ha]; rfl, fun k => ?_⟩
      rw [e2, attrOf_cons p r q _ k (Nat.le_refl _), ha]
      unfold attrOf
      rw [attrFind_none_of_le q k _ r (Nat.le_refl _)]
      simp only [plainA, Option.bind_some, hkd]
      cases aget k n.attrs <;> rfl
    | _ =>
      rw [hL'] at htop
      obtain ⟨e1, e2⟩ := view_of_not_found (r := p :: r) (q := q) (by rw [hL']; exact fun _ _ h => nomatch h)
      exact ⟨e1.trans htop.symm, fun k => (e2 k).trans (plainA_eq_none htop k).symm⟩

theorem wf_init : WF (Cont.init : Cont V) :=
  ⟨⟨[], rfl⟩, by intro x k h; simp [Cont.init, aget] at h⟩

theorem aget_init (q : Path) : aget q (Cont.init : Cont V) = if q = [] then some vnode else none := by
  unfold Cont.init aget aget
  simp only [eq_comm]

theorem invLast_init (r : Rec V) : InvLast (Cont.init : Cont V) r := by
  intro x n hx hn _
  rw [aget_init, if_neg hx] at hn
  cases hn

theorem viewKind_root (r : Rec V) : viewKind r [] = some .group := rfl

/-- an empty patch container is unobservable -/
theorem view_newPatch' (r : Rec V) (q : Path) :
    viewKind (newPatch r) q = viewKind r q ∧ ∀ k, viewAttr (newPatch r) q k = viewAttr r q k := by
  obtain ⟨h1, h2⟩ := view_cons Cont.init r wf_init (invLast_init r) q
  have hnv : nvPrefix (Cont.init : Cont V) q = false :=
    nvFrom_false_of_none _ _ _ fun s hs => by rw [aget_init, if_neg (by simpa using hs)]
  unfold newPatch
  rw [h1]
  simp only [h2]
  unfold applyKind applyAttr
  simp only [hnv, aget_init]
  by_cases hq : q = []
  · subst hq; exact ⟨rfl, fun _ => rfl⟩
  · simp only [if_neg hq]; exact ⟨rfl, fun _ => rfl⟩

end MetadorModel.Overlay
