import MetadorModel.Proofs.ContainerOps
/-!
# `del group[name]`: `_destroy_meta` recursion, then removal of the node
-/
namespace MetadorModel.Container

theorem destroyGo_cons (unlink : Bool) (h : Handle) (n : String) (ns : List String) :
    Handle.destroy.go unlink h (n :: ns) =
      (h.delRaw n unlink >>= fun h' => Handle.destroy.go unlink h' ns) := by
  rw [Handle.destroy.go]

/-- What the `_destroy_meta` recursion needs to know about `_del_raw(name, _unlink)`: it keeps a
state predicate `I` (the full invariant when unlinking, only the tree part when the objects are
unlinked copies), relates the states by a transitive frame relation `F`, leaves user nodes alone and
removes exactly the object. -/
structure DelSpec (e : Env) (unlink : Bool) (I : St → Prop) (F : St → St → Prop) : Prop where
  tree : ∀ s, I s → TreeOK e s.raw
  refl : ∀ s, F s s
  trans : ∀ a b c, F a b → F b c → F a c
  del : ∀ (s : St) (h : Handle) (name : String) (st : Stored), I s → HOK s h → alGet h.objs name = some st →
    ∃ s' h', h.delRaw name unlink s = (.ok h', s') ∧ I s' ∧ HOK s' h' ∧ h'.baseDir = h.baseDir ∧
      s'.next = s.next ∧ F s s' ∧ (∀ q, isInternal q = false → get? s'.raw q = get? s.raw q) ∧
      (∀ p r u, ObjAt s'.raw p r u ↔ (ObjAt s.raw p r u ∧ p ≠ st.path))

theorem delSpec_inv {e : Env} (he : WFEnv e) : DelSpec e true (Inv e) Mono where
  tree := fun _ hi => hi.treeOK
  refl := Mono.refl
  trans := fun _ _ _ => Mono.trans
  del := fun s h name st hi hh hst => by
    obtain ⟨s', h', h1, h2, h3, h4, h5, h6, h7, h8⟩ := delRaw_spec he hi hh hst
    exact ⟨s', h', h1, h2, h3, h4, h5, h8, h6, h7⟩

theorem delSpec_tree (e : Env) : DelSpec e false (fun s => TreeOK e s.raw) TocSameMono where
  tree := fun _ h => h
  refl := fun s => ⟨⟨rfl, fun _ _ => rfl⟩, Mono.refl s⟩
  trans := fun _ _ _ h1 h2 =>
    ⟨⟨h2.1.1.trans h1.1.1, fun q hq => (h2.1.2 q hq).trans (h1.1.2 q hq)⟩, h1.2.trans h2.2⟩
  del := fun _ _ _ _ ht hh hst => delRawF_spec ht hh hst

section generic
variable {e : Env} {unlink : Bool} {I : St → Prop} {F : St → St → Prop}

/-- the loop of `MetadorMeta._destroy` over a list of (distinct, present) schema names -/
theorem destroyGo_spec (D : DelSpec e unlink I F) : ∀ (ns : List String) {s : St} {h : Handle},
    I s → HOK s h → (∀ n ∈ ns, (alGet h.objs n).isSome) → ns.Nodup →
    ∃ s', Handle.destroy.go unlink h ns s = (.ok (), s') ∧ I s' ∧ s'.next = s.next ∧ F s s' ∧
      (∀ q, isInternal q = false → get? s'.raw q = get? s.raw q) ∧
      (∀ p r u, ObjAt s'.raw p r u ↔ (ObjAt s.raw p r u ∧ ¬ (p = h.baseDir ++ [.obj r u] ∧ r.name ∈ ns))) := by
  intro ns
  induction ns with
  | nil => exact fun {s _} hi _ _ _ => ⟨s, rfl, hi, rfl, D.refl s, fun _ _ => rfl, fun p r u => by simp⟩
  | cons n ns ih =>
    intro s h hi hh hall hnd
    obtain ⟨st, hst⟩ := alGet_some_of_isSome (hall n (by simp))
    obtain ⟨s1, h1, hrun, hi1, hh1, hbase1, hnext1, hF1, huser1, hobj1⟩ := D.del s h n st hi hh hst
    obtain ⟨⟨b, m, hb, hbase, -, -⟩, hobjs, -⟩ := hh
    obtain ⟨r0, u0, hname0, rfl, hex0⟩ := (hobjs n st).mp hst
    simp only at hobj1
    have hnd' := List.nodup_cons.mp hnd
    have hall1 : ∀ n' ∈ ns, (alGet h1.objs n').isSome := by
      intro n' hn'
      obtain ⟨st', hst'⟩ := alGet_some_of_isSome (hall n' (List.mem_cons_of_mem _ hn'))
      obtain ⟨r', u', hname', rfl, hex'⟩ := (hobjs n' st').mp hst'
      have ho : ObjAt s.raw (h.baseDir ++ [.obj r' u']) r' u' :=
        ⟨b, m, hb, by rw [hbase]; simp, hex'⟩
      have hne : h.baseDir ++ [Key.obj r' u'] ≠ h.baseDir ++ [Key.obj r0 u0] := by
        intro heq
        have := (List.append_inj' heq rfl).2
        simp at this
        rw [this.1, hname0] at hname'
        exact hnd'.1 (hname' ▸ hn')
      obtain ⟨_, _, _, _, hg1⟩ := (hobj1 _ _ _).mpr ⟨ho, hne⟩
      rw [(hh1.objs n' ⟨u', r', h1.baseDir ++ [.obj r' u']⟩).mpr ⟨r', u', hname', rfl, by rw [hbase1]; exact hg1⟩]
      rfl
    obtain ⟨s', hrun', hi', hnext', hF', huser', hobj'⟩ := ih hi1 hh1 hall1 hnd'.2
    refine ⟨s', by rw [destroyGo_cons, run_bind, hrun]; exact hrun', hi', hnext'.trans hnext1,
      D.trans _ _ _ hF1 hF', fun q hq => (huser' q hq).trans (huser1 q hq), fun p r u => ?_⟩
    rw [hobj', hobj1, hbase1]
    constructor
    · rintro ⟨⟨ho, hne⟩, hno⟩
      refine ⟨ho, ?_⟩
      rintro ⟨hp, hmem⟩
      rcases List.mem_cons.mp hmem with hn | hn
      · -- same name in the same directory: the same object
        apply hne
        obtain ⟨rfl, rfl⟩ := (D.tree s hi).onename b m r u r0 u0 hb
          (by obtain ⟨_, _, _, _, hg⟩ := ho; rw [hp, hbase] at hg; simpa using hg)
          (by rw [hbase] at hex0; simpa using hex0) (hn.trans hname0.symm)
        exact hp
      · exact hno ⟨hp, hn⟩
    · rintro ⟨ho, hno⟩
      refine ⟨⟨ho, ?_⟩, fun ⟨hp, hmem⟩ => hno ⟨hp, List.mem_cons_of_mem _ hmem⟩⟩
      intro hp
      obtain ⟨b', m', hb', hp', -⟩ := ho
      have hk : Key.obj r u = Key.obj r0 u0 := by
        have h1 : (b' ++ [Key.metaDir m']) ++ [Key.obj r u] = h.baseDir ++ [Key.obj r0 u0] := by
          rw [← hp, hp']; simp
        exact (List.append_inj' h1 rfl).2 |> fun h => by simpa using h
      simp only [Key.obj.injEq] at hk
      obtain ⟨rfl, rfl⟩ := hk
      exact hno ⟨hp, by simp [hname0]⟩

/-- `MetadorMeta._destroy()` removes exactly the objects of the handle's directory -/
theorem destroy_spec (D : DelSpec e unlink I F) {s : St} {h : Handle} (hi : I s) (hh : HOK s h) :
    ∃ s', h.destroy unlink s = (.ok (), s') ∧ I s' ∧ s'.next = s.next ∧ F s s' ∧
      (∀ q, isInternal q = false → get? s'.raw q = get? s.raw q) ∧
      (∀ p r u, ObjAt s'.raw p r u ↔ (ObjAt s.raw p r u ∧ p.dropLast ≠ h.baseDir)) := by
  have hkeys : h.objs.map (·.1) = alKeys h.objs := rfl
  obtain ⟨s', hrun, hi', hnext, hF, huser, hobj⟩ := destroyGo_spec D (alKeys h.objs) hi hh
    (fun n hn => (alGet_isSome_iff _ _).mpr hn) hh.nodup
  refine ⟨s', by unfold Handle.destroy; rw [hkeys]; exact hrun, hi', hnext, hF, huser, fun p r u => ?_⟩
  rw [hobj]
  constructor
  · rintro ⟨ho, hno⟩
    refine ⟨ho, fun hd => hno ?_⟩
    obtain ⟨b', m', hb', rfl, hg⟩ := ho
    have hd' : b' ++ [Key.metaDir m'] = h.baseDir := by rw [← hd, dropLast_snoc2]
    have hp : b' ++ [Key.metaDir m', Key.obj r u] = h.baseDir ++ [Key.obj r u] := by rw [← hd']; simp
    refine ⟨hp, ?_⟩
    rw [← alGet_isSome_iff, (hh.objs r.name ⟨u, r, h.baseDir ++ [.obj r u]⟩).mpr ⟨r, u, rfl, rfl, by rw [← hp]; exact hg⟩]
    rfl
  · rintro ⟨ho, hne⟩
    refine ⟨ho, fun ⟨hp, _⟩ => hne ?_⟩
    rw [hp, List.dropLast_concat]

theorem nodeKind_congr {s s' : St} {q : Path} (h : get? s'.raw q = get? s.raw q) : nodeKind s' q = nodeKind s q := by
  simp [nodeKind, h]

/-- the loop `for child in …: child._destroy_meta()` over a fixed list of existing user nodes -/
theorem destroyNodes_spec (D : DelSpec e unlink I F) (f : Path × Bool → M Unit)
    (hf : ∀ x s, f x s = (openHandle s x.1 x.2).destroy unlink s) :
    ∀ (l : List (Path × Bool)) {s : St}, I s →
      (∀ x ∈ l, isInternal x.1 = false ∧ nodeKind s x.1 = some x.2) →
      ∃ s', forEachM l f s = (.ok (), s') ∧ I s' ∧ s'.next = s.next ∧ F s s' ∧
        (∀ q, isInternal q = false → get? s'.raw q = get? s.raw q) ∧
        (∀ p r u, ObjAt s'.raw p r u ↔ (ObjAt s.raw p r u ∧ ∀ x ∈ l, p.dropLast ≠ metaBase x.1 x.2)) := by
  intro l
  induction l with
  | nil => exact fun {s} hi _ => ⟨s, rfl, hi, rfl, D.refl s, fun _ _ => rfl, fun p r u => by simp⟩
  | cons x l ih =>
    intro s hi hl
    obtain ⟨hx1, hx2⟩ := hl x (by simp)
    obtain ⟨s1, hrun1, hi1, hnext1, hF1, huser1, hobj1⟩ := destroy_spec D hi (openHandle_HOK (D.tree s hi) hx1 hx2)
    have hl1 : ∀ y ∈ l, isInternal y.1 = false ∧ nodeKind s1 y.1 = some y.2 := by
      intro y hy
      obtain ⟨hy1, hy2⟩ := hl y (List.mem_cons_of_mem _ hy)
      exact ⟨hy1, by rw [nodeKind_congr (huser1 _ hy1)]; exact hy2⟩
    obtain ⟨s', hrun', hi', hnext', hF', huser', hobj'⟩ := ih hi1 hl1
    refine ⟨s', ?_, hi', hnext'.trans hnext1, D.trans _ _ _ hF1 hF', fun q hq => (huser' q hq).trans (huser1 q hq),
      fun p r u => ?_⟩
    · rw [forEachM_cons]
      show (f x >>= fun _ => forEachM l f) s = _
      rw [run_bind, hf, hrun1]; exact hrun'
    · rw [hobj', hobj1]
      have hb : (openHandle s x.1 x.2).baseDir = metaBase x.1 x.2 := rfl
      rw [hb]
      constructor
      · rintro ⟨⟨ho, h1⟩, h2⟩
        exact ⟨ho, fun y hy => by
          rcases List.mem_cons.mp hy with rfl | hy
          · exact h1
          · exact h2 y hy⟩
      · rintro ⟨ho, h⟩
        exact ⟨⟨ho, h x (by simp)⟩, fun y hy => h y (List.mem_cons_of_mem _ hy)⟩

end generic

def kindOf : Node → Bool
  | .grp => false
  | .ds _ => true

theorem nodeKind_eq_kindOf {s : St} {q : Path} {n : Node} (h : get? s.raw q = some n) :
    nodeKind s q = some (kindOf n) := by
  cases n <;> simp [nodeKind, h, kindOf]

theorem TreeOKx.obj_host {e : Env} {t : Tree} (ht : TreeOK e t) {p : Path} {r : SRef} {u : Nat}
    (ho : ObjAt t p r u) :
    ∃ x n, isInternal x = false ∧ get? t x = some n ∧ p = metaBase x (kindOf n) ++ [.obj r u] := by
  obtain ⟨base, m, hb, rfl, hg⟩ := ho
  have hdir := ht.pclosed (base ++ [.metaDir m]) (.obj r u) (by simpa using hg)
  rcases ht.host_ds base m hb (by rw [hdir]; simp) (fun h => h) with rfl | ⟨v, hv⟩
  · exact ⟨base, .grp, hb, ht.pclosed base (.metaDir "") (by rw [hdir]; simp), by simp [metaBase, kindOf]⟩
  · exact ⟨base ++ [.user m], .ds v, user_internal_false ht hb hv, hv, by rw [kindOf, metaBase_ds]; simp⟩

theorem mem_userNodesFrom {t : Tree} (hk : KeysOK t) {p q : Path} {d : Bool} :
    (q, d) ∈ userNodesFrom t p ↔
      ∃ n, get? t q = some n ∧ p <+: q ∧ q ≠ p ∧ isInternal (q.drop p.length) = false ∧ d = kindOf n := by
  simp only [userNodesFrom, List.mem_filterMap]
  constructor
  · rintro ⟨⟨q', n⟩, hm, hx⟩
    obtain ⟨hg, hpre, hne⟩ := (mem_descendants hk).mp hm
    simp only at hx
    split_ifs at hx with hint
    simp only [Option.some.injEq, Prod.mk.injEq] at hx
    obtain ⟨rfl, rfl⟩ := hx
    refine ⟨n, hg, hpre, hne, by simpa using hint, ?_⟩
    cases n <;> rfl
  · rintro ⟨n, hg, hpre, hne, hint, rfl⟩
    refine ⟨(q, n), (mem_descendants hk).mpr ⟨hg, hpre, hne⟩, ?_⟩
    simp only [hint, Bool.false_eq_true, if_false, Option.some.injEq, Prod.mk.injEq, true_and]
    cases n <;> rfl

theorem isInternal_of_drop {p q : Path} (hp : isInternal p = false) (hpre : p <+: q)
    (h : isInternal (q.drop p.length) = false) : isInternal q = false := by
  obtain ⟨c, rfl⟩ := hpre
  rw [isInternal_append, hp]
  simpa using h

theorem isInternal_drop {p q : Path} (hpre : p <+: q) (hq : isInternal q = false) :
    isInternal (q.drop p.length) = false := by
  obtain ⟨c, rfl⟩ := hpre
  rw [isInternal_append] at hq
  simp only [Bool.or_eq_false_iff] at hq
  simpa using hq.2

theorem prefix_of_meta {p base : Path} {m : String} {rest : Path} (hp : isInternal p = false)
    (h : p <+: base ++ .metaDir m :: rest) : p <+: base := by
  rcases List.prefix_or_prefix_of_prefix h (List.prefix_append base _) with h1 | h1
  · exact h1
  · by_cases hpb : p = base
    · rw [hpb]
    · exfalso
      obtain ⟨c, rfl⟩ := h1
      cases c with
      | nil => simp at hpb
      | cons k c =>
        have : k = .metaDir m := by
          obtain ⟨d, hd⟩ := h
          simp only [List.append_assoc, List.cons_append] at hd
          have := List.append_cancel_left hd
          simp at this
          exact this.1
        subst this
        rw [isInternal_metaDir] at hp; cases hp

/-- `_destroy_meta()` of an existing user node: afterwards no metadata object is left in the
node's own directory nor anywhere below the node -/
theorem destroyMeta_spec {e : Env} {unlink : Bool} {I : St → Prop} {F : St → St → Prop}
    (D : DelSpec e unlink I F) {s : St} (hI : I s) {p : Path} {k : Bool}
    (hp : isInternal p = false) (hk : nodeKind s p = some k) :
    ∃ s', destroyMeta p k unlink s = (.ok (), s') ∧ I s' ∧ s'.next = s.next ∧ F s s' ∧
      (∀ q, isInternal q = false → get? s'.raw q = get? s.raw q) ∧
      (∀ pp r u, ObjAt s'.raw pp r u → ObjAt s.raw pp r u ∧ pp.dropLast ≠ metaBase p k ∧ ¬ p <+: pp) ∧
      (∀ pp r u, ObjAt s.raw pp r u → ¬ p <+: pp → pp.dropLast ≠ metaBase p k → ObjAt s'.raw pp r u) := by
  have hi := D.tree s hI
  obtain ⟨s1, hrun1, hi1, hnext1, hF1, huser1, hobj1⟩ := destroy_spec D hI (openHandle_HOK hi hp hk)
  have hb : (openHandle s p k).baseDir = metaBase p k := rfl
  rw [hb] at hobj1
  cases k with
  | true =>
    refine ⟨s1, ?_, hi1, hnext1, hF1, huser1,
      fun pp r u ho => ⟨((hobj1 _ _ _).mp ho).1, ((hobj1 _ _ _).mp ho).2, ?_⟩,
      fun pp r u ho _ hd => (hobj1 _ _ _).mpr ⟨ho, hd⟩⟩
    · simp [destroyMeta, hrun1]
    · -- nothing lives below a dataset
      rintro ⟨c, rfl⟩
      obtain ⟨v, hv⟩ := nodeKind_true hk
      exact no_obj_below_ds hi.pclosed hp hv ((hobj1 _ _ _).mp ho).1
  | false =>
    have hl : ∀ x ∈ userNodesFrom s.raw p, isInternal x.1 = false ∧ nodeKind s1 x.1 = some x.2 := by
      rintro ⟨q, d⟩ hx
      obtain ⟨n, hg, hpre, hne, hint, rfl⟩ := (mem_userNodesFrom hi.keys).mp hx
      have hq := isInternal_of_drop hp hpre hint
      exact ⟨hq, by rw [nodeKind_congr (huser1 _ hq)]; exact nodeKind_eq_kindOf hg⟩
    obtain ⟨s2, hrun2, hi2, hnext2, hF2, huser2, hobj2⟩ := destroyNodes_spec D
      (fun x => do let s ← getSt; (openHandle s x.1 x.2).destroy unlink) (fun _ _ => rfl) _ hi1 hl
    refine ⟨s2, ?_, hi2, hnext2.trans hnext1, D.trans _ _ _ hF1 hF2, fun q hq => (huser2 q hq).trans (huser1 q hq),
      fun pp r u ho => ?_, fun pp r u ho hnp hd => ?_⟩
    · simp only [destroyMeta, bind, M.bind, run_getSt, hrun1, Bool.not_false, if_true]
      exact hrun2
    · obtain ⟨ho1, hno2⟩ := (hobj2 _ _ _).mp ho
      obtain ⟨ho0, hno1⟩ := (hobj1 _ _ _).mp ho1
      refine ⟨ho0, hno1, fun hpre => ?_⟩
      obtain ⟨x, n, hx, hgx, rfl⟩ := hi.obj_host ho0
      rw [List.dropLast_concat] at hno1 hno2
      -- the host node lies at or below `p`
      have hpx : p <+: x := by
        cases n with
        | grp => exact prefix_of_meta hp (by simpa [kindOf, metaBase] using hpre)
        | ds v =>
          obtain ⟨b, m, rfl, -⟩ := user_path_snoc (by rintro rfl; simp at hgx) hx
          rw [kindOf, metaBase_ds] at hpre
          exact (prefix_of_meta hp (by simpa using hpre)).trans (List.prefix_append _ _)
      by_cases hpe : x = p
      · subst hpe
        exact hno1 (by rw [Option.some.inj ((nodeKind_eq_kindOf hgx).symm.trans hk)])
      · exact hno2 (x, kindOf n) ((mem_userNodesFrom hi.keys).mpr
          ⟨n, hgx, hpx, hpe, isInternal_drop hpx hx, rfl⟩) rfl
    · -- objects elsewhere survive: every visited directory lies below `p`
      refine (hobj2 _ _ _).mpr ⟨(hobj1 _ _ _).mpr ⟨ho, hd⟩, ?_⟩
      rintro ⟨q, d⟩ hx heq
      obtain ⟨n, hg, hpre, hne, hint, rfl⟩ := (mem_userNodesFrom hi.keys).mp hx
      have hunder : p <+: metaBase q (kindOf n) := by
        cases n with
        | grp => exact hpre.trans (List.prefix_append _ _)
        | ds v =>
          have hq := isInternal_of_drop hp hpre hint
          have hq0 : q ≠ [] := by rintro rfl; exact hne (List.prefix_nil.mp hpre).symm
          obtain ⟨b, m, rfl, hb⟩ := user_path_snoc hq0 hq
          simp only [kindOf]
          rw [metaBase_ds]
          rcases prefix_snoc_iff.mp hpre with h | h
          · exact absurd h.symm hne
          · exact h.trans (List.prefix_append _ _)
      obtain ⟨base, m, hbase, rfl, hg'⟩ := ho
      apply hnp
      rw [dropLast_snoc2] at heq
      rw [snoc2_assoc, heq]
      exact hunder.trans (List.prefix_append _ _)

/-- removing a user node below which (and in whose own directory) no metadata is left -/
theorem rawDel_user_inv {e : Env} {s : St} (hi : Inv e s) {p : Path} {k : Bool} (hp : isInternal p = false)
    (hk : nodeKind s p = some k)
    (hno : ∀ pp r u, ObjAt s.raw pp r u → pp.dropLast ≠ metaBase p k ∧ ¬ p <+: pp)
    {t' : Tree} (h : rawDel s.raw p = .ok t') : Inv e ⟨t', s.c, s.next⟩ := by
  have hp0 : p ≠ [] := (rawDel_inv h).1
  -- no reserved name exists at or below `p`
  have hnone : ∀ q, isInternal q = true → p <+: q → get? s.raw q = none := by
    intro q hq hpre
    by_contra hc
    cases hg : get? s.raw q with
    | none => exact hc hg
    | some n =>
      obtain ⟨hq0, hqt⟩ := ne_toc_of_prefix hp0 (isInternal_head_ne_toc hp) hpre
      have := hi.mok.ushape q n hq0 hqt hg
      cases this with
      | user q n h' _ => rw [hq] at h'; cases h'
      | metaDir base m hb =>
        obtain ⟨-, r, u, h2⟩ := hi.mok.host base m hb (by rw [hg]; simp)
        exact (hno _ r u ⟨base, m, hb, rfl, h2⟩).2 (hpre.trans ⟨[.obj r u], by simp⟩)
      | obj base m r u tok hb =>
        exact (hno _ r u ⟨base, m, hb, rfl, by rw [hg]; simp⟩).2 hpre
  refine inv_of_user_change hi (rawDel_keys h hi.keys) (rawDel_pclosed h hi.pclosed) ?_ ?_ ?_
  · intro q hq
    rw [rawDel_get? h q]
    cases hu : under p q with
    | false => simp
    | true => simp [hnone q hq (under_iff.mp hu)]
  · intro q n hq0 hq hg
    rw [rawDel_get? h q] at hg
    split_ifs at hg
    exact (hi.mok.ushape q n hq0 (isInternal_head_ne_toc hq) hg).of_user hq
  · intro base m v hb hdir hv
    refine ⟨v, ?_⟩
    rw [rawDel_get? h]
    cases hu : under p (base ++ [.user m]) with
    | false => simpa using hv
    | true =>
      exfalso
      obtain ⟨-, r, u, h2⟩ := hi.mok.host base m hb hdir
      have ho : ObjAt s.raw (base ++ [.metaDir m, .obj r u]) r u := ⟨base, m, hb, rfl, h2⟩
      obtain ⟨hn1, hn2⟩ := hno _ r u ho
      have hpre := under_iff.mp hu
      by_cases hpe : p = base ++ [.user m]
      · -- `p` is the dataset that owns the directory
        subst hpe
        obtain rfl : k = true := Option.some.inj (hk.symm.trans (nodeKind_eq_kindOf hv))
        apply hn1
        rw [metaBase_ds, dropLast_snoc2]
      · -- `p` lies above the host group
        exact hn2 (((prefix_snoc_iff.mp hpre).resolve_left hpe).trans (List.prefix_append _ _))

/-- `del group[name]`: success or failure -/
theorem opDelete_inv {e : Env} (he : WFEnv e) {s : St} (hi : Inv e s) (p : Path) : Inv e (opDelete p s).2 := by
  unfold opDelete guardPath
  cases hint : isInternal p with
  | true => simpa [hint] using hi
  | false =>
    simp only [Bool.false_eq_true, if_false, bind, M.bind, run_pure, run_getSt]
    cases hk : nodeKind s p with
    | none => simpa using hi
    | some k =>
      obtain ⟨s1, hrun1, hi1, -, -, huser1, hno1, -⟩ := destroyMeta_spec (delSpec_inv he) hi hint hk
      simp only [run_ofOpt_some, hrun1, run_liftRaw]
      cases h : rawDel s1.raw p with
      | error err => simpa using hi1
      | ok t' =>
        exact rawDel_user_inv hi1 hint (by rw [nodeKind_congr (huser1 _ hint)]; exact hk)
          (fun pp r u ho => (hno1 pp r u ho).2) h

/-- `del group[name]` does not touch the metadata of nodes that are neither the deleted node nor
below it: their objects stay, with their bytes -/
theorem opDelete_keeps {e : Env} (he : WFEnv e) {s : St} (hi : Inv e s) (p : Path) {k : Bool}
    (hk : nodeKind s p = some k) {pp : Path} {r : SRef} {u : Nat} {tok : String}
    (ho : ObjAt s.raw pp r u) (htok : get? s.raw pp = some (.ds (.data tok)))
    (hnp : ¬ p <+: pp) (hnd : pp.dropLast ≠ metaBase p k) :
    get? (opDelete p s).2.raw pp = some (.ds (.data tok)) := by
  unfold opDelete guardPath
  cases hint : isInternal p with
  | true => simpa [hint] using htok
  | false =>
    simp only [Bool.false_eq_true, if_false, bind, M.bind, run_pure, run_getSt, hk, run_ofOpt_some]
    obtain ⟨s1, hrun1, -, -, hmono, -, -, hsurv⟩ := destroyMeta_spec (delSpec_inv he) hi hint hk
    have ho1 := hsurv pp r u ho hnp hnd
    have htok1 : get? s1.raw pp = some (.ds (.data tok)) := by
      rcases hmono pp ho.head with h | h
      · obtain ⟨_, _, _, _, hg⟩ := ho1; exact absurd h hg
      · rw [h]; exact htok
    simp only [hrun1, run_liftRaw]
    cases h : rawDel s1.raw p with
    | error err => simpa using htok1
    | ok t' =>
      simp only
      rw [rawDel_get? h pp, under_false_of_not_prefix hnp]
      simpa using htok1

theorem rawCreate_keeps {t t' : Tree} {p : Path} {n : Node} (h : rawCreate t p n = .ok t') {q : Path} {x : Node}
    (hq : get? t q = some x) : get? t' q = some x := by
  have : q ≠ p := by rintro rfl; rw [(rawCreate_inv h).2.1] at hq; cases hq
  rw [rawCreate_get? h q, if_neg this, hq]

theorem opCreateGroup_keeps {s : St} (p : Path) {q : Path} {x : Node} (hq : get? s.raw q = some x) :
    get? (opCreateGroup p s).2.raw q = some x :=
  createNode_post (fun s' => get? s'.raw q = some x) p .grp hq fun _ _ h => rawCreate_keeps h hq

theorem opCreateDataset_keeps {s : St} (p : Path) (tok : String) {q : Path} {x : Node}
    (hq : get? s.raw q = some x) : get? (opCreateDataset p tok s).2.raw q = some x :=
  createNode_post (fun s' => get? s'.raw q = some x) p _ hq fun _ _ h => rawCreate_keeps h hq

end MetadorModel.Container
