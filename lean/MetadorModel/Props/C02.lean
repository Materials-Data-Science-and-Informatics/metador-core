import MetadorModel.Proofs.RecordStub
/-!
# C02 — Committed IH5 containers are never modified again

Theorems about `MetadorModel.Record` (file-level model of `IH5Record` / `IH5MFRecord`).
A *history* is any list of API calls (`Op`); `Op.safe` excludes exactly the two calls the
property excludes: opening with the truncating mode `w` and `delete_files`.

* `frame` — a call changes no file outside the write set it reports;
* `writes_only_uncommitted_or_fresh` — under the handle invariant `Inv`, every file a safe
  call creates / removes / rewrites is a fresh container name, an uncommitted container, or
  the manifest sidecar of one of these;
* `committed_step`, `committed_frozen`, `sidecar_frozen` — hence a committed container and
  its sidecar keep their content (user block and payload, i.e. every byte) for ever, by
  induction over arbitrary histories;
* `snapshot_still_valid` — the file set committed at some point still opens (`_open`
  succeeds with the same sorted files, same manifest) and shows the same view later;
* `…_kw` — the same theorems for histories whose calls carry the optional keyword arguments
  (`OpK`: `manifest_file=`, `allow_baseless=` of the constructors, `manifest_exts=` of
  `commit_patch`; `Model/RecordKw.lean`), for every value of the keywords; `kw_default`: with
  the default values a keyworded call is the plain call;
* `…_stub` — the same theorems for histories that also leave `with` blocks (`__exit__`, with or
  without an exception: `exit_is_close`), create stubs from manifests
  (`IH5MFRecord.create_stub`, any target name, any manifest file) and call `merge_files` on
  handles that hold a stub (`OpS`, `Model/RecordStub.lean`); `stub_default`: a history without
  these is a keyworded history.
-/
namespace MetadorModel.C02
open MetadorModel.Record MetadorModel.FindFiles

/-- a committed container, or the manifest sidecar of a committed container -/
def Protected (d : Disk) (f : Name) : Prop :=
  isCommitted d f = true ∨ ∃ g, f = manifestFile g ∧ isCommitted d g = true

theorem isCommitted_iff (d : Disk) (f : Name) :
    isCommitted d f = true ↔ ∃ ub p, getF d f = some (.cont ub p) ∧ ub.hash.isSome = true := by
  unfold isCommitted
  cases h : getF d f with
  | none => simp
  | some v => cases v <;> simp

theorem touchable_not_protected {s : State} (hi : Inv s) {f : Name} (ht : Touchable s.disk f) :
    ¬ Protected s.disk f := by
  have hfresh : ∀ g, FreshCont s.disk g → isCommitted s.disk g = false := by
    intro g hg; simp [isCommitted, hg.1]
  have hunc : ∀ g, UncommittedCont s.disk g → isCommitted s.disk g = false := by
    rintro g ⟨ub, p, h, hn⟩; simp [isCommitted, h, hn]
  rintro (hp | ⟨g, rfl, hp⟩)
  · rcases ht with h | h | ⟨g, rfl, _⟩
    · rw [hfresh f h] at hp; cases hp
    · rw [hunc f h] at hp; cases hp
    · obtain ⟨ub, p, h, _⟩ := (isCommitted_iff _ _).mp hp
      exact hi.not_manifest h
  · rcases ht with h | ⟨ub, p, h, _⟩ | ⟨g', hg', h⟩
    · have := h.2; rw [manifestFile_last] at this; cases this
    · exact hi.not_manifest h
    · cases manifestFile_inj hg'
      rcases h with h | h
      · rw [hfresh g h] at hp; cases hp
      · rw [hunc g h] at hp; cases hp

theorem _root_.MetadorModel.Record.Lawful.keeps {s : State} {r : Res} (hl : Lawful s r) (hi : Inv s) {f : Name}
    (hp : Protected s.disk f) : getF r.st.disk f = getF s.disk f :=
  hl.1 f fun hf => touchable_not_protected hi ((hl.2 hi).1 f hf) hp

theorem Protected.of_keeps {d d' : Disk} (h : ∀ f, Protected d f → getF d' f = getF d f) {f : Name}
    (hp : Protected d f) : Protected d' f := by
  have hc : ∀ g, isCommitted d g = true → isCommitted d' g = true := fun g hg => by
    unfold isCommitted; rw [h g (.inl hg)]; exact hg
  exact hp.imp (hc f) (fun ⟨g, hf, hg⟩ => ⟨g, hf, hc g hg⟩)

/-- **snapshot validity** rests on the protected files alone: on a disk `d'` that keeps them, a file
list committed in `d` opens exactly as in `d` (with or without `allow_baseless`), `IH5MFRecord._open`
finds the same manifest (also when `manifest_file=` names a protected file), the view is the same -/
theorem snapshot_of_keeps {d d' : Disk} (h : ∀ f, Protected d f → getF d' f = getF d f)
    (fs : List Name) (hc : ∀ f ∈ fs, isCommitted d f = true) (rw bl : Bool)
    (mf : Option Name) (hmf : ∀ g, mf = some g → Protected d g) :
    openFilesK d' fs rw bl = openFilesK d fs rw bl ∧
    ∀ files b, openFilesK d fs rw bl = .ok (files, b) →
      loadManifestK d' files mf = loadManifestK d files mf ∧ viewFiles d' files = viewFiles d files := by
  refine ⟨openFilesK_congr _ _ _ _ _ fun f hf => h f (.inl (hc f hf)), fun files b hopen => ?_⟩
  have hnames : ∀ x ∈ files, x.1 ∈ fs := fun x hx => (openFilesK_mem hopen x.1 x.2 hx).1
  exact ⟨loadManifestK_congr _ _ _ _ (fun x hx => h _ (.inr ⟨x.1, rfl, hc _ (hnames x hx)⟩))
      (fun g hg => h g (hmf g hg)),
    viewFiles_congr _ _ _ fun x hx => payloadOf_congr (h _ (.inl (hc _ (hnames x hx))))⟩

/-! ## `with` blocks and the stub life cycle (`__exit__`, `create_stub`, merge refused on stubs)

The histories of `Model/RecordStub.lean` contain those of `Model/RecordKw.lean`, which contain those
of `Model/Record.lean` (`stub_default`, `kw_default`): the induction over histories is done here. -/

/-- leaving a `with` block, normally or by an exception, is `close(commit=True)`; a history
without exits and stubs is a keyworded history -/
theorem exit_is_close (t : StS) (e : Bool) : stepS t (.exit e) = step t.s (.close true) := by
  simp [stepS, refusedMerge, exitWith, step]

theorem stub_default (ops : List OpK) (s : State) :
    (runS { s := s } (ops.map OpS.kw)).s = runK s ops := by rw [runS_kw]

/-- **frame** with exits and stubs -/
theorem frame_stub (t : StS) (op : OpS) (g : Name) (hg : g ∉ (stepS t op).W) :
    getF (stepS t op).st.disk g = getF t.s.disk g := stepS_frame t op g hg

/-- **one step**: `create_stub` (whatever name and manifest file it is given) and `__exit__`
(whatever left the block) touch only fresh names, uncommitted containers and their sidecars -/
theorem writes_only_uncommitted_or_fresh_stub (t : StS) (op : OpS) (hi : Inv t.s) (hsafe : op.safe = true)
    (f : Name) (hf : f ∈ (stepS t op).W) :
    (getF t.s.disk f = none ∧ f.getLast? = some '5') ∨
    (∃ ub p, getF t.s.disk f = some (.cont ub p) ∧ ub.hash = none) ∨
    (∃ g, f = manifestFile g ∧
      ((getF t.s.disk g = none ∧ g.getLast? = some '5') ∨
       (∃ ub p, getF t.s.disk g = some (.cont ub p) ∧ ub.hash = none))) :=
  ((stepS_lawful t op hsafe).2 hi).1 f hf

theorem committed_step_stub (t : StS) (op : OpS) (hi : Inv t.s) (hsafe : op.safe = true) (f : Name)
    (hp : Protected t.s.disk f) : getF (afterS t op).s.disk f = getF t.s.disk f :=
  (stepS_lawful t op hsafe).keeps hi hp

theorem inv_run_stub (ops : List OpS) (t : StS) (hi : Inv t.s) (hsafe : ∀ o ∈ ops, o.safe = true) :
    Inv (runS t ops).s := by
  induction ops generalizing t with
  | nil => exact hi
  | cons o r ih =>
    exact ih _ ((stepS_lawful t o (hsafe o (by simp))).2 hi).2 (fun o' ho' => hsafe o' (by simp [ho']))

/-- **committed_frozen** for histories with `with` blocks left by exceptions and stub life cycles -/
theorem committed_frozen_stub (ops : List OpS) (t : StS) (hi : Inv t.s) (hsafe : ∀ o ∈ ops, o.safe = true)
    (f : Name) (hp : Protected t.s.disk f) : getF (runS t ops).s.disk f = getF t.s.disk f := by
  induction ops generalizing t with
  | nil => rfl
  | cons o r ih =>
    have ho := hsafe o (by simp)
    exact (ih (afterS t o) ((stepS_lawful t o ho).2 hi).2 (fun o' ho' => hsafe o' (by simp [ho']))
      (Protected.of_keeps (fun g => committed_step_stub t o hi ho g) hp)).trans (committed_step_stub t o hi ho f hp)

theorem sidecar_frozen_stub (ops : List OpS) (t : StS) (hi : Inv t.s) (hsafe : ∀ o ∈ ops, o.safe = true)
    (g : Name) (hg : isCommitted t.s.disk g = true) :
    getF (runS t ops).s.disk (manifestFile g) = getF t.s.disk (manifestFile g) :=
  committed_frozen_stub ops t hi hsafe _ (Or.inr ⟨g, rfl, hg⟩)

/-- **snapshot_still_valid**: a committed file list (a stub and the patches on it included) opens
later exactly as it did -/
theorem snapshot_still_valid_stub (ops : List OpS) (t : StS) (hi : Inv t.s) (hsafe : ∀ o ∈ ops, o.safe = true)
    (fs : List Name) (hc : ∀ f ∈ fs, isCommitted t.s.disk f = true) (rw bl : Bool) :
    openFilesK (runS t ops).s.disk fs rw bl = openFilesK t.s.disk fs rw bl ∧
    ∀ files b, openFilesK t.s.disk fs rw bl = .ok (files, b) →
      loadManifestK (runS t ops).s.disk files none = loadManifestK t.s.disk files none ∧
      viewFiles (runS t ops).s.disk files = viewFiles t.s.disk files :=
  snapshot_of_keeps (committed_frozen_stub ops t hi hsafe) fs hc rw bl none (fun _ h => nomatch h)

/-! ## Calls with optional keyword arguments (`manifest_file=`, `allow_baseless=`, `manifest_exts=`) -/

/-- with the default values of the keywords the constructor is the plain constructor, and a
history without keywords is a history of the base model -/
theorem kw_default (s : State) (c : Bool) (t : Target) (m : Mode) (ops : List Op) :
    stepK s (.openKw c t m {}) = step s (.openRec c t m) ∧ runK s (ops.map OpK.base) = run s ops :=
  ⟨openRecK_default s c t m, runK_base ops s⟩

theorem safe_kw {ops : List OpK} (h : ∀ o ∈ ops, o.safe = true) : ∀ o ∈ ops.map OpS.kw, o.safe = true := by
  intro o ho
  obtain ⟨a, ha, rfl⟩ := List.mem_map.mp ho
  exact h a ha

/-- **frame** with keywords -/
theorem frame_kw (s : State) (op : OpK) (g : Name) (hg : g ∉ (stepK s op).W) :
    getF (stepK s op).st.disk g = getF s.disk g := stepK_frame s op g hg

/-- **one step** with keywords: whatever values the keywords have (in particular whatever file
`manifest_file=` names), a safe call touches only fresh names, uncommitted containers and their sidecars -/
theorem writes_only_uncommitted_or_fresh_kw (s : State) (op : OpK) (hi : Inv s) (hsafe : op.safe = true)
    (f : Name) (hf : f ∈ (stepK s op).W) :
    (getF s.disk f = none ∧ f.getLast? = some '5') ∨
    (∃ ub p, getF s.disk f = some (.cont ub p) ∧ ub.hash = none) ∨
    (∃ g, f = manifestFile g ∧
      ((getF s.disk g = none ∧ g.getLast? = some '5') ∨
       (∃ ub p, getF s.disk g = some (.cont ub p) ∧ ub.hash = none))) :=
  ((stepK_lawful s op hsafe).2 hi).1 f hf

theorem committed_step_kw (s : State) (op : OpK) (hi : Inv s) (hsafe : op.safe = true) (f : Name)
    (hp : Protected s.disk f) : getF (stepK s op).st.disk f = getF s.disk f :=
  (stepK_lawful s op hsafe).keeps hi hp

theorem inv_run_kw (ops : List OpK) (s : State) (hi : Inv s) (hsafe : ∀ o ∈ ops, o.safe = true) :
    Inv (runK s ops) :=
  stub_default ops s ▸ inv_run_stub _ { s := s } hi (safe_kw hsafe)

/-- **committed_frozen** for histories with keyword arguments -/
theorem committed_frozen_kw (ops : List OpK) (s : State) (hi : Inv s) (hsafe : ∀ o ∈ ops, o.safe = true)
    (f : Name) (hp : Protected s.disk f) : getF (runK s ops).disk f = getF s.disk f :=
  stub_default ops s ▸ committed_frozen_stub _ { s := s } hi (safe_kw hsafe) f hp

theorem sidecar_frozen_kw (ops : List OpK) (s : State) (hi : Inv s) (hsafe : ∀ o ∈ ops, o.safe = true)
    (g : Name) (hg : isCommitted s.disk g = true) :
    getF (runK s ops).disk (manifestFile g) = getF s.disk (manifestFile g) :=
  committed_frozen_kw ops s hi hsafe _ (Or.inr ⟨g, rfl, hg⟩)

/-- **snapshot_still_valid** with keywords: a committed file list opens later exactly as it did
(with or without `allow_baseless`), and `IH5MFRecord._open` finds the same manifest — also when it
is told by `manifest_file=` to look at the sidecar of one of the committed containers. -/
theorem snapshot_still_valid_kw (ops : List OpK) (s : State) (hi : Inv s) (hsafe : ∀ o ∈ ops, o.safe = true)
    (fs : List Name) (hc : ∀ f ∈ fs, isCommitted s.disk f = true) (rw bl : Bool)
    (mf : Option Name) (hmf : ∀ g, mf = some g → Protected s.disk g) :
    openFilesK (runK s ops).disk fs rw bl = openFilesK s.disk fs rw bl ∧
    ∀ files b, openFilesK s.disk fs rw bl = .ok (files, b) →
      loadManifestK (runK s ops).disk files mf = loadManifestK s.disk files mf ∧
      viewFiles (runK s ops).disk files = viewFiles s.disk files :=
  snapshot_of_keeps (committed_frozen_kw ops s hi hsafe) fs hc rw bl mf hmf

theorem safe_base {ops : List Op} (h : ∀ o ∈ ops, o.safe = true) : ∀ o ∈ ops.map OpK.base, o.safe = true := by
  intro o ho
  obtain ⟨a, ha, rfl⟩ := List.mem_map.mp ho
  exact h a ha

/-- **frame**: whatever a call does not list in its write set is untouched (any call, any state). -/
theorem frame (s : State) (op : Op) (g : Name) (hg : g ∉ (step s op).W) :
    getF (step s op).st.disk g = getF s.disk g := step_frame s op g hg

/-- **one step**: every file a safe call touches is fresh, uncommitted, or the sidecar of such. -/
theorem writes_only_uncommitted_or_fresh (s : State) (op : Op) (hi : Inv s) (hsafe : op.safe = true)
    (f : Name) (hf : f ∈ (step s op).W) :
    (getF s.disk f = none ∧ f.getLast? = some '5') ∨
    (∃ ub p, getF s.disk f = some (.cont ub p) ∧ ub.hash = none) ∨
    (∃ g, f = manifestFile g ∧
      ((getF s.disk g = none ∧ g.getLast? = some '5') ∨
       (∃ ub p, getF s.disk g = some (.cont ub p) ∧ ub.hash = none))) :=
  ((step_lawful s op hsafe).2 hi).1 f hf

/-- a safe call leaves every committed container and every sidecar of one untouched -/
theorem committed_step (s : State) (op : Op) (hi : Inv s) (hsafe : op.safe = true) (f : Name)
    (hp : Protected s.disk f) : getF (step s op).st.disk f = getF s.disk f :=
  (step_lawful s op hsafe).keeps hi hp

/-- the invariant holds along every history of safe calls -/
theorem inv_run (ops : List Op) (s : State) (hi : Inv s) (hsafe : ∀ o ∈ ops, o.safe = true) :
    Inv (run s ops) :=
  runK_base ops s ▸ inv_run_kw _ s hi (safe_base hsafe)

/-- **committed_frozen**: in every history that never uses mode `w` / `delete_files`, a file
that is committed (or is the sidecar of a committed container) at some step has the same
content at every later step. `s` is the state at step `i`, `ops` the calls `i+1 … j`. -/
theorem committed_frozen (ops : List Op) (s : State) (hi : Inv s) (hsafe : ∀ o ∈ ops, o.safe = true)
    (f : Name) (hp : Protected s.disk f) : getF (run s ops).disk f = getF s.disk f :=
  runK_base ops s ▸ committed_frozen_kw _ s hi (safe_base hsafe) f hp

theorem run_append : ∀ (a b : List Op) (s : State), run s (a ++ b) = run (run s a) b
  | [], _, _ => rfl
  | _ :: r, b, _ => run_append r b _

/-- the same, spelled with explicit steps `i ≤ j` of one history starting anywhere -/
theorem committed_frozen_between (pre post : List Op) (s0 : State) (hi : Inv s0)
    (hsafe : ∀ o ∈ pre ++ post, o.safe = true) (f : Name) (hp : Protected (run s0 pre).disk f) :
    getF (run s0 (pre ++ post)).disk f = getF (run s0 pre).disk f := by
  rw [run_append]
  exact committed_frozen post _ (inv_run pre s0 hi (fun o ho => hsafe o (by simp [ho])))
    (fun o ho => hsafe o (by simp [ho])) f hp

/-- the manifest sidecar of a committed container is frozen as well -/
theorem sidecar_frozen (ops : List Op) (s : State) (hi : Inv s) (hsafe : ∀ o ∈ ops, o.safe = true)
    (g : Name) (hg : isCommitted s.disk g = true) :
    getF (run s ops).disk (manifestFile g) = getF s.disk (manifestFile g) :=
  committed_frozen ops s hi hsafe _ (Or.inr ⟨g, rfl, hg⟩)

/-- **snapshot_still_valid**: if all files of a list are committed at some step, then at
every later step of a history without `w` / `delete_files`, `_open` on that list gives the
very same result (same sorted containers and user blocks — in particular it succeeds if it
succeeded then), `IH5MFRecord._open` finds the same manifest, and the view is the same. -/
theorem snapshot_still_valid (ops : List Op) (s : State) (hi : Inv s) (hsafe : ∀ o ∈ ops, o.safe = true)
    (fs : List Name) (hc : ∀ f ∈ fs, isCommitted s.disk f = true) (rw : Bool) :
    openFiles (run s ops).disk fs rw = openFiles s.disk fs rw ∧
    ∀ files b, openFiles s.disk fs rw = .ok (files, b) →
      loadManifest (run s ops).disk files = loadManifest s.disk files ∧
      viewFiles (run s ops).disk files = viewFiles s.disk files := by
  simpa only [openFilesK_false, loadManifestK_none] using
    snapshot_of_keeps (committed_frozen ops s hi hsafe) fs hc rw false none (fun _ h => nomatch h)

/-! ## Non-vacuity: concrete histories meet the hypotheses -/

def foo : Name := ['f', 'o', 'o']
def bar : Name := ['b', 'a', 'r']

/-- create `foo` (manifest class), write, commit, new patch, write, commit -/
def hist1 : List Op :=
  [.openRec true (.name foo) .x, .write 1, .commitPatch, .createPatch, .write 2, .commitPatch]

/-- later calls: write refused, new patch, write, discard, merge, close, reopen `r+`, write, close -/
def hist2 : List Op :=
  [.write 3, .createPatch, .write 4, .discardPatch, .merge bar, .close true,
   .openRec false (.name foo) .rp, .write 5, .close true]

theorem inv_init : Inv {} :=
  ⟨by intro f ub p h; simp [getF] at h, by intro h; simp [hasWritable] at h⟩

example : ∀ o ∈ hist1 ++ hist2, o.safe = true := by decide

/-- after `hist1` both containers and both sidecars exist and are committed … -/
example : isCommitted (run {} hist1).disk (baseFile foo) = true ∧
    isCommitted (run {} hist1).disk (patchFile foo 1) = true ∧
    (getF (run {} hist1).disk (manifestFile (patchFile foo 1))).isSome = true := by decide

/-- … the later history does create, rewrite and remove files (it is not a no-op) … -/
example : names (run {} (hist1 ++ hist2)).disk ≠ names (run {} hist1).disk := by decide

/-- … and the committed base is bit-identical afterwards (instance of `committed_frozen_between`). -/
example : getF (run {} (hist1 ++ hist2)).disk (baseFile foo) = getF (run {} hist1).disk (baseFile foo) :=
  committed_frozen_between hist1 hist2 {} inv_init (by decide) _ (Or.inl (by decide))

/-- the snapshot `[foo.p1.ih5, foo.ih5]` (any order) opens after `hist1` … -/
example : (match openFiles (run {} hist1).disk [patchFile foo 1, baseFile foo] false with
    | .ok (files, _) => viewFiles (run {} hist1).disk files == [1, 2]
    | .error _ => false) = true := by decide

/-- after `hist1`: close, reopen for patching while naming the sidecar of the newest committed
container explicitly, write, commit, close; then open the patches without the base
(`allow_baseless`), read only -/
def hist3 : List OpK :=
  [.base (.close true),
   .openKw true (.name foo) .rp { mfile := some (manifestFile (patchFile foo 1)) },
   .base (.write 3), .commitExts, .base (.close true),
   .openKw true (.list [patchFile foo 2, patchFile foo 1]) .r { baseless := true }]

example : ∀ o ∈ hist1.map OpK.base ++ hist3, o.safe = true := by decide

/-- the keyworded history commits a third container with its own new sidecar … -/
example : isCommitted (runK {} (hist1.map OpK.base ++ hist3)).disk (patchFile foo 2) = true ∧
    (getF (runK {} (hist1.map OpK.base ++ hist3)).disk (manifestFile (patchFile foo 2))).isSome = true ∧
    (getF (runK {} (hist1.map OpK.base)).disk (manifestFile (patchFile foo 2))).isSome = false := by decide

/-- … the sidecar that was named by `manifest_file=` is bit-identical afterwards … -/
example : getF (runK (runK {} (hist1.map OpK.base)) hist3).disk (manifestFile (patchFile foo 1)) =
    getF (runK {} (hist1.map OpK.base)).disk (manifestFile (patchFile foo 1)) :=
  sidecar_frozen_kw hist3 _ (inv_run_kw _ _ inv_init (by decide)) (by decide) _ (by decide)

/-- … the baseless open at the end succeeded and shows the two patches only; without the
keyword the same list is refused; a `manifest_file=` naming an older sidecar is refused. -/
example : view (runK {} (hist1.map OpK.base ++ hist3)) = [2, 3] ∧
    (stepK (runK {} (hist1.map OpK.base ++ [.base (.close true)]))
      (.openKw true (.list [patchFile foo 1]) .r {})).out = .valueError ∧
    (stepK (runK {} (hist1.map OpK.base ++ [.base (.close true)]))
      (.openKw true (.name foo) .rp { mfile := some (manifestFile (baseFile foo)) })).out = .valueError := by decide

def st : Name := ['s', 't']

/-- after `hist1`: leave the block by an exception; a stub `st` from the newest manifest of `foo`;
a patch with data committed on it inside a block that is then left by an exception; the source
gets a new patch; `create_stub` again at `st` (from the newer manifest) and at `foo` -/
def hist4 : List OpS :=
  [.exit true, .createStub st (manifestFile (patchFile foo 1)),
   .kw (.base .createPatch), .kw (.base (.write 7)), .kw (.base .commitPatch), .exit true,
   .kw (.base (.openRec true (.name foo) .rp)), .kw (.base (.write 8)), .exit false,
   .createStub st (manifestFile (patchFile foo 2)), .createStub foo (manifestFile (patchFile foo 2))]

def afterHist1 : StS := { s := run {} hist1 }

example : ∀ o ∈ hist4, o.safe = true := by decide

/-- the stub stands for `foo.p1` (patch index 1, all ids visible), the patch on it is committed
(`st.p2.ih5` with its sidecar), both later `create_stub` calls are refused … -/
example : isCommitted (runS afterHist1 hist4).s.disk (baseFile st) = true ∧
    isCommitted (runS afterHist1 hist4).s.disk (patchFile st 2) = true ∧
    (getF (runS afterHist1 hist4).s.disk (manifestFile (patchFile st 2))).isSome = true ∧
    payloadOf (runS afterHist1 hist4).s.disk (baseFile st) = some [1, 2] ∧
    (stepS (runS afterHist1 (hist4.take 9)) (.createStub st (manifestFile (patchFile foo 2)))).out = .fileExists ∧
    (stepS (runS afterHist1 (hist4.take 10)) (.createStub foo (manifestFile (patchFile foo 2)))).out = .fileExists ∧
    (stepS (runS afterHist1 (hist4.take 5)) (.kw (.base (.merge bar)))).out = .valueError := by decide

/-- … and the stub base, committed after four calls of `hist4`, is bit-identical at the end
(instance of `committed_frozen_stub`), as is the sidecar of the patch committed on it -/
example : getF (runS (runS afterHist1 (hist4.take 2)) (hist4.drop 2)).s.disk (baseFile st) =
    getF (runS afterHist1 (hist4.take 2)).s.disk (baseFile st) :=
  committed_frozen_stub _ _ (inv_run_stub _ _ (inv_run _ _ inv_init (by decide)) (by decide)) (by decide) _
    (Or.inl (by decide))

example : getF (runS (runS afterHist1 (hist4.take 5)) (hist4.drop 5)).s.disk (manifestFile (patchFile st 2)) =
    getF (runS afterHist1 (hist4.take 5)).s.disk (manifestFile (patchFile st 2)) :=
  sidecar_frozen_stub _ _ (inv_run_stub _ _ (inv_run _ _ inv_init (by decide)) (by decide)) (by decide) _ (by decide)

/-- the hypothesis `safe` is needed: mode `w` does rewrite a committed base (allowed by the
property; shows that the frozen-ness theorems do not hold vacuously for all calls). -/
theorem unsafe_w_can_modify :
    ∃ s : State, Inv s ∧ isCommitted s.disk (baseFile foo) = true ∧
      getF (step s (.openRec false (.name foo) .w)).st.disk (baseFile foo) ≠ getF s.disk (baseFile foo) :=
  ⟨run {} (hist1 ++ [.close true]), inv_run _ _ inv_init (by decide), by decide, by decide⟩

end MetadorModel.C02
