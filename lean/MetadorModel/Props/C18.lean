import MetadorModel.Proofs.DiffOrder
import MetadorModel.Proofs.DiffReport
/-!
# C18 — Directory diffs are exact and safely ordered

Property theorems about `MetadorModel.Diff` (model of `DiffNode.compare / nodes / status`,
`DirDiff.get`). Helper lemmas live in `Proofs/Diff*.lean`.

A directory snapshot is a `DirTree` whose directories are key-sorted association lists (`wf`):
the canonical form of a nested Python dict (unique keys, no order). `lookup t p` is the entry
of `t` at the relative path `p` (`none` when there is none); two snapshots are equal iff all
their lookups agree.
-/
namespace MetadorModel.C18
open MetadorModel MetadorModel.Diff

/-! ## no difference is reported exactly for equal snapshots -/

theorem compare_none_iff (a b : DirTree) (ha : a.wf = true) (hb : b.wf = true) :
    compare a b = none ↔ a = b :=
  ⟨cmp_none.1 a [] b ha hb, fun h => h ▸ cmp_self.1 a [] ha⟩

theorem compare_none_iff_lookup (a b : DirTree) (ha : a.wf = true) (hb : b.wf = true) :
    compare a b = none ↔ ∀ p, lookup a p = lookup b p := by
  rw [compare_none_iff a b ha hb]
  constructor
  · intro h p; rw [h]
  · intro h
    have := h []
    simpa [lookup] using this

/-! ## the reported paths are exactly the changed ones, with status and both entries -/

theorem reported_exact (a b : DirTree) (ha : a.wf = true) (hb : b.wf = true) :
    (∀ p, (∃ r ∈ nodesO (compare a b), r.path = p) ↔ lookup a p ≠ lookup b p) ∧
    (∀ r ∈ nodesO (compare a b),
      r.prev = lookup a r.path ∧ r.curr = lookup b r.path ∧
      (r.status = .added ↔ lookup a r.path = none) ∧
      (r.status = .removed ↔ lookup b r.path = none) ∧
      (r.status = .modified ↔ (lookup a r.path).isSome = true ∧ (lookup b r.path).isSome = true)) := by
  have h := mem_N_iff (some a) (some b) ha hb
  refine ⟨(reported _ (some a) (some b) ha hb (Nat.le_refl _)).2, fun r hr => ?_⟩
  obtain ⟨h1, h2, hne⟩ := (h r).mp hr
  have h1' : r.prev = lookup a r.path := h1
  have h2' : r.curr = lookup b r.path := h2
  refine ⟨h1', h2', ?_⟩
  rw [← h1', ← h2']
  obtain ⟨path, pv, cv⟩ := r
  cases pv <;> cases cv <;> simp [Rec.status] at hne ⊢

/-- each changed path is listed once: two listed records with the same path are the same record -/
theorem reported_once (a b : DirTree) (ha : a.wf = true) (hb : b.wf = true) (r r' : Rec)
    (hr : r ∈ nodesO (compare a b)) (hr' : r' ∈ nodesO (compare a b)) (hp : r.path = r'.path) : r = r' := by
  have h := mem_N_iff (some a) (some b) ha hb
  obtain ⟨h1, h2, _⟩ := (h r).mp hr
  obtain ⟨h1', h2', _⟩ := (h r').mp hr'
  obtain ⟨path, pv, cv⟩ := r
  obtain ⟨path', pv', cv'⟩ := r'
  cases hp
  dsimp only at h1 h2 h1' h2'
  rw [h1, h2, h1', h2']

/-! ## processing the listing in order is safe and turns the old snapshot into the new one -/

/-- `applyAll` fails (`none`) as soon as a step would remove a non-empty directory or a missing
entry, add below a missing parent / below a file / over an existing entry, or treat a
non-directory as changed directory. It never fails on the listing of a comparison, and the
result is the new snapshot. (Snapshots are directories: `DirHashsums` is a dict.) -/
theorem order_safe (es fs : Entries) (ha : (DirTree.dir es).wf = true) (hb : (DirTree.dir fs).wf = true) :
    applyAll (.dir es) (nodesO (compare (.dir es) (.dir fs))) = some (.dir fs) := by
  have hx : wfO (some (.dir es)) := ha
  have hy : wfO (some (.dir fs)) := hb
  by_cases hne : some (DirTree.dir es) = some (.dir fs)
  · cases hne
    exact congrArg (applyAll _) (N_eq hx)
  · obtain ⟨X2, _, _, r12, r3⟩ := phases hx hy fun k => replaces _ _ (wfO_get hx k) (wfO_get hy k)
    have r12' : applyAll (.dir es) _ = _ := r12
    show applyAll (.dir es) (N (some (.dir es)) (some (.dir fs))) = _
    rw [N_ne hx hy hne, ← List.append_assoc, applyAll_append, r12']
    exact r3

/-! ## lookup by path agrees with the listing -/

theorem get_agrees (a b : DirTree) (ha : a.wf = true) (hb : b.wf = true) (p : Path) :
    (get (compare a b) p).map DNode.rec' =
      (nodesO (compare a b)).find? (fun r => decide (r.path = p)) := by
  have hs := getSpec p [] (some a) (some b) ha hb
  have hrep := reported_exact a b ha hb
  have hget : get (compare a b) p = getO (compareAt [] (some a) (some b)) [] p := by
    have hc : compareAt [] (some a) (some b) = Diff.compare a b := rfl
    rw [hc]
    cases Diff.compare a b <;> rfl
  rw [hget]
  simp only [lookupO, List.nil_append] at hs
  by_cases h : lookup a p = lookup b p
  · rw [hs.1 h]
    symm
    rw [Option.map_none, List.find?_eq_none]
    intro r hr hd
    have hp : r.path = p := by simpa using hd
    exact ((hrep.1 p).mp ⟨r, hr, hp⟩) h
  · rw [hs.2 h]
    cases hf : (nodesO (compare a b)).find? (fun r => decide (r.path = p)) with
    | none =>
      obtain ⟨r, hr, hp⟩ := (hrep.1 p).mpr h
      rw [List.find?_eq_none] at hf
      exact absurd (by simpa using hp) (hf r hr)
    | some r0 =>
      have hm : r0 ∈ nodesO (compare a b) := List.mem_of_find?_eq_some hf
      have hp : r0.path = p := by simpa using List.find?_some hf
      obtain ⟨h1, h2, _⟩ := hrep.2 r0 hm
      obtain ⟨path, pv, cv⟩ := r0
      simp only at hp h1 h2
      subst hp
      rw [h1, h2]

/-! ## further consequences: emptiness of the listing, reversal, undo -/

/-- `DirDiff.is_empty` (no root node) and "the listing has no record" are the same thing: a
comparison never returns a root node that lists nothing. -/
theorem listing_nil_iff (a b : DirTree) (ha : a.wf = true) (hb : b.wf = true) :
    nodesO (compare a b) = [] ↔ a = b := by
  have hrep := (reported_exact a b ha hb).1
  constructor
  · intro h
    rw [← compare_none_iff a b ha hb, compare_none_iff_lookup a b ha hb]
    intro p
    by_contra hne
    obtain ⟨r, hr, _⟩ := (hrep p).mpr hne
    rw [h] at hr
    exact absurd hr (by simp)
  · intro h
    have hc := (compare_none_iff a b ha hb).mpr h
    rw [hc]; rfl

/-- Comparing in the opposite direction reports exactly the same paths, and the record of a
path is the mirrored one: old and new entry swapped, hence `added` ↔ `removed` and `modified`
stays `modified`. -/
theorem reversed_mirror (a b : DirTree) (ha : a.wf = true) (hb : b.wf = true) :
    (∀ p, (∃ r ∈ nodesO (compare a b), r.path = p) ↔ (∃ r ∈ nodesO (compare b a), r.path = p)) ∧
    (∀ r ∈ nodesO (compare a b), ∀ r' ∈ nodesO (compare b a), r.path = r'.path →
      r'.prev = r.curr ∧ r'.curr = r.prev ∧
      (r.status = .added ↔ r'.status = .removed) ∧
      (r.status = .removed ↔ r'.status = .added) ∧
      (r.status = .modified ↔ r'.status = .modified)) := by
  have hab := reported_exact a b ha hb
  have hba := reported_exact b a hb ha
  refine ⟨fun p => ?_, ?_⟩
  · rw [hab.1 p, hba.1 p]
    exact ⟨fun h e => h e.symm, fun h e => h e.symm⟩
  · intro r hr r' hr' hp
    obtain ⟨h1, h2, hA, hR, hM⟩ := hab.2 r hr
    obtain ⟨h1', h2', hA', hR', hM'⟩ := hba.2 r' hr'
    rw [← hp] at h1' h2' hA' hR' hM'
    refine ⟨by rw [h1', h2], by rw [h2', h1], ?_, ?_, ?_⟩
    · rw [hA, hR']
    · rw [hR, hA']
    · rw [hM, hM']; exact ⟨fun h => ⟨h.2, h.1⟩, fun h => ⟨h.2, h.1⟩⟩

/-- A diff can be undone: processing the listing of the opposite comparison, in its order,
on the new snapshot gives back the old one; so doing and undoing is the identity. -/
theorem undo_roundtrip (es fs : Entries) (ha : (DirTree.dir es).wf = true) (hb : (DirTree.dir fs).wf = true) :
    (applyAll (.dir es) (nodesO (compare (.dir es) (.dir fs)))).bind
      (fun t => applyAll t (nodesO (compare (.dir fs) (.dir es)))) = some (.dir es) := by
  rw [order_safe es fs ha hb]
  exact order_safe fs es hb ha

/-- Diffs compose: processing the listing old→mid and then mid→new ends in the same snapshot
as processing the direct listing old→new. -/
theorem compose_same_result (es ms fs : Entries) (ha : (DirTree.dir es).wf = true)
    (hm : (DirTree.dir ms).wf = true) (hb : (DirTree.dir fs).wf = true) :
    (applyAll (.dir es) (nodesO (compare (.dir es) (.dir ms)))).bind
      (fun t => applyAll t (nodesO (compare (.dir ms) (.dir fs)))) =
    applyAll (.dir es) (nodesO (compare (.dir es) (.dir fs))) := by
  rw [order_safe es ms ha hm, order_safe es fs ha hb]
  exact order_safe ms fs hm hb

/-! ## non-vacuity: a concrete pair with a removed file, a directory replaced by a file, an
added directory and an unchanged file -/

def exOld : DirTree :=
  .dir [("a", .file "h1"), ("b", .dir [("c", .file "h2"), ("d", .dir [])]), ("u", .file "h3")]
def exNew : DirTree :=
  .dir [("b", .file "h4"), ("n", .dir [("m", .file "symlink:u")]), ("u", .file "h3")]

example : exOld.wf = true ∧ exNew.wf = true := by decide

/-- the listing, in order: removed `a`; below `b` first `b/c`, `b/d`, then `b` itself
(directory → file); the root; then the added `n` before `n/m` -/
example : (nodesO (compare exOld exNew)).map (fun r => (r.path, r.status)) =
    [(["a"], .removed), (["b", "c"], .removed), (["b", "d"], .removed), (["b"], .modified),
     ([], .modified), (["n"], .added), (["n", "m"], .added)] := by decide

example : (applyAll exOld (nodesO (compare exOld exNew))).isSome = true := by decide
example : (get (compare exOld exNew) ["b", "c"]).map (fun d => d.path) = some ["b", "c"] := by decide
example : (get (compare exOld exNew) ["u"]).isNone = true := by decide
example : (compare exOld exOld).isNone = true := by decide

/-- the simulator is not vacuous: removing the non-empty directory `b` first is refused -/
example : applyAll exOld [⟨["b"], some (.dir []), none⟩] = none := by decide

/-- reversal and undo on the concrete pair: the opposite listing has the mirrored statuses and
undoes the change -/
example : (nodesO (compare exNew exOld)).map (fun r => (r.path, r.status)) ≠ [] := by decide
example : (applyAll exNew (nodesO (compare exNew exOld))).isSome = true := by decide

end MetadorModel.C18
