import MetadorModel.Proofs.CrashTorn
import MetadorModel.Proofs.ChainFaults
/-!
# C11 — A crash while patching never damages what was committed

Theorems about `MetadorModel.Crash.Reach` (the crash states of `create_patch` … `commit_patch`
unfolded into file-system steps, see `Model/Crash.lean`), the concrete user-block parser of
`Model/UBlock.lean` and `validate` of `Model/Chain.lean`.

Assumed about the file system (stated in the model, not as axioms): a write to one file does
not alter another; an interrupted in-place write leaves a prefix of the new bytes followed by
the old bytes (`torn k old data = data.take k ++ old.drop k`). The payload of the container
that is being written is arbitrary (`∀ p`), so nothing is assumed about what HDF5 leaves
behind. No assumption on the hash function is needed.
-/
namespace MetadorModel.Crash
open List MetadorModel.Chain MetadorModel.UBlock

variable {P M : Type}

theorem mapM_id_perm_none {l l' : List (Option (File P M))} (hp : l ~ l') (h : l.mapM id = none) :
    l'.mapM id = none := by
  obtain ⟨-, h'⟩ | ⟨fs', rfl, -⟩ := mapM_id_cases l'
  · exact h'
  · obtain ⟨hn, -⟩ | ⟨fs, -, h2⟩ := mapM_id_cases l
    · exact absurd (hp.mem_iff.mp hn) (by simp)
    · rw [h] at h2; cases h2

end MetadorModel.Crash

namespace MetadorModel.C11
open MetadorModel.Chain MetadorModel.UBlock MetadorModel.Crash List

variable {P M : Type} (H : P → Digest) (HM : M → Digest) (mfAware : Bool)
variable {d0 d : Disk P M} {nn : Name} {uOld uNew : UBT} {pf : P}

/-- **Frame**: no step of creating, filling, committing or discarding a patch touches any file
but the new container (and its own sidecar manifest). -/
theorem crash_frame (h : Reach d0 nn uOld uNew pf d) (n : Name) (hn : n ≠ nn) :
    d.cont n = d0.cont n ∧ d.mf n = d0.mf n :=
  h.frame n hn

/-- **The committed containers, on their own, still open and show the last committed state**:
opening them on the crash disk gives exactly what it gave before the session started. -/
theorem crash_committed_opens (h : Reach d0 nn uOld uNew pf d) {ns : List Name} (hn : nn ∉ ns) :
    openRec H HM mfAware d ns = openRec H HM mfAware d0 ns := by
  unfold openRec
  rw [h.loadFile_other hn]

/-- **Torn first write** (`_new_container`): for every cut `k` the block does not load or loads
as the block that was being written. -/
theorem torn_create_classified (u : UBT) (hw : u.wf = true) (hfit : (frame SZ1024 u).length ≤ UBSIZE)
    (k : Nat) :
    (∃ e, loadUB (torn k (zeros UBSIZE) (frame SZ1024 u)) = .error e) ∨
    loadUB (torn k (zeros UBSIZE) (frame SZ1024 u)) = .ok u.toUB := by
  rcases loadUB_cases (torn k (zeros UBSIZE) (frame SZ1024 u)) with he | ⟨v, hv, hv'⟩
  · exact Or.inl he
  · cases UBlock.torn_create_classified u hw hfit k v hv
    exact Or.inr hv'

/-- **Torn commit write**: for every cut `k` of the in-place write of the committed user block over
the uncommitted one, `load` fails, or gives the old block, or gives the new block. -/
theorem torn_classified {h : List Char} (c : CommitPair uOld uNew h) (k : Nat) :
    (∃ e, loadUB (torn k (written (zeros UBSIZE) uOld) (frame SZ1024 uNew)) = .error e) ∨
    loadUB (torn k (written (zeros UBSIZE) uOld) (frame SZ1024 uNew)) = .ok uOld.toUB ∨
    loadUB (torn k (written (zeros UBSIZE) uOld) (frame SZ1024 uNew)) = .ok uNew.toUB := by
  rcases loadUB_cases (torn k (written (zeros UBSIZE) uOld) (frame SZ1024 uNew)) with he | ⟨v, hv, hv'⟩
  · exact Or.inl he
  · rcases UBlock.torn_classified c k v hv with rfl | rfl
    · exact Or.inr (Or.inl hv')
    · exact Or.inr (Or.inr hv')

/-- what the new container can look like to `_open` in a crash state: missing / unloadable, the
uncommitted block with any payload, or the committed block with the final payload -/
theorem reach_newfile {h : List Char} (c : CommitPair uOld uNew h) (hfresh : d0.cont nn = none)
    (hr : Reach d0 nn uOld uNew pf d) :
    loadFile d nn = none ∨
    (∃ p ok, loadFile d nn = some ⟨uOld.toUB, p, ok, d.mf nn⟩) ∨
    (∃ ok, loadFile d nn = some ⟨uNew.toUB, pf, ok, d.mf nn⟩) := by
  have hc : ∀ {d₁ : Disk P M} {c : CFile P}, (d₁.setC nn c).cont nn = some c := if_pos rfl
  cases hr with
  | absent => left; unfold loadFile; rw [hfresh]
  | creating n hn p ok =>
    left
    rcases loadUB_cases (zeros n) with ⟨e, he⟩ | ⟨u, hu, -⟩
    · rw [loadFile_of_cont hc, he]; rfl
    · exact absurd hu (loadUBT_zeros n u)
  | initUB k p ok =>
    rcases torn_create_classified uOld c.wfOld c.fits_old k with ⟨e, he⟩ | hok
    · left; rw [loadFile_of_cont hc, he]; rfl
    · right; left; rw [loadFile_of_cont hc, hok]; exact ⟨p, ok, rfl⟩
  | filling p ok =>
    right; left
    rw [loadFile_of_cont hc, loadUB_ok (loadUBT_written uOld c.wfOld c.fits_old)]
    exact ⟨p, ok, rfl⟩
  | committing k ok =>
    rcases torn_classified c k with ⟨e, he⟩ | hok | hok
    · left; rw [loadFile_of_cont hc, he]; rfl
    · right; left; rw [loadFile_of_cont hc, hok]; exact ⟨pf, ok, rfl⟩
    · right; right; rw [loadFile_of_cont hc, hok]; exact ⟨ok, rfl⟩
  | manifest m ok =>
    right; right
    rw [loadFile_of_cont (c := ⟨_, pf, ok⟩) (if_pos rfl), loadUB_ok (loadUBT_committed c)]
    exact ⟨ok, rfl⟩

/-- **Trichotomy.** Let `s` be the committed state (what the committed containers `ns` open as
before the session). In every crash state, opening the complete file set — in any order of
the names — either

* fails with an error, or
* gives `s` followed by the new container with **no hash** in its user block (recognisably
  uncommitted; its payload is whatever was written so far), or
* gives `s` followed by the new container with the committed user block and the final payload,
  i.e. the fully committed new state.

It never succeeds with anything else. (`hidx`: the index given by `IH5UserBlock.create` is larger
than all committed ones; `hfresh`: the new name did not exist, `create` uses mode `x`.) -/
theorem crash_trichotomy {h : List Char} (c : CommitPair uOld uNew h)
    {ns : List Name} {s : List (File P M)}
    (hs : openRec H HM mfAware d0 ns = .ok s) (hnn : nn ∉ ns) (hfresh : d0.cont nn = none)
    (hidx : ∀ g ∈ s, g.ub.idx < decVal uOld.idx)
    (hr : Reach d0 nn uOld uNew pf d) (l : List Name) (hl : l.Perm (ns ++ [nn])) :
    (∃ e, openRec H HM mfAware d l = .error e) ∨
    (∃ p ok, openRec H HM mfAware d l = .ok (s ++ [⟨uOld.toUB, p, ok, d.mf nn⟩])) ∨
    (∃ ok, openRec H HM mfAware d l = .ok (s ++ [⟨uNew.toUB, pf, ok, d.mf nn⟩])) := by
  rcases hres : openRec H HM mfAware d l with e | x
  · exact Or.inl ⟨e, rfl⟩
  · right
    obtain ⟨fs, hfs, hv⟩ := openFiles_ok H HM hs
    obtain ⟨fx, hfx, hvx⟩ := openFiles_ok H HM hres
    have hp : fx.map some ~ fs.map some ++ [loadFile d nn] := by
      rw [← hfx, ← hfs, ← hr.loadFile_other hnn, ← map_singleton, ← map_append]
      exact hl.map _
    -- the new container, once it loads, is the newest: `x` is `s` followed by it
    have finish : ∀ f : File P M, f.ub.idx = decVal uOld.idx → loadFile d nn = some f → x = s ++ [f] := by
      intro f hfi hlf
      rw [hlf, ← map_singleton, ← map_append] at hp
      have := hp.filterMap id
      rw [filterMap_map, filterMap_map] at this
      exact validate_snoc hv hvx (by simpa using this) fun g hg => hfi ▸ hidx g hg
    rcases reach_newfile c hfresh hr with hn | ⟨p, ok, hf⟩ | ⟨ok, hf⟩
    · exact absurd ((hp.mem_iff (a := none)).mpr (by simp [hn])) (by simp)
    · exact Or.inl ⟨p, ok, congrArg _ (finish _ rfl hf)⟩
    · exact Or.inr ⟨ok, congrArg _ (finish _ (congrArg decVal c.idx) hf)⟩

/-- in the second outcome the interrupted patch is recognisable: its user block has no hash -/
theorem uncommitted_recognisable {h : List Char} (c : CommitPair uOld uNew h) :
    uOld.toUB.hash = none := by
  simp [UBT.toUB, c.hashOld]

/-- in the third outcome the payload shown is the one whose hash commit stored: a state that opens
with every container committed is the state that was written -/
theorem committed_state_verified {h : List Char} (c : CommitPair uOld uNew h)
    {s : List (File P M)} {fs : List (File P M)} {ok : Bool} {m : Option M}
    (hx : validate H HM mfAware false fs = .ok (s ++ [⟨uNew.toUB, pf, ok, m⟩])) :
    h = H pf := by
  obtain ⟨-, hc⟩ := (validate_ok_iff H HM mfAware false fs _).mp hx
  have := hc.hash_mem (⟨uNew.toUB, pf, ok, m⟩ : File P M) (by simp)
  simp only [UBT.toUB, c.hashNew, HashOK] at this
  rcases this with h' | h'
  · cases h'
  · injection h'

/-! ## Opening for writing: recovery of an interrupted patch, patching on, prefixes of the file list -/

/-- **Recovery continues the interrupted session, in every writable mode.** When the complete file
set of a crash state opens with the interrupted container recognisably uncommitted (second outcome
of `crash_trichotomy`), a writable open (`"r+"` and `"a"` alike — the model has no mode argument
because the code only tests `mode != "r"`) re-opens that container; no container is created, so
nothing is ever stacked on an uncommitted patch, and the steps that follow are again crash states
of the same session (`Reach.filling` with the same `d0`, `nn`, `uOld`). -/
theorem recover_reopens {h : List Char} (c : CommitPair uOld uNew h) (next : Nat → Name)
    {s : List (File P M)} {p : P} {ok : Bool} {m : Option M} {l : List Name}
    (hx : openRec H HM mfAware d l = .ok (s ++ [⟨uOld.toUB, p, ok, m⟩])) :
    openRecW H HM mfAware next d l = .ok .reopen := by
  unfold openRecW
  rw [hx]
  simp [Except.map, writableAct, UBT.toUB, c.hashOld]

/-- a writable open re-opens an existing container for writing only if it is the newest one and
carries no hash: a committed container is never opened for writing -/
theorem reopen_only_uncommitted (next : Nat → Name) {l : List Name}
    (hx : openRecW H HM mfAware next d l = .ok .reopen) :
    ∃ s f, openRec H HM mfAware d l = .ok s ∧ s.getLast? = some f ∧ f.ub.hash = none := by
  unfold openRecW at hx
  rcases hs : openRec H HM mfAware d l with e | s
  · rw [hs] at hx; cases hx
  · rw [hs] at hx
    rcases hl : s.getLast? with _ | f
    · simp [Except.map, writableAct, hl] at hx
    · refine ⟨s, f, rfl, hl, ?_⟩
      rcases hh : f.ub.hash with _ | g
      · rfl
      · exfalso
        simp only [Except.map, writableAct, hl, hh, Option.isNone_some] at hx
        by_cases ht : (d.cont (next (f.ub.idx + 1))).isSome = true <;> simp [ht] at hx

/-- a writable open creates a container only on top of a newest container that is committed, and
only under a name that is free (`h5py.File(path, "x")`): this is `hfresh` of `crash_trichotomy`
for the session that follows, so by `crash_frame` no existing file is touched -/
theorem create_only_fresh (next : Nat → Name) {l : List Name}
    (hx : openRecW H HM mfAware next d l = .ok .create) :
    ∃ s f, openRec H HM mfAware d l = .ok s ∧ s.getLast? = some f ∧ f.ub.hash.isSome = true ∧
      d.cont (next (f.ub.idx + 1)) = none := by
  unfold openRecW at hx
  rcases hs : openRec H HM mfAware d l with e | s
  · rw [hs] at hx; cases hx
  · rw [hs] at hx
    rcases hl : s.getLast? with _ | f
    · simp [Except.map, writableAct, hl] at hx
    · refine ⟨s, f, rfl, hl, ?_⟩
      rcases hh : f.ub.hash with _ | g
      · simp [Except.map, writableAct, hl, hh] at hx
      · rcases hc : d.cont (next (f.ub.idx + 1)) with _ | x
        · simp
        · simp [Except.map, writableAct, hl, hh, hc] at hx

/-- **A writable open of a strict prefix of the file list is refused**: when the files opened end
in a committed container and the name of the next patch is taken (as it is when later containers
of the record sit in the same directory), the answer is `FileExistsError` — nothing is created,
nothing is written. -/
theorem prefix_open_refused (next : Nat → Name) {l : List Name} {s : List (File P M)} {f : File P M}
    {x : CFile P}
    (hs : openRec H HM mfAware d l = .ok s) (hl : s.getLast? = some f) (hh : f.ub.hash.isSome = true)
    (ht : d.cont (next (f.ub.idx + 1)) = some x) :
    openRecW H HM mfAware next d l = .ok .refuse := by
  unfold openRecW
  rw [hs]
  rcases hq : f.ub.hash with _ | g
  · rw [hq] at hh; cases hh
  · simp [Except.map, writableAct, hl, hq, ht]

/-! ## Non-vacuity: a concrete session on top of a committed base container -/

section Example
def uBase : UBT :=
  ⟨"00000000-0000-0000-0000-0000000000aa".toList, ['0'], "00000000-0000-0000-0000-000000000001".toList,
    none, some "sha256:00000000000000000007".toList, none⟩
def uO : UBT :=
  ⟨"00000000-0000-0000-0000-0000000000aa".toList, ['1'], "00000000-0000-0000-0000-000000000002".toList,
    some "00000000-0000-0000-0000-000000000001".toList, none, none⟩
def hN : List Char := "sha256:00000000000000000008".toList
def uN : UBT := { uO with hash := some hN }
def EH : Nat → Digest := fun p => if p = 7 then "sha256:00000000000000000007".toList else hN
def EM : Nat → Digest := fun _ => []
def xd0 : Disk Nat Nat :=
  { cont := fun n => if n = "rec.ih5" then some ⟨written (zeros UBSIZE) uBase, 7, true⟩ else none,
    mf := fun _ => none }
def fBase : File Nat Nat := { ub := uBase.toUB, payload := 7 }
/-- a commit write cut after 300 bytes -/
def xd : Disk Nat Nat :=
  xd0.setC "rec.p1.ih5" ⟨torn 300 (written (zeros UBSIZE) uO) (frame SZ1024 uN), 8, true⟩

/- The field texts are string literals; `String.toList_ofList` turns `"…".toList` into the list of
characters by a lemma, which is far cheaper than letting `decide` decode the literals. The lengths
are bounded through `drop`: evaluating `length` on 300 characters exceeds the elaborator's recursion depth. -/
theorem ex_pair : CommitPair uO uN hN := by
  have wf : uO.wf = true ∧ uN.wf = true ∧ 19 ≤ hN.length ∧ (frame SZ1024 uN).drop UBSIZE = [] := by
    unfold uN uO hN
    repeat rw [String.toList_ofList]
    decide
  -- `rw [uN]` and not `rfl`, which would decode the literals on both sides
  exact { wfOld := wf.1, wfNew := wf.2.1, hashOld := rfl, extOld := rfl, rid := by rw [uN], idx := by rw [uN],
          pid := by rw [uN], prev := by rw [uN], hashNew := rfl, hlen := wf.2.2.1,
          fits := drop_eq_nil_iff.mp wf.2.2.2 }

theorem ex_committed : openRec EH EM false xd0 ["rec.ih5"] = .ok [fBase] := by
  have wf : uBase.wf = true ∧ (frame SZ1024 uBase).drop UBSIZE = [] := by
    unfold uBase
    repeat rw [String.toList_ofList]
    decide
  have hc : xd0.cont "rec.ih5" = some ⟨written (zeros UBSIZE) uBase, 7, true⟩ := by
    simp only [xd0, if_true]
  have hl : loadFile xd0 "rec.ih5" = some fBase := by
    rw [loadFile_of_cont hc, loadUB_ok (loadUBT_written uBase wf.1 (drop_eq_nil_iff.mp wf.2))]
    rfl
  unfold openRec
  rw [map_singleton, hl]
  unfold fBase uBase EH hN
  repeat rw [String.toList_ofList]
  decide

/-- the hypotheses of `crash_trichotomy` hold for this session -/
example :
    (∃ e, openRec EH EM false xd ["rec.p1.ih5", "rec.ih5"] = .error e) ∨
    (∃ p ok, openRec EH EM false xd ["rec.p1.ih5", "rec.ih5"] =
      .ok ([fBase] ++ [⟨uO.toUB, p, ok, xd.mf "rec.p1.ih5"⟩])) ∨
    (∃ ok, openRec EH EM false xd ["rec.p1.ih5", "rec.ih5"] =
      .ok ([fBase] ++ [⟨uN.toUB, 8, ok, xd.mf "rec.p1.ih5"⟩])) :=
  crash_trichotomy EH EM false ex_pair ex_committed (nn := "rec.p1.ih5") (by decide) rfl (by decide)
    (Reach.committing 300 true) _ (Perm.swap _ _ _)
/-- patch names as made by `_next_patch_filepath` -/
def xnext (i : Nat) : Name := s!"rec.p{i}.ih5"

set_option maxRecDepth 8000 in
/-- recovery: the base alone is committed, a writable open creates `rec.p1.ih5` (the name is free) -/
example : openRecW EH EM false xnext xd0 ["rec.ih5"] = .ok .create := by
  unfold openRecW
  rw [ex_committed]
  decide

set_option maxRecDepth 8000 in
/-- strict prefix: on the crash disk `xd` the name `rec.p1.ih5` is taken, so a writable open of the
base alone is refused (`prefix_open_refused` applies) -/
example : openRecW EH EM false xnext xd ["rec.ih5"] = .ok .refuse := by
  have hr : Reach xd0 "rec.p1.ih5" uO uN 8 xd := Reach.committing 300 true
  have ho : openRec EH EM false xd ["rec.ih5"] = .ok [fBase] := by
    rw [crash_committed_opens EH EM false hr (ns := ["rec.ih5"]) (by decide)]
    exact ex_committed
  have hn : xnext (fBase.ub.idx + 1) = "rec.p1.ih5" := by decide
  refine prefix_open_refused EH EM false xnext ho (f := fBase) rfl rfl
    (x := ⟨torn 300 (written (zeros UBSIZE) uO) (frame SZ1024 uN), 8, true⟩) ?_
  rw [hn]
  simp [xd, Disk.setC]
end Example

end MetadorModel.C11
