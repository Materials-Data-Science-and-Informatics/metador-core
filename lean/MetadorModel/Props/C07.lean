import MetadorModel.Proofs.ContainerQuery
import MetadorModel.Proofs.ContainerMove
import MetadorModel.Props.C06
/-!
# C07 — Metadata comes back as stored; queries are exact

Property theorems about `MetadorMeta.__setitem__ / get / query / __contains__` and
`MetadorContainerTOC.query` of the container model (`Model/Container.lean`). All theorems are about
states satisfying the invariant `Inv e s` (kept by every operation: C06) and about handles that
agree with the tree (`HOK s h`: what `node.meta` gives for an existing user node,
`openHandle_HOK`, and what every `set` / `del` on a kept handle preserves, `metaStep_inv`).

The rule that the code implements (`Answers`): an attached object of schema `q` answers a request
for `(name, ver)` iff `q.name = name` and the version fits, or a *proper* ancestor `A` of `q`
(`A ∈ parent_path(q)`, `A ≠ q`) has `A.name = name` and its version fits; "fits" (`VerOK`) means: no
version requested, or `PluginRef(name, ver).supports(ref)` — same major, requested minor ≥ minor
of `ref` (a newer reader accepts older objects, as in `_get_raw` and `TOCSchemas.versions`).
-/
namespace MetadorModel.C07
open MetadorModel.Container

variable {e : Env} {s : St} {h : Handle}

/-! ## `get` -/

/-- Soundness of `get`: whatever `get(name, ver)` returns is an object attached to this node (its
bytes `tok` are the stored bytes), its schema answers the request (`Answers`), and it is parsed
with the class the plugin system resolves for the *requested* schema — the "parent-schema view"
when the stored schema is a descendant (that this parse succeeds is C13). -/
theorem get_sound (hi : Inv e s) (hh : HOK s h) {name : String} {ver : Option Ver} {g : GetResult}
    (hget : h.get e s name ver = .ok (some g)) :
    ∃ info q u tok, e.requireSchema name ver = .ok info ∧
      get? s.raw (h.baseDir ++ [.obj q u]) = some (.ds (.data tok)) ∧ Answers e name ver q ∧
      g = ⟨info.ref, ⟨u, q, h.baseDir ++ [.obj q u]⟩, tok⟩ := by
  unfold Handle.get at hget
  cases hreq : e.requireSchema name ver with
  | error err =>
    rw [getAll_err hreq] at hget
    split_ifs at hget <;> simp [Except.map] at hget
  | ok info =>
    rw [getAll_eq hreq] at hget
    simp only [Except.map, Except.ok.injEq] at hget
    have hmem := List.mem_of_mem_head? hget
    obtain ⟨q, u, tok, htok, ha, rfl⟩ := (mem_getAll hi hh hreq g).mp ⟨_, getAll_eq hreq, hmem⟩
    exact ⟨info, q, u, tok, rfl, htok, ha, rfl⟩

/-- Completeness of `get`: if the requested schema resolves (installed, not auxiliary) and some
attached object answers the request, `get` returns an object (a sound one, by `get_sound`). -/
theorem get_complete (hi : Inv e s) (hh : HOK s h) {name : String} {ver : Option Ver} {info : SInfo}
    (hreq : e.requireSchema name ver = .ok info) {q : SRef} {u : Nat} {tok : String}
    (htok : get? s.raw (h.baseDir ++ [.obj q u]) = some (.ds (.data tok))) (ha : Answers e name ver q) :
    ∃ g, h.get e s name ver = .ok (some g) := by
  obtain ⟨l, hl, hmem⟩ := (mem_getAll hi hh hreq _).mpr ⟨q, u, tok, htok, ha, rfl⟩
  unfold Handle.get
  rw [hl]
  cases l with
  | nil => simp at hmem
  | cons g l => exact ⟨g, rfl⟩

/-- `get` returns `None` only if no attached object answers the request -/
theorem get_none (hi : Inv e s) (hh : HOK s h) {name : String} {ver : Option Ver}
    (hget : h.get e s name ver = .ok none) :
    ¬ ∃ q u, get? s.raw (h.baseDir ++ [.obj q u]) ≠ none ∧ Answers e name ver q := by
  rintro ⟨q, u, hg, ha⟩
  have hq : q ∈ h.query s.c name ver := (mem_query hi hh name ver q).mpr ⟨⟨u, hg⟩, ha⟩
  unfold Handle.get at hget
  cases hreq : e.requireSchema name ver with
  | error err =>
    rw [getAll_err hreq] at hget
    split_ifs at hget with hnil
    · rw [hnil] at hq; simp at hq
    · simp [Except.map] at hget
  | ok info =>
    obtain ⟨tok, htok⟩ := obj_content hi hh hg
    obtain ⟨g, hg'⟩ := get_complete hi hh hreq htok ha
    unfold Handle.get at hg'
    rw [hg'] at hget; cases hget

/-- *"A metadata object attached to a node is returned equal to the stored object when requested
by its schema"*: an attached object of schema `q` is what `get(q.name, ver)` returns (stored bytes,
stored schema and uuid), for no version or any version that fits; the exact schema always wins
over child-schema instances. -/
theorem get_stored (hi : Inv e s) (hh : HOK s h) {q : SRef} {u : Nat} {tok : String}
    (htok : get? s.raw (h.baseDir ++ [.obj q u]) = some (.ds (.data tok)))
    {ver : Option Ver} (hv : VerOK q.name ver q) {info : SInfo} (hreq : e.requireSchema q.name ver = .ok info) :
    h.get e s q.name ver = .ok (some ⟨info.ref, ⟨u, q, h.baseDir ++ [.obj q u]⟩, tok⟩) :=
  get_exact hh hreq rfl hv htok

/-- … in particular through a fresh `node.meta` of the node that carries it -/
theorem get_stored_node (hi : Inv e s) {x : Path} {k : Bool} (hx : isInternal x = false)
    (hk : nodeKind s x = some k) {q : SRef} {u : Nat} {tok : String}
    (htok : get? s.raw (metaBase x k ++ [.obj q u]) = some (.ds (.data tok)))
    {ver : Option Ver} (hv : VerOK q.name ver q) {info : SInfo} (hreq : e.requireSchema q.name ver = .ok info) :
    (openHandle s x k).get e s q.name ver = .ok (some ⟨info.ref, ⟨u, q, metaBase x k ++ [.obj q u]⟩, tok⟩) :=
  get_stored hi (openHandle_HOK hi.treeOK hx hk) htok hv hreq

/-- *"… and as a valid parent-schema view when requested by any ancestor schema"*: if `A` is a
proper ancestor of the stored schema `q` and `A`'s name resolves, `get(A.name, ver)` returns an
object parsed with `A`'s resolved class; the stored object is among the admissible answers
(`getAll`; the real code picks an arbitrary one when several child-schema instances are attached,
and prefers an object of schema `A.name` itself when there is one). -/
theorem parent_view (hi : Inv e s) (hh : HOK s h) {q A : SRef} {u : Nat} {tok : String}
    (htok : get? s.raw (h.baseDir ++ [.obj q u]) = some (.ds (.data tok)))
    (hA : A ∈ ppath e q) (hne : A ≠ q) {ver : Option Ver} (hv : VerOK A.name ver A)
    {info : SInfo} (hreq : e.requireSchema A.name ver = .ok info) :
    (∃ l, h.getAll e s A.name ver = .ok l ∧ ⟨info.ref, ⟨u, q, h.baseDir ++ [.obj q u]⟩, tok⟩ ∈ l) ∧
    ∃ g, h.get e s A.name ver = .ok (some g) ∧ g.parsedAs = info.ref := by
  have ha : Answers e A.name ver q := Or.inr ⟨A, hA, hne, rfl, hv⟩
  refine ⟨(mem_getAll hi hh hreq _).mpr ⟨q, u, tok, htok, ha, rfl⟩, ?_⟩
  obtain ⟨g, hg⟩ := get_complete hi hh hreq htok ha
  obtain ⟨info', _, _, _, hreq', _, _, rfl⟩ := get_sound hi hh hg
  rw [hreq] at hreq'; cases hreq'
  exact ⟨_, hg, rfl⟩

/-- `set` on a handle: what a successful `node.meta[name] = value` leaves behind, and that `get`
then returns the stored value. -/
theorem get_after_set (he : WFEnv e) (hi : Inv e s) (hh : HOK s h) {name : String} {ver : Option Ver}
    {valid : Bool} {tok : String} {h' : Handle} {s' : St}
    (hset : h.set e name ver valid tok s = (.ok h', s')) :
    ∃ info, e.requireSchema name ver = .ok info ∧ info.ref.name = name ∧ valid = true ∧
      Inv e s' ∧ HOK s' h' ∧ h'.baseDir = h.baseDir ∧
      get? s'.raw (h.baseDir ++ [.obj info.ref s.next]) = some (.ds (.data tok)) ∧
      ∀ ver' info', VerOK name ver' info.ref → e.requireSchema name ver' = .ok info' →
        h'.get e s' name ver' =
          .ok (some ⟨info'.ref, ⟨s.next, info.ref, h.baseDir ++ [.obj info.ref s.next]⟩, tok⟩) := by
  have hgr := getRaw_none h name
  unfold Handle.set at hset
  cases hg : alGet h.objs name with
  | some st => simp [hgr, hg] at hset
  | none =>
    cases hreq : e.requireSchema name ver with
    | error err => simp [hgr, hg, hreq] at hset
    | ok info =>
      obtain ⟨hinfo, hname, -⟩ := requireSchema_ok hreq
      cases valid with
      | false => simp [hgr, hg, hreq] at hset
      | true =>
        obtain ⟨s1, h1, hrun, hinv, hhok, hbase, hget, -⟩ :=
          setRaw_spec he hi hh hinfo tok (by rw [hname]; exact hg)
        simp only [hgr, hg, Option.isSome_none, Bool.false_eq_true, if_false, hreq, Bool.not_true, bind, hrun] at hset
        cases hset
        refine ⟨info, rfl, hname, rfl, hinv, hhok, hbase, hget, fun ver' info' hv hreq' => ?_⟩
        have := get_exact hhok (q := info.ref) (u := s.next) (tok := tok) hreq' hname hv
          (by rw [hbase]; exact hget)
        rw [hbase] at this; exact this

/-! ## "… until it is deleted" -/

/-- any sequence of `set` / `del` / `get` on the node's `meta` handle that does not delete the
schema name of a stored object leaves that object in place with its bytes (whatever the outcomes
of the individual operations are); `get_stored` then applies to the resulting state -/
theorem stored_until_deleted (he : WFEnv e) (hi : Inv e s) {x : Path} {k : Bool} (hx : isInternal x = false)
    (hk : nodeKind s x = some k) (ops : List MetaOp) {q : SRef} {u : Nat} {tok : String}
    (hobj : get? s.raw (metaBase x k ++ [.obj q u]) = some (.ds (.data tok)))
    (hnd : ∀ n, MetaOp.del n ∈ ops → n ≠ q.name) :
    get? (opMeta e x ops s).2.raw (metaBase x k ++ [.obj q u]) = some (.ds (.data tok)) := by
  unfold opMeta guardPath
  simp only [hx, Bool.false_eq_true, if_false, bind, M.bind, run_pure, run_getSt, hk, run_ofOpt_some, metaSeq]
  exact metaSeq_keeps he ops hi (openHandle_HOK hi.treeOK hx hk) (h := openHandle s x k) hobj hnd

/-- creating other nodes does not touch stored objects -/
theorem stored_survives_create {p : Path} {n : Node} (hobj : get? s.raw p = some n) (q : Path) (tok : String) :
    get? (opCreateGroup q s).2.raw p = some n ∧ get? (opCreateDataset q tok s).2.raw p = some n :=
  ⟨opCreateGroup_keeps q hobj, opCreateDataset_keeps q tok hobj⟩

/-- deleting a node does not touch the objects of nodes that are neither that node nor below it -/
theorem stored_survives_delete (he : WFEnv e) (hi : Inv e s) (p : Path) {k : Bool}
    (hk : nodeKind s p = some k) {pp : Path} {r : SRef} {u : Nat} {tok : String}
    (ho : ObjAt s.raw pp r u) (htok : get? s.raw pp = some (.ds (.data tok)))
    (hnp : ¬ p <+: pp) (hnd : pp.dropLast ≠ metaBase p k) :
    get? (opDelete p s).2.raw pp = some (.ds (.data tok)) :=
  opDelete_keeps he hi p hk ho htok hnp hnd

/-- closing and reopening does not change the stored tree at all -/
theorem stored_survives_reopen : (opReopen s).2.raw = s.raw := rfl

/-- `copy` (with or without metadata, successful or failed) never changes or removes a node, a
metadata directory or a stored object that existed before: the source keeps its objects with their
bytes and uuids (the copies get fresh uuids, `C06.sync_copy`) -/
theorem stored_survives_copy (he : WFEnv e) (hi : Inv e s) (src dst : Path) (withoutMeta : Bool) {q : Path}
    {n : Node} (hqt : q.head? ≠ some .toc) (hq : get? s.raw q = some n) :
    get? (opCopy e src dst withoutMeta s).2.raw q = some n := opCopy_keeps he hi src dst withoutMeta hqt hq

/-- `move` does not touch anything outside the moved node and (for a dataset) its metadata
directory … -/
theorem stored_survives_move (hi : Inv e s) (src dst : Path) (hname : dst.getLast? ≠ some (.user ""))
    {q : Path} {n : Node} (hqt : q.head? ≠ some .toc) (hq : get? s.raw q = some n) (hns : ¬ src <+: q)
    (hnm : ∀ k, nodeKind s src = some k → ¬ metaBase src k <+: q) :
    get? (opMove e src dst s).2.raw q = some n := (opMove_spec hi src dst hname).2.1 q n hqt hq hns hnm

/-- … and a successful `move` takes the metadata along unchanged: a moved group is found with
everything below it (metadata directories and objects included) at the new place, a moved dataset
together with its metadata directory -/
theorem stored_follows_move (hi : Inv e s) (src dst : Path) (hname : dst.getLast? ≠ some (.user ""))
    (hok : (opMove e src dst s).1 = .ok ()) :
    (nodeKind s src = some false → ∀ c, get? (opMove e src dst s).2.raw (dst ++ c) = get? s.raw (src ++ c)) ∧
    (nodeKind s src = some true → get? (opMove e src dst s).2.raw dst = get? s.raw src ∧
      ∀ c, get? (opMove e src dst s).2.raw (metaBase dst true ++ c) = get? s.raw (metaBase src true ++ c)) :=
  (opMove_spec hi src dst hname).2.2 hok

/-! ## at most one object per schema; refused schemas -/

/-- *"each node holds at most one object per schema"* (state): two objects with the same schema
name in the metadata directory of one node are the same object. -/
theorem one_per_schema (hi : Inv e s) {x : Path} {k : Bool} (hx : isInternal x = false)
    (hk : nodeKind s x = some k) {r r' : SRef} {u u' : Nat}
    (h1 : get? s.raw (metaBase x k ++ [.obj r u]) ≠ none) (h2 : get? s.raw (metaBase x k ++ [.obj r' u']) ≠ none)
    (hn : r.name = r'.name) : r = r' ∧ u = u' := by
  obtain ⟨b, m, hb, hbase, -, -⟩ := (openHandle_HOK hi.treeOK hx hk).base
  have hb' : metaBase x k = b ++ [.metaDir m] := hbase
  rw [hb'] at h1 h2
  exact hi.mok.onename b m r u r' u' hb (by simpa using h1) (by simpa using h2) hn

/-- … (operation): storing a second object of a schema that is already present is refused with
`ValueError` and changes nothing. -/
theorem second_object_refused (hh : HOK s h) {name : String} {r : SRef} {u : Nat}
    (hn : r.name = name) (hg : get? s.raw (h.baseDir ++ [.obj r u]) ≠ none)
    (ver : Option Ver) (valid : Bool) (tok : String) :
    h.set e name ver valid tok s = (.error .value, s) := by
  have hst := (hh.objs name ⟨u, r, h.baseDir ++ [.obj r u]⟩).mpr ⟨r, u, hn, rfl, hg⟩
  have hgr := getRaw_none h name
  simp [Handle.set, hgr, hst]

/-- *"auxiliary or unknown schemas are refused"*: whenever the requested schema does not resolve to
an installed, non-auxiliary schema, `set` raises and leaves the container as it was -/
theorem aux_or_unknown_refused {name : String} {ver : Option Ver}
    (hbad : ∀ i, e.requireSchema name ver ≠ .ok i) (valid : Bool) (tok : String) :
    ∃ err, h.set e name ver valid tok s = (.error err, s) := by
  unfold Handle.set
  cases hg : (h.getRaw name none).isSome with
  | true => exact ⟨.value, by simp⟩
  | false =>
    cases hreq : e.requireSchema name ver with
    | error err => exact ⟨err, by simp⟩
    | ok i => exact absurd hreq (hbad i)

/-- an unknown schema (nothing installed under that name / no compatible version): `KeyError` -/
theorem unknown_refused {name : String} {ver : Option Ver} (hnew : alGet h.objs name = none)
    (hres : e.resolve name ver = none) (valid : Bool) (tok : String) :
    h.set e name ver valid tok s = (.error .key, s) := by
  have hgr := (getRaw_none h name).trans hnew
  simp [Handle.set, hgr, Env.requireSchema, hres]

/-- an auxiliary schema: `TypeError` -/
theorem aux_refused {name : String} {ver : Option Ver} (hnew : alGet h.objs name = none)
    {r : SRef} {i : SInfo} (hres : e.resolve name ver = some r) (hinfo : e.info r = some i)
    (haux : i.aux = true) (valid : Bool) (tok : String) :
    h.set e name ver valid tok s = (.error .type, s) := by
  have hgr := (getRaw_none h name).trans hnew
  simp [Handle.set, hgr, Env.requireSchema, hres, hinfo, haux]

/-! ## container- and group-level queries -/

/-- *"A container- or group-level query for a schema (optionally with a version) yields exactly the
nodes at or below the start node that carry an object of that schema or of a descendant schema in
a version-compatible release, and nothing else."* `Carries e s x name ver`: the user node `x`
exists and its metadata directory holds an object whose schema `Answers` the request. -/
theorem query_exact (hi : Inv e s) {start : Path} (hs : isInternal start = false) {name : String}
    {ver : Option Ver} {l : List Path} (h : tocQuery s start name ver = .ok l) (x : Path) :
    x ∈ l ↔ (start <+: x ∧ isInternal x = false ∧ Carries e s x name ver) :=
  tocQuery_mem hi hs h x

/-- the query succeeds exactly for a non-empty schema name and an existing start node -/
theorem query_ok_iff {start : Path} {name : String} {ver : Option Ver} :
    (∃ l, tocQuery s start name ver = .ok l) ↔ (name ≠ "" ∧ nodeKind s start ≠ none) := by
  unfold tocQuery
  by_cases hn : name = ""
  · simp [hn]
  · cases hk : nodeKind s start with
    | none => simp [hn]
    | some k => cases k <;> simp [hn]

/-! ## Non-vacuity -/

open MetadorModel.C06 in
/-- in the state after `C06.hist1` (dataset `/g/d` carries a `vt.cc` object): a container-level
query for the grandparent schema `vt.aa` finds the dataset, a query for the sibling branch does not -/
example : tocQuery (run env3 initSt hist1) [] "vt.aa" none = .ok [[.user "g", .user "d"]] ∧
    tocQuery (run env3 initSt hist1) [] "ot.dd" none = .ok [] := by decide +kernel

open MetadorModel.C06 in
/-- … and `get` by the grandparent schema yields the stored bytes parsed as `vt.aa` -/
example : ((openHandle (run env3 initSt hist1) [.user "g", .user "d"] true).get env3 (run env3 initSt hist1)
    "vt.aa" none).toOption.join.map (fun g => (g.parsedAs, g.stored.schema, g.tok)) = some (aa, cc, "t1") := by
  decide +kernel

end MetadorModel.C07
