import MetadorModel.Props.C09
import MetadorModel.Proofs.ContainerCoherent
/-!
# C09 (b) without the coherence hypothesis

`Props/C09.lean` proves reopen-unobservability from the explicit hypothesis `CacheCoherentOn P e`
and depends on the container model only. This file discharges that hypothesis with the
container invariant of C06 (`Proofs/ContainerCoherent.lean`: `cacheCoherent_ok`), for every
well-formed schema environment and every history whose operations satisfy `OpOK` (all
operations; only a `move` whose destination ends in the EMPTY node name is excluded — HDF5 has
no such names and the line driver rejects them; in the model it would leave a metadata
directory behind, `MetadorModel.C06.sync_step_needs_names`).
-/
namespace MetadorModel.C09
open MetadorModel.Container

/-- **C09 (b), closed form.** For a well-formed schema environment, reopen points inserted
anywhere into a history from a fresh container are unobservable: the caller sees the same
outcome of every operation and of every metadata sub-operation, the raw tree and the uuid
counter are equal, the caches are `CachesEqv` (so every later operation, `get` and query
behaves identically: `obsEq_congruent`). No hypothesis about the caches is left. -/
theorem reopen_unobservable {e : Env} (he : WFEnv e) {h h' : List Op} (hi : Ins isReopen h h')
    (hok : ∀ op ∈ h, OpOK op) :
    outcomes isReopen e initSt h' = outcomes isReopen e initSt h ∧
    (run e initSt h').raw = (run e initSt h).raw ∧
    (run e initSt h').next = (run e initSt h).next ∧
    CachesEqv (run e initSt h').c (run e initSt h).c :=
  reopen_unobservable_of_coherent_on (P := OpOK) trivial (cacheCoherent_ok he) hi hok

/-- non-vacuity: the example environment of `Props/C09.lean` is well-formed, every operation of
the example history is admissible, and `exHr` is `exH` with reopen points inserted — so the
theorem applies and gives, without any remaining hypothesis, … -/
theorem exEnv_wf : WFEnv exEnv := WFEnv.of_check (by decide +kernel)

example : ∀ op ∈ exH, OpOK op := by decide

example :
    outcomes isReopen exEnv initSt exHr = outcomes isReopen exEnv initSt exH ∧
    (run exEnv initSt exHr).raw = (run exEnv initSt exH).raw :=
  have h := reopen_unobservable exEnv_wf exHr_ins (by decide)
  ⟨h.1, h.2.1⟩

/-- patch boundaries and reopen points together: first drop the boundaries
(`boundaries_unobservable`, exact), then the reopen points -/
theorem boundaries_and_reopens_unobservable {e : Env} (he : WFEnv e) {h h₁ h₂ : List Op}
    (hr : Ins isReopen h h₁) (hp : Ins isPatch h₁ h₂) (hok : ∀ op ∈ h, OpOK op) :
    (run e initSt h₂).raw = (run e initSt h).raw ∧
    CachesEqv (run e initSt h₂).c (run e initSt h).c := by
  obtain ⟨_, h2⟩ := boundaries_unobservable (e := e) hp initSt
  obtain ⟨_, r1, _, r3⟩ := reopen_unobservable he hr hok
  rw [h2]
  exact ⟨r1, r3⟩

end MetadorModel.C09
