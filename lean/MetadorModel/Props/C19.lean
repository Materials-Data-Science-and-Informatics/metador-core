import MetadorModel.Proofs.HashsumsTree
import MetadorModel.Proofs.ByteStreams
/-!
# C19 — Directory hashsums identify directory content

Theorems about `Model/Hashsums.lean` (`dir_hashsums`, `rel_symlink`) and the hashing part of
`Model/Bytes.lean` (`hashsum`, `qualified_hashsum`, `file_hashsum`).

A directory is `FsTree` = resolved base path + the entries `rglob("*")` yields, **in whatever
order** (`FsTree.WF` states what `rglob` guarantees; it is invariant under permutation).
Two directories are the same for the property (`Equiv`) when at every relative path they hold
the same thing: a file with the same bytes, a symlink with the same in-directory target (as
`rel_symlink` normalises it), a directory — or nothing.

Hypotheses on `hashlib`, never axioms: `Streaming` (feeding pieces = feeding the
concatenation) and `NoCollision` restricted to the file contents of the two directories
compared.
-/
namespace MetadorModel.C19
open MetadorModel.Bytes MetadorModel.Hashsums

/-! ## Any enumeration order gives the same result -/

/-- The result (including a raised error) does not depend on the order in which `rglob`
yields the entries — hence not on creation order, directory hashing or timestamps, which can
only influence that order. -/
theorem order_independent {σ : Type} (hl : HashLib σ) (alg : Str) (base : Path)
    (l₁ l₂ : List Entry) (hwf : FsTree.WF ⟨base, l₁⟩) (hp : l₁.Perm l₂) :
    dirHashsums hl alg ⟨base, l₁⟩ = dirHashsums hl alg ⟨base, l₂⟩ := by
  let cfg : Cfg σ := ⟨hl, alg, base⟩
  have c1 := hwf.compat (valOf cfg)
  have c2 := (hwf.perm hp).compat (valOf cfg)
  unfold dirHashsums
  rw [build_root cfg l₁ c1, build_root cfg l₂ c2]
  rw [hp.all_eq, putAll_perm (hp.map (itemOf cfg)) c1]

/-! ## What the result holds -/

/-- If some entry cannot be given a value the whole call raises `ValueError`, wherever the
entry comes in the enumeration. -/
theorem rejected_of_bad_entry {σ : Type} (hl : HashLib σ) (alg : Str) (t : FsTree) (hwf : t.WF)
    (e : Entry) (he : e ∈ t.entries) (hbad : entryOk ⟨hl, alg, t.base⟩ e = false) :
    dirHashsums hl alg t = .error .valueError := by
  unfold dirHashsums
  rw [build_root _ t.entries (hwf.compat (valOf ⟨hl, alg, t.base⟩)), if_neg]
  intro h
  have := List.all_eq_true.mp h e he
  rw [hbad] at this
  cases this

/-- A symlink leading outside the directory is rejected (`ValueError`), whatever it points to
(file, directory, nothing) and wherever it lies in the tree. -/
theorem outside_symlink_rejected {σ : Type} (hl : HashLib σ) (alg : Str) (t : FsTree)
    (hwf : t.WF) (p r : Path) (c : Option Bytes) (he : ⟨p, .sym r c⟩ ∈ t.entries)
    (hout : relativeTo r t.base = none) :
    dirHashsums hl alg t = .error .valueError := by
  refine rejected_of_bad_entry hl alg t hwf _ he ?_
  simp [entryOk, entryVal, Node.isSymlink, relSymlink, hout]

/-- An algorithm outside `_hash_alg` is rejected as soon as there is a file to hash. -/
theorem unsupported_alg_rejected {σ : Type} (hl : HashLib σ) (alg : Str) (t : FsTree)
    (hwf : t.WF) (p : Path) (c : Bytes) (he : ⟨p, .file c⟩ ∈ t.entries) (halg : alg ∉ hashAlgs) :
    dirHashsums hl alg t = .error .valueError := by
  refine rejected_of_bad_entry hl alg t hwf _ he ?_
  simp [entryOk, entryVal, Node.isSymlink, Node.isFile, qualifiedHashsum,
    hashsum_unsupported hl alg halg]

/-- Every file entry of the result is `alg ++ ":" ++` the one-shot digest of the file's
bytes (`hashlib.<alg>(bytes).hexdigest()`), independent of the chunk size. -/
theorem file_entry_format {σ : Type} (hl : HashLib σ) (hs : Streaming hl) (alg : Str)
    (halg : alg ∈ hashAlgs) (t : FsTree) (hwf : t.WF) (h : HT)
    (hok : dirHashsums hl alg t = .ok h) (p : Path) (c : Bytes) (he : ⟨p, .file c⟩ ∈ t.entries) :
    h.obsAt p = some (.str (alg ++ ':' :: oneShot hl alg c)) := by
  rw [(build_obs hl alg t hwf h hok).2.1 _ he, entryObs_file ⟨hl, alg, t.base⟩ hs halg]

/-- The result holds exactly the entries of the directory: a symlink is recorded as
`"symlink:" ++` its target relative to the directory, a sub-directory (also an empty one) as a
dict, and below the root there is nothing else. -/
theorem entries_exact {σ : Type} (hl : HashLib σ) (alg : Str) (t : FsTree) (hwf : t.WF) (h : HT)
    (hok : dirHashsums hl alg t = .ok h) :
    (∀ p r c, ⟨p, .sym r c⟩ ∈ t.entries →
      ∃ tgt, relativeTo r t.base = some tgt ∧ h.obsAt p = some (.str (symlinkPrefix ++ pathStr tgt))) ∧
    (∀ p, ⟨p, .dir⟩ ∈ t.entries → h.obsAt p = some .dict) ∧
    (∀ p, p ≠ [] → t.lookup p = none → h.obsAt p = none) ∧
    h.obsAt [] = some .dict := by
  obtain ⟨hall, hobs, hnone, hroot⟩ := build_obs hl alg t hwf h hok
  refine ⟨fun p r c he => ?_, fun p he => hobs _ he, fun p hp hl' => hnone p hp (lookup_none hl'), hroot⟩
  obtain ⟨tgt, h1, h2⟩ := entryObs_sym ⟨hl, alg, t.base⟩ p r c (hall _ he)
  exact ⟨tgt, h1, (hobs _ he).trans (congrArg some h2)⟩

/-! ## Equal hashsum trees exactly for equal directories -/

/-- For two well-formed directories on which `dir_hashsums` succeeds (no symlink leads
outside): the results are equal **iff** the directories hold the same names with the same
file contents, the same in-directory symlink targets and the same (possibly empty)
sub-directories — provided SHA does not collide *on the file contents of these two
directories*. Neither direction needs anything else; "⇐" needs no hypothesis on the hash at
all. -/
theorem hashsums_injective {σ : Type} (hl : HashLib σ) (hs : Streaming hl) (alg : Str)
    (halg : alg ∈ hashAlgs) (a b : FsTree) (hwa : a.WF) (hwb : b.WF) (ha hb : HT)
    (hoka : dirHashsums hl alg a = .ok ha) (hokb : dirHashsums hl alg b = .ok hb)
    (hnc : NoCollision (oneShot hl alg) (a.files ++ b.files)) :
    ha = hb ↔ Equiv a b := by
  obtain ⟨alla, obsa, nonea, _⟩ := build_obs hl alg a hwa ha hoka
  obtain ⟨allb, obsb, noneb, _⟩ := build_obs hl alg b hwb hb hokb
  constructor
  · intro heq p
    subst heq
    unfold FsTree.view
    cases la : a.lookup p with
    | none =>
      cases lb : b.lookup p with
      | none => rfl
      | some nb =>
        have hb' := mem_of_lookup lb
        exact nomatch (obsb _ hb').symm.trans (nonea p (hwb.nonempty _ hb') (lookup_none la))
    | some na =>
      have ha' := mem_of_lookup la
      cases lb : b.lookup p with
      | none =>
        exact nomatch (obsa _ ha').symm.trans (noneb p (hwa.nonempty _ ha') (lookup_none lb))
      | some nb =>
        have hb' := mem_of_lookup lb
        refine congrArg some (content_of_obs hl hs alg halg a.base b.base p na nb (alla _ ha') (allb _ hb')
          (hwa.targets _ ha') (hwb.targets _ hb') ?_ (Option.some.inj ((obsa _ ha').symm.trans (obsb _ hb'))))
        rintro ca cb rfl rfl hd
        exact hnc ca (List.mem_append_left _ (mem_files ha')) cb
          (List.mem_append_right _ (mem_files hb')) hd
  · intro heq
    -- both results are the `put` sequences of the items, and the item lists are permutations of
    -- each other
    have sub : ∀ (x y : FsTree), x.WF → y.WF → Equiv x y → ∀ i,
        i ∈ x.entries.map (itemOf ⟨hl, alg, x.base⟩) → i ∈ y.entries.map (itemOf ⟨hl, alg, y.base⟩) := by
      intro x y hx hy hxy i hi
      obtain ⟨e, he, rfl⟩ := List.mem_map.mp hi
      have h1 := hxy e.path
      unfold FsTree.view at h1
      rw [lookup_of_mem hx he] at h1
      cases ly : y.lookup e.path with
      | none => rw [ly] at h1; cases h1
      | some ny =>
        rw [ly] at h1
        simp only [Option.map_some, Option.some.injEq] at h1
        refine List.mem_map.mpr ⟨⟨e.path, ny⟩, mem_of_lookup ly, ?_⟩
        exact (itemOf_congr hl alg x.base y.base e.path e.node ny h1).symm
    have nd : ∀ (x : FsTree), x.WF → (x.entries.map (itemOf ⟨hl, alg, x.base⟩)).Nodup := by
      intro x hx
      refine List.Nodup.of_map Item.full ?_
      rw [List.map_map, List.map_congr_left (f := Item.full ∘ itemOf ⟨hl, alg, x.base⟩) (g := Entry.path)
        fun e he => entryItem_full e _ (hx.nonempty e he) (hx.names e he)]
      exact hx.nodup
    have hperm := (List.perm_ext_iff_of_nodup (nd a hwa) (nd b hwb)).mpr
      fun i => ⟨sub a b hwa hwb heq i, sub b a hwb hwa (fun p => (heq p).symm) i⟩
    exact Except.ok.inj (((dirHashsums_ok hwa hoka).2.symm.trans
      (putAll_perm hperm (hwa.compat _) _)).trans (dirHashsums_ok hwb hokb).2)

/-! ## Hashing: standard digest, independent of chunking -/

/-- the read loop of `hashsum` with any positive chunk size leaves the hash object in the
state of a single `update` with the whole content (abstract fold, streaming as hypothesis) -/
theorem chunking_independent {σ : Type} (upd : σ → Bytes → σ)
    (hs : ∀ s a b, upd (upd s a) b = upd s (a ++ b)) (h0 : ∀ s, upd s [] = s)
    (init : σ) (n m : Nat) (hn : 0 < n) (hm : 0 < m) (bs : Bytes) :
    hashChunks upd init n bs = hashChunks upd init m bs ∧ hashChunks upd init n bs = upd init bs :=
  ⟨by rw [hashChunks_eq upd hs h0 init n hn, hashChunks_eq upd hs h0 init m hm],
   hashChunks_eq upd hs h0 init n hn bs⟩

/-- `hashsum` returns the standard digest, `qualified_hashsum` prefixes it with the algorithm
name and a colon, for every supported algorithm -/
theorem hashsum_is_standard_digest {σ : Type} (hl : HashLib σ) (hs : Streaming hl) (alg : Str)
    (halg : alg ∈ hashAlgs) (bs : Bytes) :
    hashsum hl bs alg = .ok (oneShot hl alg bs) ∧
    qualifiedHashsum hl bs alg = .ok (alg ++ ':' :: oneShot hl alg bs) :=
  ⟨hashsum_eq_oneShot hl hs alg halg bs, qualifiedHashsum_eq hl hs alg halg bs⟩

/-- "independent of … read chunking" for streams that hand out FEWER bytes than asked for
before their end (raw streams, unbuffered pipes, sockets, wrappers with a small transfer size;
`Model/ByteStreams.lean`): whatever the delivery schedule `cap` — the `i`-th `read(n)` returns the
next `min n (cap i)` bytes, at least one while bytes are left — `hashsum` returns the standard
digest of ALL bytes of the stream and `qualified_hashsum` prefixes it with the algorithm name; in
particular two schedules give the same result. -/
theorem short_reads_independent {σ : Type} (hl : HashLib σ) (hs : Streaming hl)
    (cap cap' : Nat → Nat) (hcap : ∀ i, 0 < cap i) (hcap' : ∀ i, 0 < cap' i) (alg : Str)
    (halg : alg ∈ hashAlgs) (bs : Bytes) :
    hashsumS hl cap bs alg = .ok (oneShot hl alg bs) ∧
    qualifiedHashsumS hl cap bs alg = .ok (alg ++ ':' :: oneShot hl alg bs) ∧
    hashsumS hl cap bs alg = hashsumS hl cap' bs alg ∧
    hashsumS hl cap bs alg = hashsum hl bs alg :=
  ⟨hashsumS_eq_oneShot hl hs cap hcap alg halg bs, qualifiedHashsumS_eq hl hs cap hcap alg halg bs,
   by rw [hashsumS_eq_oneShot hl hs cap hcap alg halg, hashsumS_eq_oneShot hl hs cap' hcap' alg halg],
   by rw [hashsumS_eq_oneShot hl hs cap hcap alg halg, hashsum_eq_oneShot hl hs alg halg]⟩

/-- a loop that takes a short read for the end of the stream (`if len(chunk) < n: break`) is NOT
independent of the delivery: on a stream that hands out one byte per read it hashes one byte -/
def stopAtShortRead {σ : Type} (hl : HashLib σ) (cap : Nat → Nat) : Nat → Nat → Bytes → σ → σ
  | 0, _, _, h => h
  | fuel + 1, i, data, h =>
    let chunk := data.take (min (hl.blockSize h) (cap i))
    let h' := hl.update h chunk
    if chunk.length < hl.blockSize h then h'
    else stopAtShortRead hl cap fuel (i + 1) (data.drop (min (hl.blockSize h) (cap i))) h'

/-! ## Concrete directories: examples and the pinned code -/

/-- a hash library that satisfies `Streaming` and never collides (the digest spells out the
bytes); used for the concrete examples only -/
def demoLib : HashLib Bytes where
  new _ := []
  blockSize _ := 2
  update s c := s ++ c
  hexdigest s := s.map (fun b => Char.ofNat b.toNat)

theorem demoLib_streaming : Streaming demoLib :=
  ⟨fun s a b => List.append_assoc s a b, fun s => List.append_nil s, fun _ => Nat.zero_lt_succ 1⟩

def base : Path := [['T'], ['b']]

/-- `f`, `g` (equal content `xyz`), `l -> f`, `d/`, `d/e/` (empty), `d/k -> ../g` -/
def tSym : FsTree := ⟨base,
  [⟨[['d'], ['k']], .sym [['T'], ['b'], ['g']] (some [0x78, 0x79, 0x7a])⟩,
   ⟨[['f']], .file [0x78, 0x79, 0x7a]⟩, ⟨[['g']], .file [0x78, 0x79, 0x7a]⟩,
   ⟨[['l']], .sym [['T'], ['b'], ['f']] (some [0x78, 0x79, 0x7a])⟩,
   ⟨[['d']], .dir⟩, ⟨[['d'], ['e']], .dir⟩]⟩

/-- the same with `l` a regular file holding a copy of `f` -/
def tCopy : FsTree := ⟨base,
  [⟨[['d'], ['k']], .sym [['T'], ['b'], ['g']] (some [0x78, 0x79, 0x7a])⟩,
   ⟨[['f']], .file [0x78, 0x79, 0x7a]⟩, ⟨[['g']], .file [0x78, 0x79, 0x7a]⟩,
   ⟨[['l']], .file [0x78, 0x79, 0x7a]⟩,
   ⟨[['d']], .dir⟩, ⟨[['d'], ['e']], .dir⟩]⟩

/-- the same with `l -> g` -/
def tRetarget : FsTree := ⟨base,
  [⟨[['d'], ['k']], .sym [['T'], ['b'], ['g']] (some [0x78, 0x79, 0x7a])⟩,
   ⟨[['f']], .file [0x78, 0x79, 0x7a]⟩, ⟨[['g']], .file [0x78, 0x79, 0x7a]⟩,
   ⟨[['l']], .sym [['T'], ['b'], ['g']] (some [0x78, 0x79, 0x7a])⟩,
   ⟨[['d']], .dir⟩, ⟨[['d'], ['e']], .dir⟩]⟩

/-- `l` leads to a file outside -/
def tOutside : FsTree := ⟨base,
  [⟨[['f']], .file [0x78]⟩, ⟨[['l']], .sym [['T'], ['o'], ['f']] (some [0x78])⟩]⟩

theorem tSym_wf : tSym.WF := wf_of_check _ (by decide)
theorem tCopy_wf : tCopy.WF := wf_of_check _ (by decide)
theorem tRetarget_wf : tRetarget.WF := wf_of_check _ (by decide)
theorem tOutside_wf : tOutside.WF := wf_of_check _ (by decide)

/-- observation of a result (decidable, unlike equality of nested dicts) -/
def resObs (r : Except Err HT) (p : Path) : Option (Option Obs) :=
  match r with
  | .ok h => some (h.obsAt p)
  | .error _ => none

example : resObs (dirHashsums demoLib sha256 tSym) [['l']] = some (some (.str "symlink:f".toList)) := by decide
example : resObs (dirHashsums demoLib sha256 tSym) [['d'], ['k']] = some (some (.str "symlink:g".toList)) := by decide
example : resObs (dirHashsums demoLib sha256 tSym) [['d'], ['e']] = some (some .dict) := by decide
example : resObs (dirHashsums demoLib sha256 tSym) [['f']] = some (some (.str "sha256:xyz".toList)) := by decide
example : dirHashsums demoLib sha256 tSym = dirHashsums demoLib sha256 ⟨base, tSym.entries.reverse⟩ := by rfl

/-- The pinned code (before 2d13558, `is_file()` tested first) confuses directories the
property tells apart, on witnesses that meet every hypothesis of `hashsums_injective`:
a symlink to a file vs. a copy of that file, and a symlink retargeted between two files of equal
content give the same hashsum tree. The current code separates them. -/
theorem legacy_symlink_to_file_confused :
    Legacy.dirHashsums demoLib sha256 tSym = Legacy.dirHashsums demoLib sha256 tCopy ∧
    Legacy.dirHashsums demoLib sha256 tSym = Legacy.dirHashsums demoLib sha256 tRetarget ∧
    ¬ Equiv tSym tCopy ∧ ¬ Equiv tSym tRetarget ∧
    tSym.WF ∧ tCopy.WF ∧ tRetarget.WF ∧
    NoCollision (oneShot demoLib sha256) (tSym.files ++ tCopy.files ++ tRetarget.files) ∧
    dirHashsums demoLib sha256 tSym ≠ dirHashsums demoLib sha256 tCopy ∧
    dirHashsums demoLib sha256 tSym ≠ dirHashsums demoLib sha256 tRetarget := by
  refine ⟨rfl, rfl, fun h => absurd (h [['l']]) (by decide), fun h => absurd (h [['l']]) (by decide),
    tSym_wf, tCopy_wf, tRetarget_wf, by decide, ?_, ?_⟩
  · intro h
    exact absurd (congrArg (resObs · [['l']]) h) (by decide)
  · intro h
    exact absurd (congrArg (resObs · [['l']]) h) (by decide)

/-- The pinned code accepted a symlink to a file *outside* of the directory (hashing the
outside file); the current code rejects it. -/
theorem legacy_outside_file_symlink_accepted :
    resObs (Legacy.dirHashsums demoLib sha256 tOutside) [['l']] = some (some (.str "sha256:x".toList)) ∧
    tOutside.WF ∧ relativeTo [['T'], ['o'], ['f']] tOutside.base = none ∧
    dirHashsums demoLib sha256 tOutside = .error .valueError :=
  ⟨by decide, tOutside_wf, by decide, rfl⟩

/-! ## Non-vacuity: the hypotheses of the theorems above are met by concrete directories -/

example : tSym.WF ∧ tSym.entries.Perm tSym.entries.reverse := ⟨tSym_wf, (List.reverse_perm _).symm⟩

example : dirHashsums demoLib sha256 tSym = dirHashsums demoLib sha256 ⟨base, tSym.entries.reverse⟩ :=
  order_independent demoLib sha256 base _ _ tSym_wf (List.reverse_perm _).symm

/-- `hashsums_injective` applied: the current code gives different trees for the symlink and
for the copy -/
example : ∃ ha hb, dirHashsums demoLib sha256 tSym = .ok ha ∧
    dirHashsums demoLib sha256 tCopy = .ok hb ∧ ha ≠ hb := by
  have h1 : dirHashsums demoLib sha256 tSym = .ok _ := rfl
  have h2 : dirHashsums demoLib sha256 tCopy = .ok _ := rfl
  refine ⟨_, _, h1, h2, fun h => ?_⟩
  have := (hashsums_injective demoLib demoLib_streaming sha256 (by decide) tSym tCopy tSym_wf
    tCopy_wf _ _ h1 h2 (by decide)).mp h
  exact absurd (this [['l']]) (by decide)

/-- … and equal trees for the same directory enumerated differently, with a link respelled
(same resolved target) -/
example : Equiv tSym ⟨base, tSym.entries.reverse⟩ := by
  have hp := (List.reverse_perm tSym.entries).symm
  have h1 : dirHashsums demoLib sha256 tSym = .ok _ := rfl
  have h2 := (order_independent demoLib sha256 base _ _ tSym_wf hp).symm.trans h1
  exact (hashsums_injective demoLib demoLib_streaming sha256 (by decide) tSym _ tSym_wf
    (tSym_wf.perm hp) _ _ h1 h2 (by decide)).mp rfl

example : dirHashsums demoLib sha256 tOutside = .error .valueError :=
  outside_symlink_rejected demoLib sha256 tOutside tOutside_wf [['l']] [['T'], ['o'], ['f']]
    (some [0x78]) (by decide) (by decide)

example : dirHashsums demoLib "md5".toList tSym = .error .valueError :=
  unsupported_alg_rejected demoLib _ tSym tSym_wf [['f']] [0x78, 0x79, 0x7a] (by decide) (by decide)

example : hashsum demoLib [1, 2, 3, 4, 5] sha256 = .ok (oneShot demoLib sha256 [1, 2, 3, 4, 5]) :=
  (hashsum_is_standard_digest demoLib demoLib_streaming sha256 (by decide) _).1

/-- a stream that delivers 1, 3, 1, 3, … bytes per read (block size 2: the reads return 1, 2, 1, 1) -/
example : hashsumS demoLib (cyclic [1, 3] 9) [1, 2, 3, 4, 5] sha256
    = .ok (oneShot demoLib sha256 [1, 2, 3, 4, 5]) :=
  (short_reads_independent demoLib demoLib_streaming (cyclic [1, 3] 9) (cyclic [] 9)
    (cyclic_pos _ _ (by decide) (by decide)) (cyclic_pos _ _ (by decide) (by decide))
    sha256 (by decide) _).1

/-- the hypotheses of `short_reads_independent` are needed for the loop AS WRITTEN only: the
variant that stops at the first short read hashes `[1]` instead of `[1, 2, 3, 4, 5]` -/
example : stopAtShortRead demoLib (cyclic [1] 9) 6 0 [1, 2, 3, 4, 5] (demoLib.new sha256) = [1]
    ∧ readLoopS demoLib (cyclic [1] 9) 6 0 [1, 2, 3, 4, 5] (demoLib.new sha256) = [1, 2, 3, 4, 5] := by
  decide

end MetadorModel.C19
