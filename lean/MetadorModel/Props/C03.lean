import MetadorModel.Proofs.RecordGood
import MetadorModel.Proofs.CrashTorn
/-!
# C03 — Closing and reopening a record reproduces exactly the same view; open-mode contract

Theorems about `MetadorModel.Record` (`IH5Record.__init__` mode dispatch, `_open`, `_create`,
`create_patch`, `discard_patch`, `close`) and `MetadorModel.FindFiles` (`find_files`).
Helper lemmas: `Proofs/RecordSpec`, `RecordModes`, `RecordChain`, `RecordReopen`, `FindFiles`.
The user-block codec (`IH5UserBlock._read_head_raw`, `load`, `save`; model `Model/UBlock`, framing
lemmas `Proofs/CrashTorn`) is covered at the level of the embedded text: `ub_text_roundtrip`.

Vocabulary
* `Resolves d t paths` — the first constructor argument `t` (a record name resolved by
  `find_files`, or an explicit list) yields the non-empty file list `paths`;
* `Coherent d files` — `files` (names with the user blocks found on disk, in patch order)
  passes every check of `_open`; `openFiles_sound` / `openFiles_of_coherent` show that this is
  exactly what `_open` accepts, for *any permutation* of the names;
* `Good s` — the handle of `s` is open on a coherent chain (established by every successful
  open, see `good_of_open`), `Inv` of C02 holds, the newest manifest link is intact;
* the five on-disk situations of the property are instances: *absent* `findFiles … = some []`;
  *uncommitted base / uncommitted patch* `openFiles … = ok (files, true)` (newest container
  without checksum); *committed base / patched* `openFiles … = ok (files, false)`.
-/
namespace MetadorModel.C03
open MetadorModel.Record MetadorModel.FindFiles

/-- **'r' is strictly read-only**, for every disk, target and class: no file changes, the
write set is empty; on success the handle has no writable container and patching is off. -/
theorem open_r_pure (s : State) (c : Bool) (t : Target) :
    (openRec s c t .r).st.disk = s.disk ∧ (openRec s c t .r).W = [] ∧
    ((openRec s c t .r).out = .ok →
      hasWritable (openRec s c t .r).st.h = false ∧ (openRec s c t .r).st.h.allow = false ∧
      (openRec s c t .r).st.h.closed = false) := Record.open_r_pure s c t

/-- … and on such a handle `create_patch`, `commit_patch` (both classes), `discard_patch` and
every write are refused with `ValueError` and change nothing. -/
theorem open_r_refuses_patching (s : State) (hcl : s.h.closed = false) (ha : s.h.allow = false)
    (hw : hasWritable s.h = false) (hne : s.h.files ≠ []) (k : Nat) :
    createPatch s = fail s .valueError ∧ commitPlain s = fail s .valueError ∧
    discardPatch s = fail s .valueError ∧ write s k = fail s .valueError ∧
    (s.h.mfcls = true → (commitMF s).out = .valueError ∧ (commitMF s).st.disk = s.disk ∧ (commitMF s).W = []) :=
  Record.open_r_refuses_patching s hcl ha hw hne k

/-- **`r+` / `a` continue an uncommitted container** (situations *uncommitted base*,
*uncommitted patch*): reopened writable, no file created or removed. -/
theorem open_rplus_continues (s : State) (c : Bool) (t : Target) (m : Mode) (paths : List Name)
    (files : List (Name × UB)) (man : Option (Nat × Nat))
    (hcl : s.h.closed = true) (hres : Resolves s.disk t paths) (hm : m = .rp ∨ m = .a)
    (hopen : openFiles s.disk paths true = .ok (files, true))
    (hman : (if c then loadManifest s.disk files else .ok none) = .ok man) :
    ∃ f ul, lastFile files = some (f, ul) ∧ ul.hash = none ∧
      openRec s c t m =
        { st := { s with h := openedHandle files true c m man }, out := .ok, written := [f] } ∧
      hasWritable (openedHandle files true c m man) = true :=
  Record.open_rplus_continues s c t m paths files man hcl hres hm hopen hman

/-- **`r+` / `a` otherwise start exactly one new patch** (situations *committed base*,
*patched*): the container `<name>.p<idx+1>.ih5` is created with mode `x`; if that name is
taken the call is refused and nothing changes. -/
theorem open_rplus_new_patch (s : State) (c : Bool) (t : Target) (m : Mode) (paths : List Name)
    (files : List (Name × UB)) (man : Option (Nat × Nat))
    (hcl : s.h.closed = true) (hres : Resolves s.disk t paths) (hm : m = .rp ∨ m = .a)
    (hopen : openFiles s.disk paths true = .ok (files, false))
    (hman : (if c then loadManifest s.disk files else .ok none) = .ok man) :
    ∃ f0 u0 rest fl ul, files = (f0, u0) :: rest ∧ lastFile files = some (fl, ul) ∧ ul.hash.isSome = true ∧
      ((getF s.disk (patchFile (inferName f0) (ul.idx + 1)) = none ∧
        (files.map Prod.fst).contains (patchFile (inferName f0) (ul.idx + 1)) = false ∧
        openRec s c t m =
          { st := { disk := setF s.disk (patchFile (inferName f0) (ul.idx + 1)) (.cont (newPatchUB ul s.next) []),
                    next := s.next + 1,
                    h := { openedHandle files false c m man with
                           files := files ++ [(patchFile (inferName f0) (ul.idx + 1), newPatchUB ul s.next)],
                           lastRW := true } },
            out := .ok, created := [patchFile (inferName f0) (ul.idx + 1)] }) ∨
       (Failed s (openRec s c t m) ∧
         ((getF s.disk (patchFile (inferName f0) (ul.idx + 1))).isSome = true ∨
          (files.map Prod.fst).contains (patchFile (inferName f0) (ul.idx + 1)) = true))) :=
  Record.open_rplus_new_patch s c t m paths files man hcl hres hm hopen hman

/-- **`a` creates when absent** (so do `w`, `w-`, `x`): exactly `<n>.ih5` appears — empty,
uncommitted, writable —, every other file is untouched. -/
theorem open_a_creates_when_absent (s : State) (c : Bool) (n : Name) (m : Mode)
    (hm : m = .a ∨ m = .w ∨ m = .wm ∨ m = .x)
    (hcl : s.h.closed = true) (habs : findFiles (names s.disk) n = some []) :
    openRec s c (.name n) m = created s c n ∧
    hasWritable (created s c n).st.h = true ∧ view (created s c n).st = [] ∧
    (∀ g, g ≠ baseFile n → getF (created s c n).st.disk g = getF s.disk g) :=
  Record.open_a_creates_when_absent s c n m hm hcl habs

/-- **`w` replaces the whole record — and only that record** (every situation): the base
container is fresh and empty, every other file belonging to the name is gone, every file
that does not belong to the name is untouched. -/
theorem open_w_replaces (s : State) (c : Bool) (n : Name) (hcl : s.h.closed = true)
    (hv : isValidName n = true) :
    (openRec s c (.name n) .w).out = .ok ∧
    (openRec s c (.name n) .w).st.h = freshHandle c n s.next ∧
    getF (openRec s c (.name n) .w).st.disk (baseFile n) = some (.cont (newBaseUB s.next) []) ∧
    view (openRec s c (.name n) .w).st = [] ∧
    (∀ g, belongs n g = false → getF (openRec s c (.name n) .w).st.disk g = getF s.disk g) ∧
    ((getF s.disk (baseFile n)).isSome = true →
      ∀ g, belongs n g = true → g ≠ baseFile n → getF (openRec s c (.name n) .w).st.disk g = none) ∧
    (∀ g ∈ (openRec s c (.name n) .w).removed, belongs n g = true) :=
  Record.open_w_replaces s c n hcl hv

/-- **`x` / `w-` refuse to touch an existing record**: `FileExistsError`, state unchanged. -/
theorem open_x_refuses_existing (s : State) (c : Bool) (n : Name) (m : Mode) (hm : m = .x ∨ m = .wm)
    (hcl : s.h.closed = true) (hv : isValidName n = true) (hex : (getF s.disk (baseFile n)).isSome = true) :
    openRec s c (.name n) m = fail s .fileExists :=
  Record.open_x_refuses_existing s c n m hm hcl hv hex

theorem open_x_creates_when_absent (s : State) (c : Bool) (n : Name) (m : Mode) (hm : m = .x ∨ m = .wm)
    (hcl : s.h.closed = true) (habs : findFiles (names s.disk) n = some []) :
    openRec s c (.name n) m = created s c n :=
  Record.open_x_creates_when_absent s c n m hm hcl habs

/-- **`r` / `r+` on a missing record**: `FileNotFoundError`, state unchanged. -/
theorem open_missing_r_fails (s : State) (c : Bool) (n : Name) (m : Mode) (hm : m = .r ∨ m = .rp)
    (hcl : s.h.closed = true) (habs : findFiles (names s.disk) n = some []) :
    openRec s c (.name n) m = fail s .fileNotFound :=
  Record.open_missing_r_fails s c n m hm hcl habs

/-- files are sorted by patch index irrespective of the argument order -/
theorem sortByIdx_perm_invariant (l l' : List (Name × UB)) (hp : l.Perm l')
    (hs : (sortByIdx l').Pairwise IdxLt) : sortByIdx l = sortByIdx l' :=
  Record.sortByIdx_perm_invariant l l' hp hs

/-- `_open` accepts exactly the coherent chains, given in any order -/
theorem open_accepts_any_order {d : Disk} {files : List (Name × UB)} (hc : Coherent d files)
    (paths : List Name) (hp : paths.Perm (files.map Prod.fst)) (rw : Bool) :
    ∃ fl ul, lastFile files = some (fl, ul) ∧ openFiles d paths rw = .ok (files, rw && ul.hash.isNone) :=
  openFiles_of_coherent hc paths hp rw

/-- every successful `_open` puts the handle on a coherent chain -/
theorem open_yields_coherent {d : Disk} {paths : List Name} {rw : Bool} {files : List (Name × UB)} {b : Bool}
    (h : openFiles d paths rw = .ok (files, b)) : Coherent d files := openFiles_sound h

/-- **reopen_same_view**: from any state whose handle is open on a coherent chain, after
`close()` (committing or not), reopening — by any class — in mode `r`, `r+` or `a`, either by
an explicit file list in *any permutation* or by the record name (when `find_files` returns
the record's files), succeeds and shows exactly the same view. For `r+`/`a` the name of the
next patch container must be free (mode `x`; `NextPatchFree`). -/
theorem reopen_same_view (s : State) (hg : Good s) (c cls : Bool) (t : Target) (m : Mode)
    (hm : m = .r ∨ m = .rp ∨ m = .a)
    (ht : (∃ paths, t = .list paths ∧ paths.Perm (fileNames s.h)) ∨
          (∃ n paths, t = .name n ∧ findFiles (names s.disk) n = some paths ∧ paths.Perm (fileNames s.h)))
    (hmf : cls = true → ManifestOk s.disk s.h.files)
    (hfresh : m ≠ .r → NextPatchFree s) :
    (close s c).out = .ok ∧ (openRec (close s c).st cls t m).out = .ok ∧
    view (openRec (close s c).st cls t m).st = view s := by
  obtain ⟨hok, files', hcl⟩ := close_good s hg c
  have hne : fileNames s.h ≠ [] := by
    obtain ⟨f0, u0, rest, hf, _⟩ := hg.coh.checks
    simp [fileNames, hf]
  have key : ∀ paths, paths.Perm (fileNames s.h) → Resolves (close s c).st.disk t paths →
      (openRec (close s c).st cls t m).out = .ok ∧ view (openRec (close s c).st cls t m).st = view s := by
    intro paths hperm hres
    have := reopen_closed s _ files' hcl cls t m paths hres (by rw [hcl.sameNames]; exact hperm) hm hmf hfresh
    exact ⟨this.1, by rw [this.2, hcl.sameView]⟩
  have hnonempty : ∀ paths : List Name, paths.Perm (fileNames s.h) → paths ≠ [] := by
    intro paths hp h
    rw [h] at hp
    exact hne (List.Perm.nil_eq hp).symm
  rcases ht with ⟨paths, rfl, hperm⟩ | ⟨n, paths, rfl, hfind, hperm⟩
  · exact ⟨hok, key paths hperm ⟨rfl, hnonempty paths hperm⟩⟩
  · refine ⟨hok, key paths hperm ⟨?_, hnonempty paths hperm⟩⟩
    unfold findFiles at hfind ⊢
    split at hfind
    · rename_i hv
      simp only [hv, if_true]
      rw [hcl.found n]
      exact hfind
    · cases hfind

/-- **the handle is on a coherent chain along every history** of calls without `w` /
`delete_files` (invariant `Good0`: C02's `Inv`, uuids drawn from the counter, coherent chain
under an open handle, writable ⇒ patching allowed, patching allowed and nothing writable ⇒
newest container committed). -/
theorem coherent_along_histories (ops : List Op) (s : State) (hg : Good0 s)
    (hsafe : ∀ o ∈ ops, o.safe = true) : Good0 (run s ops) := good0_run ops s hg hsafe

theorem good_of_good0 {s : State} (hg : Good0 s) (hopen : s.h.closed = false) : Good s :=
  ⟨hopen, hg.coh hopen, hg.inv, hg.rwAllow⟩

/-- the manifest link of the newest container is trivially intact when it has no manifest
extension (records written by the plain class; any uncommitted container) -/
theorem manifestOk_of_no_ext {d : Disk} {files : List (Name × UB)}
    (h : ∀ f ub, lastFile files = some (f, ub) → ub.ext = none) : ManifestOk d files := by
  intro f ub u b hl he
  rw [h f ub hl] at he; cases he

/-- **reopen_same_view along histories**: start from the empty directory (or any state
satisfying `Good0`), run *any* history of calls without `w` / `delete_files`; if the handle
is open at the end, then `close()` followed by reopening in `r`, `r+` or `a`, by any
permutation of the file list or by name, succeeds and shows the same view — for the plain
class unconditionally; for `IH5MFRecord` provided the newest manifest link is intact
(`ManifestOk`); for `r+`/`a` provided the next patch name is free; by name provided
`find_files` returns the record's files. -/
theorem reopen_same_view_history (ops : List Op) (s0 : State) (hg0 : Good0 s0)
    (hsafe : ∀ o ∈ ops, o.safe = true) (hopen : (run s0 ops).h.closed = false)
    (c cls : Bool) (t : Target) (m : Mode) (hm : m = .r ∨ m = .rp ∨ m = .a)
    (ht : (∃ paths, t = .list paths ∧ paths.Perm (fileNames (run s0 ops).h)) ∨
          (∃ n paths, t = .name n ∧ findFiles (names (run s0 ops).disk) n = some paths ∧
            paths.Perm (fileNames (run s0 ops).h)))
    (hmf : cls = true → ManifestOk (run s0 ops).disk (run s0 ops).h.files)
    (hfresh : m ≠ .r → NextPatchFree (run s0 ops)) :
    (close (run s0 ops) c).out = .ok ∧ (openRec (close (run s0 ops) c).st cls t m).out = .ok ∧
    view (openRec (close (run s0 ops) c).st cls t m).st = view (run s0 ops) :=
  reopen_same_view _ (good_of_good0 (good0_run ops s0 hg0 hsafe) hopen) c cls t m hm ht hmf hfresh

/-- The statement without side conditions: along every history from the empty directory in
which the record was created by name, reopening by name or by any permutation of the list,
in `r`/`r+`/`a`, by either class, shows the same view. `reopen_same_view_history` proves it
relative to three facts that are checked on every run by the correspondence harness but are
not proved for all histories here: (1) `find_files` returns exactly the handle's files
(needs the canonical-naming invariant and injectivity of the decimal rendering of patch
indices), (2) the next patch name is free (same), (3) for `IH5MFRecord` the manifest link of
the newest container is intact after `discard_patch` / class mixing (needs a global
uuid-uniqueness invariant for manifests). -/
def reopen_same_view_statement : Prop :=
  ∀ (ops : List Op) (n : Name) (cls0 : Bool) (m0 : Mode), (∀ o ∈ ops, o.safe = true) →
    (∀ o ∈ ops, ∀ c t m, o = Op.openRec c t m → c = cls0 ∧ t = .name n) →
    let s := run {} (Op.openRec cls0 (.name n) m0 :: ops)
    s.h.closed = false →
    ∀ (c : Bool) (m : Mode), (m = .r ∨ m = .rp ∨ m = .a) →
      ∀ t, (t = .name n ∨ ∃ paths, t = .list paths ∧ paths.Perm (fileNames s.h)) →
        (close s c).out = .ok ∧ (openRec (close s c).st cls0 t m).out = .ok ∧
        view (openRec (close s c).st cls0 t m).st = view s

/-- **discard_returns_to_commit**: a patch that is created on a handle without writable
container (i.e. right after a commit, or after opening a committed record), filled with any
writes and then discarded leaves every directory entry and the handle's file list as they
were — the view is the one of the last commit. -/
theorem discard_returns_to_commit (s : State) (ks : List Nat) (hok : (createPatch s).out = .ok) :
    (discardPatch (run (createPatch s).st (ks.map Op.write))).out = .ok ∧
    (discardPatch (run (createPatch s).st (ks.map Op.write))).st.h.files = s.h.files ∧
    (∀ g, getF (discardPatch (run (createPatch s).st (ks.map Op.write))).st.disk g = getF s.disk g) ∧
    view (discardPatch (run (createPatch s).st (ks.map Op.write))).st = view s :=
  discard_undoes_patch s ks hok

/-- **findFiles_exact**: for a valid record name, `find_files` returns exactly the directory
entries `<name><c>…` with `c` outside `[A-Za-z0-9-]` whose part after the name ends with `.ih5`. -/
theorem findFiles_exact (dir : List Name) (n : Name) (hn : ValidName n) :
    ∃ l, findFiles dir n = some l ∧
      ∀ f, f ∈ l ↔ (f ∈ dir ∧ ∃ c rest, f = n ++ c :: rest ∧ isNameChar c = false ∧
                      endsWith (c :: rest) ext = true) := findFiles_exact' dir n hn

/-- **findFiles_disjoint**: for valid names `n ≠ m`, no file that belongs to `m` — `m`
followed by a non-name character, in particular the canonical `m.ih5` and `m.p<k>.ih5` — is
ever found for `n` (foo / foo2 / foo-bar / fo). -/
theorem findFiles_disjoint (dir : List Name) (n m : Name) (hn : ValidName n) (hm : ValidName m)
    (hne : n ≠ m) (l : List Name) (hl : findFiles dir n = some l) :
    (∀ c rest, isNameChar c = false → m ++ c :: rest ∉ l) ∧ baseFile m ∉ l ∧ ∀ k, patchFile m k ∉ l := by
  have hl' : l = dir.filter (belongs n) := by
    simp only [findFiles, isValidName_of_valid hn, if_true, Option.some.injEq] at hl
    exact hl.symm
  have h1 : ∀ c rest, isNameChar c = false → m ++ c :: rest ∉ l := by
    intro c rest hc hmem
    rw [hl', List.mem_filter, belongs_other_false n m hn hm hne c rest hc] at hmem
    cases hmem.2
  refine ⟨h1, ?_, ?_⟩
  · exact h1 '.' ['i', 'h', '5'] (by decide)
  · intro k
    have := h1 '.' ('p' :: (decimal k ++ ext)) (by decide)
    simpa [patchFile, infix_] using this

/-! ## user-block codec: whatever `save` accepted loads again

`IH5UserBlock.save` writes `magic \n 1024 \n <json> NUL` in place at offset 0 and asserts that
this is shorter than 1024 bytes, i.e. the JSON text has at most 1010 characters. `load` probes
the first 512 bytes and re-reads with the stated size (1024 > 512). The statements are about
the *text* between the second newline and the first NUL (any ASCII text without newline / NUL:
the canonical blocks of `IH5Record` ≈ 300 characters, of `IH5MFRecord` ≈ 500, and blocks of
subclasses that put more into the documented `ub_exts` section); `json.loads` + pydantic on
that text are the concern of `UBlock.parseUBT` (C04/C11). -/

/-- **ub_text_roundtrip**: a block `magic \n 1024 \n t NUL z` loads the stated size and exactly
the text `t`, for every text of up to 1010 characters — in particular for those longer than the
499 characters the first probe sees. `z` is whatever follows the NUL; only the part inside the
reserved 1024 bytes matters and must be ASCII without newline (zeros, or the tail of an older,
longer text and its NUL). -/
theorem ub_text_roundtrip (t z : List Char) (ht : UBlock.Clean t) (hnul : '\x00' ∉ t)
    (hlen : t.length ≤ 1010) (hz : UBlock.Clean (z.take (1010 - t.length))) :
    UBlock.loadText (UBlock.HDR ++ (t ++ '\x00' :: z)) = .ok (1024, t) := by
  have htake : (t ++ '\x00' :: z).take 1011 = t ++ '\x00' :: z.take (1010 - t.length) := by
    rw [List.take_append, List.take_of_length_le (by omega)]
    obtain ⟨m, hm⟩ : ∃ m, 1011 - t.length = m + 1 := ⟨1010 - t.length, by omega⟩
    rw [hm, List.take_succ_cons]
    congr 3; omega
  rw [UBlock.loadText_hdr _ (by rw [htake]; exact ht.append ((UBlock.clean_zeros 1).append hz)),
    UBlock.cutNul_take hnul z (by omega)]

/-- the same for the in-place write of `save` over the old first bytes of the file
(`UBlock.torn` with the complete length = `f.seek(0); f.write(data); f.write(NUL)`) -/
theorem ub_text_roundtrip_inplace (old t : List Char) (ht : UBlock.Clean t) (hnul : '\x00' ∉ t)
    (hlen : t.length ≤ 1010)
    (hold : UBlock.Clean ((old.drop (t.length + 14)).take (1010 - t.length))) :
    UBlock.loadText (UBlock.torn (UBlock.HDR ++ (t ++ ['\x00'])).length old (UBlock.HDR ++ (t ++ ['\x00'])))
      = .ok (1024, t) := by
  have hl : (UBlock.HDR ++ (t ++ ['\x00'])).length = t.length + 14 := by
    simp [UBlock.HDR_length]; omega
  unfold UBlock.torn
  rw [List.take_of_length_le (le_refl _), hl, List.append_assoc, List.append_assoc]
  exact ub_text_roundtrip t _ ht hnul hlen hold

theorem untilNul_none {a : List Char} (ha : '\x00' ∉ a) : UBlock.untilNul a = none := by
  induction a with
  | nil => rfl
  | cons c a ih =>
    have hc : c ≠ '\x00' := fun h => ha (h ▸ List.mem_cons_self)
    simp [UBlock.untilNul, hc, ih (fun h => ha (List.mem_cons_of_mem _ h))]

/-- why the re-read is needed: the 512-byte probe alone yields a truncated text for every
text of 499 characters or more (no NUL in sight, and `find` = -1 drops one more character) -/
theorem probe_alone_truncates (t z : List Char) (ht : UBlock.Clean t) (hnul : '\x00' ∉ t)
    (hlen : 499 ≤ t.length) :
    UBlock.readHeadRaw (UBlock.HDR ++ (t ++ '\x00' :: z)) 512 = .ok (some (1024, (t.take 499).dropLast)) := by
  have htake : (t ++ '\x00' :: z).take (512 - 13) = t.take 499 := by
    rw [List.take_append_of_le_length (by omega)]
  rw [UBlock.readHeadRaw_hdr _ 512 (by omega) (by rw [htake]; exact ht.take _), htake]
  have : UBlock.untilNul (t.take 499) = none := untilNul_none (fun h => hnul (List.mem_of_mem_take h))
  simp [UBlock.cutNul, this]

/-! ## Non-vacuity: concrete states meet the hypotheses -/

def foo : Name := ['f', 'o', 'o']
def foo2 : Name := ['f', 'o', 'o', '2']

/-- create foo2 and foo (manifest class), two commits and an uncommitted third container -/
def hist : List Op :=
  [.openRec false (.name foo2) .x, .write 9, .close true,
   .openRec true (.name foo) .x, .write 1, .commitPatch, .createPatch, .write 2, .commitPatch,
   .createPatch, .write 3]

example : ∀ o ∈ hist, o.safe = true := by decide
example : (run {} hist).h.closed = false ∧ (fileNames (run {} hist).h).length = 3 ∧ view (run {} hist) = [1, 2, 3] := by
  decide
/-- `find_files foo` returns the three containers of foo and not `foo2.ih5` -/
example : findFiles (names (run {} hist).disk) foo = some (fileNames (run {} hist).h) := by decide
example : ValidName foo ∧ ValidName foo2 ∧ foo ≠ foo2 := by
  refine ⟨⟨by decide, by decide⟩, ⟨by decide, by decide⟩, by decide⟩

/-- instance of `reopen_same_view_history`: close with commit, reopen read-only with the plain
class from the *reversed* file list -/
example : view (openRec (close (run {} hist) true).st false (.list (fileNames (run {} hist).h).reverse) .r).st
    = [1, 2, 3] := by
  have h := reopen_same_view_history hist {} good0_init (by decide) (by decide) true false
    (.list (fileNames (run {} hist).h).reverse) .r (Or.inl rfl)
    (Or.inl ⟨_, rfl, List.reverse_perm _⟩) (by intro h; cases h) (by intro h; exact absurd rfl h)
  rw [h.2.2]; decide

/-- the mode laws have satisfiable premises: foo is *patched + uncommitted patch* after
`hist` + close without commit, *absent* in the empty directory -/
example : findFiles (names ({} : State).disk) foo = some [] := by decide
example : (match openFiles (close (run {} hist) false).st.disk
    [patchFile foo 2, baseFile foo, patchFile foo 1] true with
    | .ok (files, b) => b && files.length == 3
    | .error _ => false) = true := by decide
example : (match openFiles (close (run {} hist) true).st.disk
    [patchFile foo 2, baseFile foo, patchFile foo 1] true with
    | .ok (files, b) => !b && files.length == 3
    | .error _ => false) = true := by decide
example : (createPatch (run {} (hist ++ [.commitPatch]))).out = .ok := by decide

/-- a text of 600 characters (longer than the first probe) in a zero-filled block -/
example : UBlock.loadText (UBlock.HDR ++ (List.replicate 600 'a' ++ '\x00' :: List.replicate 410 '\x00'))
    = .ok (1024, List.replicate 600 'a') := by
  apply ub_text_roundtrip
  · intro c hc; rw [List.eq_of_mem_replicate hc]; exact ⟨by decide, by decide⟩
  · intro h; exact absurd (List.eq_of_mem_replicate h) (by decide)
  · rw [List.length_replicate]; omega
  · intro c hc; rw [List.eq_of_mem_replicate (List.mem_of_mem_take hc)]; exact ⟨by decide, by decide⟩

end MetadorModel.C03
