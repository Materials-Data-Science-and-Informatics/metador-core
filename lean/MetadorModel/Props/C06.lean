import MetadorModel.Proofs.ContainerMove
import MetadorModel.Proofs.ContainerReload
/-!
# C06 — TOC and attached metadata stay in one-to-one sync

Property theorems about `MetadorModel.Container` (model of `container/interface.py` and
`container/wrappers.py`, tied to the real code by the correspondence run of `./check C06`).

`Inv e s` (`Proofs/ContainerInv.lean`) is the inductive invariant: well-formed raw tree, the
`/metador_container` subtree and the in-memory caches are *exactly* what the attached metadata
objects `ObjAt s.raw p r u` (object of schema `r` with uuid `u` stored at path `p` below a
`metador_meta_*` directory of a user node) demand. The clauses of the property text are the
corollaries `link_points_to_object` … `no_empty_bookkeeping_groups` below; `Sync` bundles them.
-/
namespace MetadorModel.C06
open MetadorModel.Container

variable {e : Env} {s : St}

/-! ## The clauses of the property as consequences of the invariant -/

/-- *"every TOC link points at an existing object with the same UUID and schema"*: whatever is
stored at `/metador_container/links/<schema>/<uuid>` is a link dataset whose target is the path
of an existing metadata object carrying that schema and that uuid in its name. -/
theorem link_points_to_object (hi : Inv e s) {r : SRef} {u : Nat} {n : Node}
    (h : get? s.raw (linkPath r u) = some n) :
    ∃ p, n = .ds (.target p) ∧ ObjAt s.raw p r u := by
  by_cases hL : ∃ p, ObjAt s.raw p r u
  · obtain ⟨p, hp⟩ := hL
    have := hi.toc.link_some p r u hp
    rw [h] at this; cases this
    exact ⟨p, rfl, hp⟩
  · rw [hi.toc.link_none r u hL] at h; cases h

/-- metadata objects are datasets attached to an existing user node: they live directly in the
metadata directory of a group or dataset that exists -/
theorem object_attached_to_node (hi : Inv e s) {p : Path} {r : SRef} {u : Nat} (h : ObjAt s.raw p r u) :
    ∃ node k, isInternal node = false ∧ nodeKind s node = some k ∧ p = metaBase node k ++ [.obj r u] ∧
      ∃ tok, get? s.raw p = some (.ds (.data tok)) := by
  obtain ⟨x, n, hx, hg, rfl⟩ := hi.treeOK.obj_host h
  obtain ⟨base, m, hb, hp, hgo⟩ := h
  exact ⟨x, kindOf n, hx, nodeKind_eq_kindOf hg, rfl, hp ▸ hi.treeOK.obj_data hb (hp ▸ hgo)⟩

/-- *"every attached object has exactly one link"*: the link named after its schema and uuid
points at it, and no other link does. -/
theorem object_has_exactly_one_link (hi : Inv e s) {p : Path} {r : SRef} {u : Nat} (h : ObjAt s.raw p r u) :
    get? s.raw (linkPath r u) = some (.ds (.target p)) ∧
    ∀ r' u', get? s.raw (linkPath r' u') = some (.ds (.target p)) → r' = r ∧ u' = u := by
  refine ⟨hi.toc.link_some p r u h, fun r' u' h' => ?_⟩
  obtain ⟨p', hn, ho⟩ := link_points_to_object hi h'
  cases hn
  obtain ⟨b, m, hb, hp, -⟩ := h
  obtain ⟨b', m', hb', hp', -⟩ := ho
  have := (snoc2_inj (hp.symm.trans hp')).2.2
  simp at this
  exact ⟨this.1.symm, this.2.symm⟩

/-- *"UUIDs are unique"*: two attached objects with the same uuid are the same object. -/
theorem uuids_unique (hi : Inv e s) {p p' : Path} {r r' : SRef} {u : Nat}
    (h : ObjAt s.raw p r u) (h' : ObjAt s.raw p' r' u) : p = p' ∧ r = r' :=
  hi.mok.uniq p p' r r' u h h'

/-- *"schema … records exist exactly for the schemas in use"*: `/metador_container/schemas/<r>`
with the embedded JSON Schema and the parent chain exists if and only if an object of schema `r`
is attached somewhere. -/
theorem schema_records_exact (hi : Inv e s) (r : SRef) :
    (UsedIn s.raw r → get? s.raw (schemaDir r) = some .grp ∧
      get? s.raw (schemaDir r ++ [.jsonschema]) = some (.ds (.jsonschema r)) ∧
      get? s.raw (schemaDir r ++ [.compat]) = some (.ds (.compat (ppath e r)))) ∧
    (¬ UsedIn s.raw r → get? s.raw (schemaDir r) = none ∧
      get? s.raw (schemaDir r ++ [.jsonschema]) = none ∧ get? s.raw (schemaDir r ++ [.compat]) = none) :=
  ⟨fun h => ⟨(hi.toc.sdir r).1 h, (hi.toc.json r).1 h, (hi.toc.compat r).1 h⟩,
   fun h => ⟨(hi.toc.sdir r).2 h, (hi.toc.json r).2 h, (hi.toc.compat r).2 h⟩⟩

/-- *"… and package records exist exactly for the schemas in use"*: the record of package `pk`
exists if and only if `pk` provides a schema in use; it lists the package's schema plugins. -/
theorem package_records_exact (hi : Inv e s) (pk : PkgId) :
    (RegP e (UsedIn s.raw) pk → get? s.raw (pkgPath pk) = some (.ds (.pkginfo pk (e.pkgPlugins pk)))) ∧
    (¬ RegP e (UsedIn s.raw) pk → get? s.raw (pkgPath pk) = none) :=
  hi.toc.pkg pk

/-- nothing else lives below `/metador_container` -/
theorem toc_shape (hi : Inv e s) (rest : Path) (h : get? s.raw (.toc :: rest) ≠ none) : TocShape rest :=
  hi.toc.shape rest h

/-- *"with no empty bookkeeping groups left behind"*: every group with a reserved name
(`metador_meta_*` directories, everything below `/metador_container`) other than
`/metador_container` itself has a child. -/
theorem no_empty_bookkeeping_groups (hi : Inv e s) {q : Path} (hint : isInternal q = true) (hq : q ≠ tocP)
    (hg : get? s.raw q = some .grp) : ∃ k, get? s.raw (q ++ [k]) ≠ none := by
  have hq0 : q ≠ [] := by rintro rfl; simp [isInternal] at hint
  by_cases hh : q.head? = some .toc
  · obtain ⟨rest, rfl⟩ : ∃ rest, q = .toc :: rest := by
      cases q with
      | nil => exact absurd rfl hq0
      | cons k rest => simp at hh; exact ⟨rest, by rw [hh]⟩
    have hsh := hi.toc.shape rest (by rw [hg]; simp)
    -- a record that is a group records something; the record of that thing is a child
    have grp : ∀ {P : Prop} {n : Node}, Holds (get? s.raw (.toc :: rest)) P n → P := fun h => by
      by_contra hp; rw [h.2 hp] at hg; cases hg
    have dsne : ∀ {P : Prop} {v : Val}, ¬ Holds (get? s.raw (.toc :: rest)) P (.ds v) := fun {P _} h => by
      by_cases hp : P
      · rw [h.1 hp] at hg; cases hg
      · rw [h.2 hp] at hg; cases hg
    have ex : ∀ {k : Key} {n : Node}, get? s.raw ((Key.toc :: rest) ++ [k]) = some n →
        ∃ k, get? s.raw ((Key.toc :: rest) ++ [k]) ≠ none := fun h => ⟨_, by rw [h]; simp⟩
    cases hsh with
    | root => exact absurd rfl hq
    | version => exact (dsne (P := True) ⟨fun _ => hi.toc.ver, fun h => (h trivial).elim⟩).elim
    | uuid => exact (dsne (P := True) ⟨fun _ => hi.toc.uid, fun h => (h trivial).elim⟩).elim
    | links =>
      obtain ⟨p, r, u, ho⟩ := grp hi.toc.links
      exact ex ((hi.toc.ldir r).1 ⟨p, u, ho⟩)
    | linkDir r =>
      obtain ⟨p, u, ho⟩ := grp (hi.toc.ldir r)
      exact ex (hi.toc.link_some p r u ho)
    | link r u =>
      obtain ⟨p, hn, -⟩ := link_points_to_object hi hg
      cases hn
    | schemas =>
      obtain ⟨r, hr⟩ := grp hi.toc.schemas
      exact ex ((hi.toc.sdir r).1 hr)
    | schemaDir r => exact ex ((hi.toc.json r).1 (grp (hi.toc.sdir r)))
    | json r => exact (dsne (hi.toc.json r)).elim
    | compat r => exact (dsne (hi.toc.compat r)).elim
    | packages =>
      obtain ⟨r, p, u, ho⟩ := grp hi.toc.packages
      obtain ⟨i, hinfo⟩ := hi.mok.objenv p r u ho
      exact ex ((hi.toc.pkg i.pkg).1 ⟨r, i, ⟨p, u, ho⟩, hinfo, rfl⟩)
    | pkg pk => exact (dsne (hi.toc.pkg pk)).elim
  · have := hi.mok.ushape q _ hq0 hh hg
    cases this with
    | user q n hi' _ => rw [hint] at hi'; cases hi'
    | metaDir base m hb =>
      obtain ⟨-, r, u, h⟩ := hi.mok.host base m hb (by rw [hg]; simp)
      exact ⟨.obj r u, by simpa using h⟩

/-- The statement of C06 about one state, in the words of the property. -/
structure Sync (e : Env) (s : St) : Prop where
  link_points_to_object : ∀ r u n, get? s.raw (linkPath r u) = some n →
    ∃ p, n = .ds (.target p) ∧ ObjAt s.raw p r u
  object_attached_to_node : ∀ p r u, ObjAt s.raw p r u →
    ∃ node k, isInternal node = false ∧ nodeKind s node = some k ∧ p = metaBase node k ++ [.obj r u] ∧
      ∃ tok, get? s.raw p = some (.ds (.data tok))
  object_has_exactly_one_link : ∀ p r u, ObjAt s.raw p r u →
    get? s.raw (linkPath r u) = some (.ds (.target p)) ∧
    ∀ r' u', get? s.raw (linkPath r' u') = some (.ds (.target p)) → r' = r ∧ u' = u
  uuids_unique : ∀ p p' r r' u, ObjAt s.raw p r u → ObjAt s.raw p' r' u → p = p' ∧ r = r'
  schema_records_exact : ∀ r, get? s.raw (schemaDir r) ≠ none ↔ UsedIn s.raw r
  package_records_exact : ∀ pk, get? s.raw (pkgPath pk) ≠ none ↔ RegP e (UsedIn s.raw) pk
  toc_shape : ∀ rest, get? s.raw (.toc :: rest) ≠ none → TocShape rest
  no_empty_bookkeeping_groups : ∀ q, isInternal q = true → q ≠ tocP → get? s.raw q = some .grp →
    ∃ k, get? s.raw (q ++ [k]) ≠ none

theorem sync_of_inv (hi : Inv e s) : Sync e s where
  link_points_to_object := fun _ _ _ h => link_points_to_object hi h
  object_attached_to_node := fun _ _ _ h => object_attached_to_node hi h
  object_has_exactly_one_link := fun _ _ _ h => object_has_exactly_one_link hi h
  uuids_unique := fun _ _ _ _ _ h h' => uuids_unique hi h h'
  schema_records_exact := fun r => by
    by_cases h : UsedIn s.raw r
    · simp [h, ((schema_records_exact hi r).1 h).1]
    · simp [h, ((schema_records_exact hi r).2 h).1]
  package_records_exact := fun pk => by
    by_cases h : RegP e (UsedIn s.raw) pk
    · simp [h, (package_records_exact hi pk).1 h]
    · simp [h, (package_records_exact hi pk).2 h]
  toc_shape := toc_shape hi
  no_empty_bookkeeping_groups := fun _ h1 h2 h3 => no_empty_bookkeeping_groups hi h1 h2 h3

/-! ## The invariant holds initially and is kept by every operation -/

/-- a freshly created container is in sync -/
theorem sync_init (e : Env) : Inv e initSt := init_inv e

/-- any sequence of `set` / `del` / `get` on one `node.meta` handle keeps the invariant; the
final state of `opMeta` is the state left behind whatever the individual outcomes were (refused
`set` of a second object, unknown or auxiliary schema, invalid value, missing key, …). -/
theorem sync_meta (he : WFEnv e) (hi : Inv e s) (p : Path) (ops : List MetaOp) :
    Inv e (opMeta e p ops s).2 := opMeta_inv he hi p ops

/-- `create_group`, success or failure -/
theorem sync_create_group (hi : Inv e s) (p : Path) : Inv e (opCreateGroup p s).2 := opCreateGroup_inv hi p

/-- `group[name] = data`, success or failure -/
theorem sync_create_dataset (hi : Inv e s) (p : Path) (tok : String) : Inv e (opCreateDataset p tok s).2 :=
  opCreateDataset_inv hi p tok

/-- `del group[name]` (with the `_destroy_meta` recursion over everything below), success or failure -/
theorem sync_delete (he : WFEnv e) (hi : Inv e s) (p : Path) : Inv e (opDelete p s).2 := opDelete_inv he hi p

/-- close and reopen: the caches rebuilt from disk satisfy the invariant again -/
theorem sync_reopen (he : WFEnv e) (hi : Inv e s) : Inv e (opReopen s).2 := opReopen_inv he hi

/-- *"The same holds after closing and reopening, where the in-memory index rebuilt from disk equals
the one maintained incrementally"*: `reload s.raw` and `s.c` agree on everything the public TOC API
reads (`CachesEq`: link table by uuid, set of embedded schemas, `parent_path`, domain and members of
`children`, `packages`, `provider`). Literal equality of the Python containers is not claimed (and
is false: dict orders differ, `_used` keeps empty entries of packages that are no longer needed). -/
theorem cache_coherent (he : WFEnv e) (hi : Inv e s) : CachesEq (reload s.raw) s.c := reload_cachesEq he hi

/-- `group.copy(source, dest, without_meta=…)`, success or failure: dataset and group branch, the
metadata-free dataset that raises after copying, `find_missing` / `repair_missing` with fresh uuids,
and `_destroy_meta(_unlink=False)` of the copied metadata -/
theorem sync_copy (he : WFEnv e) (hi : Inv e s) (src dst : Path) (withoutMeta : Bool) :
    Inv e (opCopy e src dst withoutMeta s).2 := opCopy_inv he hi src dst withoutMeta

/-- `group.move(source, dest)`, success or failure (metadata directory of a dataset moves along,
links are re-targeted with `update=True`). `dest` must not end in an empty name: HDF5 names are never
empty and the driver's path parser refuses empty segments, but the structured names of the model
contain `Key.user ""`, for which the statement is false (`sync_step_needs_names`). -/
theorem sync_move (hi : Inv e s) (src dst : Path) (hname : dst.getLast? ≠ some (.user "")) :
    Inv e (opMove e src dst s).2 := opMove_inv hi src dst hname

/-- **`sync_step`**: every container operation — create group/dataset, any sequence of metadata
operations on a node, delete, copy (with and without metadata), move, reopen, patch boundary —
keeps the invariant, whether it succeeds or fails (the state `(step e op s).2` is what the operation
leaves behind in either case). -/
theorem sync_step (he : WFEnv e) (hi : Inv e s) (op : Op) (hop : OpOK op) : Inv e (step e op s).2 :=
  step_inv he hi op hop

/-- **`sync_run`**: all histories (of operations satisfying the side condition `OpOK`) -/
theorem sync_run (he : WFEnv e) (ops : List Op) (s : St) (hi : Inv e s) (h : ∀ op ∈ ops, OpOK op) :
    Inv e (run e s ops) := run_inv he ops s hi h

/-- every state reachable from a fresh container satisfies the property statement -/
theorem sync_reachable (he : WFEnv e) (ops : List Op) (h : ∀ op ∈ ops, OpOK op) :
    Sync e (run e initSt ops) :=
  sync_of_inv (sync_run he ops initSt (sync_init e) h)

/-- the statement without the side condition on names -/
def sync_step_statement : Prop :=
  ∀ (e : Env) (s : St) (op : Op), WFEnv e → Inv e s → Inv e (step e op s).2

/-! ## Non-vacuity: a three-level schema family -/

def aa : SRef := ⟨"vt.aa", (1, 0, 0)⟩
def bb : SRef := ⟨"vt.bb", (1, 0, 0)⟩
def cc : SRef := ⟨"vt.cc", (1, 2, 0)⟩
def pk1 : PkgId := ⟨"vtpkg", (0, 1, 0)⟩
def pk2 : PkgId := ⟨"other", (2, 0, 0)⟩
def dd : SRef := ⟨"ot.dd", (0, 1, 0)⟩

/-- `aa ← bb ← cc` provided by one package, `dd` (child of `aa`) by another one -/
def env3 : Env :=
  ⟨[⟨aa, [aa], pk1, false⟩, ⟨bb, [aa, bb], pk1, false⟩, ⟨cc, [aa, bb, cc], pk1, false⟩,
    ⟨dd, [aa, dd], pk2, false⟩],
   [(pk1, [aa, bb, cc]), (pk2, [dd])]⟩

theorem env3_wf : WFEnv env3 := WFEnv.of_check (by decide)

example : Inv env3 initSt := sync_init env3

/-- a history that attaches an object of the grandchild schema to a dataset in a group -/
def hist1 : List Op :=
  [.createDataset [.user "g", .user "d"] "x",
   .onMeta [.user "g", .user "d"] [.set "vt.cc" none true "t1"]]

/-- the state after `hist1` holds an object (so the clauses above are not vacuous there) -/
theorem hist1_obj : ObjAt (run env3 initSt hist1).raw [.user "g", .metaDir "d", .obj cc 0] cc 0 :=
  ⟨[.user "g"], "d", rfl, rfl, by decide +kernel⟩

/-- … and it satisfies the invariant, hence every clause of the property -/
example : Sync env3 (run env3 initSt hist1) := sync_reachable env3_wf hist1 (by decide)

example : CachesEq (reload (run env3 initSt hist1).raw) (run env3 initSt hist1).c :=
  cache_coherent env3_wf (sync_run env3_wf hist1 initSt (sync_init env3) (by decide))

/-- a longer history through every kind of operation (group and dataset metadata, refused second
object, copy with and without metadata, move, delete, reopen) -/
def hist2 : List Op :=
  [.createDataset [.user "g", .user "d"] "x",
   .onMeta [.user "g", .user "d"] [.set "vt.cc" none true "t1", .set "vt.cc" none true "t2", .set "ot.dd" none true "t3"],
   .onMeta [.user "g"] [.set "vt.bb" none true "t4"],
   .copy [.user "g"] [.user "h"] false,
   .copy [.user "g", .user "d"] [.user "e"] true,
   .move [.user "h"] [.user "k", .user "h"],
   .delete [.user "g"],
   .reopen]

example : Sync env3 (run env3 initSt hist2) := sync_reachable env3_wf hist2 (by decide)

/-- after `hist2` the copies carry fresh uuids at their new place (`/k/h/d` holds the copy of the
`vt.cc` object with uuid 5), the originals are gone -/
example : ObjAt (run env3 initSt hist2).raw [.user "k", .user "h", .metaDir "d", .obj cc 5] cc 5 ∧
    ¬ UsedIn (run env3 initSt hist2).raw aa ∧ get? (run env3 initSt hist2).raw [.user "g"] = none :=
  by
  -- one evaluation of the history serves the three clauses
  have key : get? (run env3 initSt hist2).raw [.user "k", .user "h", .metaDir "d", .obj cc 5] ≠ none ∧
      get? (run env3 initSt hist2).raw (schemaDir aa) = none ∧
      get? (run env3 initSt hist2).raw [.user "g"] = none := by decide +kernel
  have hi := sync_run env3_wf hist2 initSt (sync_init env3) (by decide)
  refine ⟨⟨[.user "k", .user "h"], "d", by decide, rfl, key.1⟩, fun h => ?_, key.2.2⟩
  have := ((schema_records_exact hi aa).1 h).1
  rw [key.2.1] at this
  cases this

/-- The side condition of `sync_move` is needed *in the model*: with the (impossible) empty node
name as destination the metadata directory of the moved dataset stays behind. -/
def histBad : List Op :=
  [.createGroup [.user "g"], .onMeta [.user "g"] [.set "vt.aa" none true "a"],
   .createDataset [.user "d"] "x", .onMeta [.user "d"] [.set "vt.aa" none true "b"],
   .move [.user "d"] [.user "g", .user ""]]

theorem sync_step_needs_names : ¬ sync_step_statement := by
  intro h
  have hrun : ∀ (ops : List Op) (s : St), Inv env3 s → Inv env3 (run env3 s ops) := by
    intro ops
    induction ops with
    | nil => intro s hi; exact hi
    | cons op ops ih => intro s hi; exact ih _ (h env3 s op env3_wf hi)
  have hi := hrun histBad initSt (sync_init env3)
  have key : get? (run env3 initSt histBad).raw [.metaDir "d"] ≠ none ∧
      get? (run env3 initSt histBad).raw [.user "d"] = none := by decide +kernel
  rcases (hi.mok.host [] "d" rfl key.1).1 with h | ⟨v, hv⟩
  · exact absurd h (by decide)
  · exact absurd (key.2.symm.trans hv) (by simp)

end MetadorModel.C06
