import MetadorModel.Proofs.Codec
/-!
# C12 — Schema instances survive serialisation unchanged

Theorems about `MetadorModel.Codec` (model of pydantic validation / `BaseModelPlus.json()`
for the field-type grammar). Hypotheses about the libraries are explicit:

* float `repr` round-trips: a valid float value is a token `t` with `env.normFloat t = some t`
  (reading the token that `float.__repr__` printed and printing it again gives the same token);
* the string codecs of `Duration` / `PintUnit` / `PintQuantity` are inverse on their normal
  forms: a valid opaque value is a string `s` with `env.norm k s = some s` and no crash.

Both are part of `Valid` (they are what the correspondence checks on the real libraries:
`normal-form-not-fixed`). No bound on the nesting depth, the number of fields or values.
-/
namespace MetadorModel.C12
open MetadorModel.Codec

/-- `S.parse_raw(o.json()) == o`: every valid instance value of every type of the grammar
(hence of every schema built from it: nested, inherited, with constants and extras) is read
back unchanged. Induction over the type syntax (`Proofs/Codec.lean`). -/
theorem roundtrip (env : Env) (t : Ty) (v : PyVal) (h : Valid env t v) :
    decode env t (encode v) = .ok v :=
  roundtrip_core env t v h

/-- … in particular the type-indexed spelling of the design -/
theorem roundtrip_at (env : Env) (t : Ty) (v : PyVal) (h : Valid env t v) :
    decode env t (encodeAt t v) = .ok v :=
  roundtrip_core env t v h

/-- a second trip produces the identical serialisation (and the identical value again) -/
theorem roundtrip_idempotent (env : Env) (t : Ty) (v : PyVal) (h : Valid env t v) :
    ∃ v', decode env t (encode v) = .ok v' ∧ encode v' = encode v ∧
      decode env t (encode v') = .ok v' := by
  refine ⟨v, roundtrip_core env t v h, rfl, roundtrip_core env t v h⟩

/-- the serialised form of a validated schema instance -/
def dumped : PyVal → List (Str × Json)
  | .obj _ fs cs xs => encodeFields fs ++ cs ++ xs.filter (fun p => !isNull p.2)
  | _ => []

theorem encode_obj (n : Str) (fs : List (Str × PyVal)) (cs xs : List (Str × Json)) :
    encode (.obj n fs cs xs) = .obj (dumped (.obj n fs cs xs)) := by
  simp [encode, dumped]

theorem decode_model_shape (env : Env) (n : Str) (ex : Extra) (fs : List Field)
    (cs : List (Str × Json)) (j : Json) (v : PyVal)
    (h : decode env (.model n ex fs cs) j = .ok v) :
    ∃ kvs fvs xs, asDict j = some kvs ∧ decodeFields env fs kvs = .ok fvs ∧ v = .obj n fvs cs xs := by
  simp only [decode] at h
  split at h
  · cases h
  · rename_i kvs hd
    split at h
    · cases h
    · rename_i fvs hf
      suffices ∃ xs, v = .obj n fvs cs xs from this.elim fun xs e => ⟨kvs, fvs, xs, hd, hf, e⟩
      split at h
      · exact ⟨_, (Except.ok.inj h).symm⟩
      · exact ⟨_, (Except.ok.inj h).symm⟩
      · split at h
        · exact ⟨_, (Except.ok.inj h).symm⟩
        · cases h

/-- **Constants are forced on output**: whatever was parsed (whatever the input said about
the constant keys), the dump has every declared constant with its constant value. -/
theorem constants_forced (env : Env) (n : Str) (ex : Extra) (fs : List Field)
    (cs : List (Str × Json)) (j : Json) (v : PyVal)
    (hdisj : ∀ f ∈ fs, hasKey (fieldName f) cs = false)
    (h : decode env (.model n ex fs cs) j = .ok v) :
    ∀ k, hasKey k cs = true → lookup k (dumped v) = lookup k cs := by
  obtain ⟨kvs, fvs, xs, _, hf, rfl⟩ := decode_model_shape env n ex fs cs j v h
  intro k hk
  have hkeys := decodeFields_keys env fs kvs fvs hf
  -- a constant key is no declared name, so the dumped fields do not have it
  have h1 : lookup k (encodeFields fvs) = none := by
    refine lookup_none_of_notin k _ fun p hp e => ?_
    obtain ⟨q, hq, e2⟩ := encodeFields_keys fvs p hp
    obtain ⟨f, hf', hfn⟩ := List.mem_map.mp (hkeys ▸ List.mem_map.mpr ⟨q, hq, e2⟩)
    exact absurd (hdisj f hf') (by simp [hfn, e, hk])
  obtain ⟨c, hc⟩ := Option.isSome_iff_exists.mp (hasKey_eq_isSome k cs ▸ hk)
  simp [dumped, List.append_assoc, lookup_append, h1, hc]

/-- **Constants are ignored on input**: supplying any value under a constant key changes
nothing. -/
theorem constants_ignored (env : Env) (n : Str) (ex : Extra) (fs : List Field)
    (cs : List (Str × Json)) (kvs : List (Str × Json)) (k : Str) (x : Json)
    (hk : hasKey k cs = true) (hdisj : ∀ f ∈ fs, hasKey (fieldName f) cs = false) :
    decode env (.model n ex fs cs) (.obj (setKey k x kvs)) = decode env (.model n ex fs cs) (.obj kvs) :=
  decode_setKeys_consts env n ex fs cs hdisj [(k, x)] kvs (by simpa using hk)

/-- **An omitted optional stays omitted**: a field without default that the input does not
mention is `none` in the instance, absent from the dump, and `none` again after re-parsing. -/
theorem omitted_optional_stable (env : Env) (f : Str) (t : Ty) (kvs : List (Str × Json))
    (h : lookup f kvs = none) :
    decodeField env (.mk f t false none) kvs = .ok (f, .none) ∧
      encodeFields [(f, PyVal.none)] = [] ∧
      decodeField env (.mk f t false none) (encodeFields [(f, PyVal.none)]) = .ok (f, .none) := by
  simp [decodeField, h, encodeFields, lookup]

/-! ## non-vacuity: a concrete schema with every ingredient -/

/-- a toy library environment: every string is its own normal form, `"?"` is refused -/
def envEx : Env where
  norm := fun _ s => if s = ['?'] then none else some s
  normFloat := fun t => some t

/-- nested schema (forbids extras) -/
def refTy : Ty := .model "Ref".toList .forbid [.mk "id".toList (.cstr .nes) true none] []

/-- a schema with strict primitives incl. falsy values, constrained string, Literal,
Optional, Union, List, Set, nested schema, opaque values, a default, two constants -/
def thingTy : Ty :=
  .model "Thing".toList .allow
    [ .mk "b".toList .bool true none,
      .mk "i".toList .int true none,
      .mk "x".toList .float true none,
      .mk "s".toList (.opt .str) false none,
      .mk "m".toList (.opt (.cstr .mime)) false none,
      .mk "l".toList (.lit [.str "a".toList, .int 1]) true none,
      .mk "u".toList (.opt (.union [refTy, .cstr .nes])) false none,
      .mk "li".toList (.list .int) true none,
      .mk "se".toList (.set (.cstr .hash)) true none,
      .mk "d".toList (.opt (.opq .dur)) false none,
      .mk "q".toList (.opq .qty) true none,
      .mk "n".toList .int false (some (.int 5)) ]
    [("@context".toList, .str "https://schema.org".toList), ("@type".toList, .str "Thing".toList)]

def thingVal : PyVal :=
  .obj "Thing".toList
    [ ("b".toList, .bool false), ("i".toList, .int 0), ("x".toList, .float "0.0".toList),
      ("s".toList, .none), ("m".toList, .str "a/b;c".toList), ("l".toList, .int 1),
      ("u".toList, .obj "Ref".toList [("id".toList, .str "r1".toList)] [] []),
      ("li".toList, .list []), ("se".toList, .set [.str "ab12".toList, .str "0".toList]),
      ("d".toList, .none), ("q".toList, .opq .qty "5 meter".toList), ("n".toList, .int 5) ]
    [("@context".toList, .str "https://schema.org".toList), ("@type".toList, .str "Thing".toList)]
    [("zz".toList, .arr [.int 1, .null])]

/-- the hypotheses of `roundtrip` are satisfiable by a rich value … -/
example : decode envEx thingTy (encode thingVal) = .ok thingVal := by rfl

/-- … which is what the parser produces from an input with omitted optionals, a constant
supplied with another value and an explicit falsy value -/
example : decode envEx thingTy (.obj
    [ ("b".toList, .bool false), ("i".toList, .int 0), ("x".toList, .float "0.0".toList),
      ("m".toList, .str "a/b;c".toList), ("l".toList, .bool true), ("@type".toList, .str "Other".toList),
      ("u".toList, .obj [("id".toList, .str "r1".toList)]), ("li".toList, .arr []),
      ("se".toList, .arr [.str "ab12".toList, .str "0".toList, .str "ab12".toList]),
      ("q".toList, .str "5 meter".toList), ("zz".toList, .arr [.int 1, .null]) ]) = .ok thingVal := by rfl

example : Valid envEx (.opt (.list (.union [.int, .cstr .nes]))) (.list [.int 0, .str "x".toList]) := by
  refine .inr ⟨_, rfl, fun x hx => ?_⟩
  rcases List.mem_cons.mp hx with rfl | hx
  · exact .inl ⟨_, rfl⟩
  · cases List.mem_singleton.mp hx
    exact .inr ⟨⟨.type, rfl, by decide⟩, .inl ⟨_, rfl, rfl⟩⟩

/-- the documented exclusion: an explicit `None` for a field with a non-`None` default reads
back as the default (so such values are not `Valid`: `ValidF`) -/
theorem explicit_none_reads_default :
    let t : Ty := .model "D".toList .allow [.mk "n".toList (.opt .int) false (some (.int 5))] []
    decode envEx t (.obj [("n".toList, .null)]) = .ok (.obj "D".toList [("n".toList, .none)] [] []) ∧
    decode envEx t (encode (.obj "D".toList [("n".toList, .none)] [] []))
      = .ok (.obj "D".toList [("n".toList, .int 5)] [] []) := ⟨by rfl, by rfl⟩

/-- why the library hypothesis is needed: with an encoder that loses the unit
("5 meter" ↦ "5", which the parser reads as the dimensionless "5 dimensionless") the round
trip fails -/
theorem roundtrip_needs_unit :
    let env : Env := { norm := fun _ s => if s = "5 meter".toList then some "5".toList
                                            else if s = "5".toList then some "5 dimensionless".toList else some s,
                       normFloat := fun t => some t }
    ∃ v j, decode env (.opq .qty) j = .ok v ∧ decode env (.opq .qty) (encode v) ≠ .ok v :=
  ⟨.opq .qty "5".toList, .str "5 meter".toList, by rfl, fun h => by
    have h : PyVal.opq .qty "5 dimensionless".toList = .opq .qty "5".toList := Except.ok.inj h
    injection h with _ h
    revert h
    -- turns each string literal into its list of characters by a lemma: decoding it inside `decide` is dear
    repeat rw [String.toList_ofList]
    decide⟩

/-- the pinned tree (before `fix: SchemaMagic.__init__ chains to the encoder metaclass`)
could not serialise any instance holding a duration, unit or quantity -/
theorem legacy_opaque_not_serialisable (k : Opq) (s : Str) (n : Str) (f : Str)
    (cs xs : List (Str × Json)) :
    Legacy.encode? (.obj n [(f, .opq k s)] cs xs) = none := by
  simp [Legacy.encode?, Legacy.encodeFields?]

/-! ## constants of nested schema values -/

mutual
/-- the schema instances a value holds, at any depth (the value itself included) -/
def subObjs : PyVal → List PyVal
  | .obj n fs cs xs => .obj n fs cs xs :: subObjsFs fs
  | .list vs => subObjsL vs
  | .set vs => subObjsL vs
  | _ => []
def subObjsL : List PyVal → List PyVal
  | [] => []
  | v :: vs => subObjs v ++ subObjsL vs
def subObjsFs : List (Str × PyVal) → List PyVal
  | [] => []
  | (_, v) :: r => subObjs v ++ subObjsFs r
end

mutual
/-- the schema class `m` occurs in the field type (at any depth, the type itself included) -/
def InTy (m : Ty) : Ty → Prop
  | .opt t => InTy m t
  | .ann t => InTy m t
  | .list t => InTy m t
  | .set t => InTy m t
  | .union ts => InTys m ts
  | .model n e fs cs => m = .model n e fs cs ∨ InFs m fs
  | _ => False
def InTys (m : Ty) : List Ty → Prop
  | [] => False
  | t :: ts => InTy m t ∨ InTys m ts
def InFs (m : Ty) : List Field → Prop
  | [] => False
  | f :: fs => InF m f ∨ InFs m fs
def InF (m : Ty) : Field → Prop
  | .mk _ t _ _ => InTy m t
end

/-- `w` is what validation against the schema class `m` returned for some input -/
def DecodedBy (env : Env) (m : Ty) (w : PyVal) : Prop :=
  ∃ n e fs cs j, m = .model n e fs cs ∧ decode env m j = .ok w

theorem subObjs_of_hashable (v : PyVal) (h : hashable v = true) : subObjs v = [] := by
  cases v <;> simp [hashable] at h <;> simp [subObjs]

theorem mem_dedup : ∀ (vs : List PyVal) (x : PyVal), x ∈ dedup vs → x ∈ vs
  | [], x, h => by simp [dedup] at h
  | v :: vs, x, h => by
    simp only [dedup, List.mem_cons, List.mem_filter] at h
    rcases h with h | ⟨h, _⟩
    · simp [h]
    · simp [mem_dedup vs x h]

theorem subObjsL_mem (vs : List PyVal) (w : PyVal) :
    w ∈ subObjsL vs ↔ ∃ v ∈ vs, w ∈ subObjs v := by
  induction vs with
  | nil => simp [subObjsL]
  | cons v vs ih => simp [subObjsL, ih]

theorem allOk_map_mem {α β : Type} (f : α → Except Err β) : ∀ (xs : List α) (vs : List β),
    allOk (xs.map f) = .ok vs → ∀ v ∈ vs, ∃ x ∈ xs, f x = .ok v
  | [], vs, h, v, hv => by
    cases h
    cases hv
  | x :: xs, vs, h, v, hv => by
    simp only [List.map_cons] at h
    cases hx : f x with
    | error e =>
      simp only [hx, allOk] at h
      split at h <;> cases h
    | ok a =>
      cases hr : allOk (xs.map f) with
      | error e => simp [hx, hr, allOk, mapOk] at h
      | ok l =>
        obtain rfl : a :: l = vs := by simpa [hx, hr, allOk, mapOk] using h
        rcases List.mem_cons.mp hv with rfl | hv
        · exact ⟨x, by simp, hx⟩
        · obtain ⟨y, hy, e⟩ := allOk_map_mem f xs l hr v hv
          exact ⟨y, by simp [hy], e⟩

mutual
/-- every schema instance inside a decoded value is itself the result of validating some input
against a schema class that the field type mentions -/
theorem subObjs_decoded (env : Env) : ∀ (t : Ty) (j : Json) (v : PyVal), decode env t j = .ok v →
    ∀ w ∈ subObjs v, ∃ m, InTy m t ∧ DecodedBy env m w
  | .bool, j, v, h, w, hw | .int, j, v, h, w, hw | .float, j, v, h, w, hw | .str, j, v, h, w, hw
  | .cstr _, j, v, h, w, hw | .opq _, j, v, h, w, hw => by
    -- a scalar holds no schema instance
    cases j <;> simp only [decode] at h <;> (repeat' split at h) <;> cases h <;> cases hw
  | .lit vs, j, v, h, w, hw => by
    simp only [decode, decodeLit] at h
    split at h <;> cases h
    rename_i l _
    cases l <;> cases hw
  | .opt t, j, v, h, w, hw => by
    by_cases hj : j = .null
    · subst hj
      cases h
      cases hw
    · rw [decode_opt_nonnull env t j hj] at h
      exact subObjs_decoded env t j v h w hw
  | .ann t, j, v, h, w, hw => subObjs_decoded env t j v h w hw
  | .union ts, j, v, h, w, hw => subObjsU_decoded env ts j v h w hw
  | .list t, j, v, h, w, hw => by
    cases j <;> simp only [decode] at h <;> try cases h
    rename_i xs
    cases ha : allOk (xs.map (fun x => decode env t x)) with
    | error e => simp [ha, mapOk] at h
    | ok vs =>
      obtain rfl : .list vs = v := by simpa [ha, mapOk] using h
      obtain ⟨x, hx, hwx⟩ := (subObjsL_mem vs w).mp hw
      obtain ⟨jx, _, hjx⟩ := allOk_map_mem _ xs vs ha x hx
      exact subObjs_decoded env t jx x hjx w hwx
  | .set t, j, v, h, w, hw => by
    cases j <;> simp only [decode] at h <;> try cases h
    rename_i xs
    cases ha : allOk (xs.map (fun x => decode env t x)) with
    | error e => simp [ha] at h
    | ok vs =>
      simp only [ha, mkSet] at h
      split at h <;> cases h
      obtain ⟨x, hx, hwx⟩ := (subObjsL_mem _ w).mp hw
      obtain ⟨jx, _, hjx⟩ := allOk_map_mem _ xs vs ha x (mem_dedup vs x hx)
      exact subObjs_decoded env t jx x hjx w hwx
  | .model n e fs cs, j, v, h, w, hw => by
    obtain ⟨kvs, fvs, xs, _, hf, rfl⟩ := decode_model_shape env n e fs cs j v h
    rcases List.mem_cons.mp hw with rfl | hw
    · exact ⟨_, .inl rfl, ⟨n, e, fs, cs, j, rfl, h⟩⟩
    · obtain ⟨m, hm, hd⟩ := subObjsFs_decoded env fs kvs fvs hf w hw
      exact ⟨m, .inr hm, hd⟩
theorem subObjsU_decoded (env : Env) : ∀ (ts : List Ty) (j : Json) (v : PyVal), decodeUnion env ts j = .ok v →
    ∀ w ∈ subObjs v, ∃ m, InTys m ts ∧ DecodedBy env m w
  | [], j, v, h, w, hw => by cases h
  | t :: ts, j, v, h, w, hw => by
    simp only [decodeUnion] at h
    split at h
    · cases h
      obtain ⟨m, hm, hd⟩ := subObjs_decoded env t j _ ‹_› w hw
      exact ⟨m, .inl hm, hd⟩
    · cases h
    · obtain ⟨m, hm, hd⟩ := subObjsU_decoded env ts j v h w hw
      exact ⟨m, .inr hm, hd⟩
theorem subObjsFs_decoded (env : Env) : ∀ (fs : List Field) (kvs : List (Str × Json)) (fvs : List (Str × PyVal)),
    decodeFields env fs kvs = .ok fvs → ∀ w ∈ subObjsFs fvs, ∃ m, InFs m fs ∧ DecodedBy env m w
  | [], kvs, fvs, h, w, hw => by
    cases h
    cases hw
  | f :: fs, kvs, fvs, h, w, hw => by
    obtain ⟨⟨k, pv⟩, r, h1, h2, rfl⟩ := decodeFields_cons_ok env f fs kvs fvs h
    rcases List.mem_append.mp hw with hw | hw
    · obtain ⟨m, hm, hd⟩ := subObjsF_decoded env f kvs (k, pv) h1 w hw
      exact ⟨m, .inl hm, hd⟩
    · obtain ⟨m, hm, hd⟩ := subObjsFs_decoded env fs kvs r h2 w hw
      exact ⟨m, .inr hm, hd⟩
theorem subObjsF_decoded (env : Env) : ∀ (f : Field) (kvs : List (Str × Json)) (p : Str × PyVal),
    decodeField env f kvs = .ok p → ∀ w ∈ subObjs p.2, ∃ m, InF m f ∧ DecodedBy env m w
  | .mk n t req d, kvs, p, h, w, hw => by
    rcases decodeField_ok env n t req d kvs p h with rfl | ⟨j, v, hd, rfl⟩
    · cases hw
    · exact subObjs_decoded env t j v hd w hw
end

/-- every schema class the type mentions keeps its field names and its constant keys apart
(what `add_const_fields` guarantees: a constant replaces a field of the same name) -/
def ConstsApart (t : Ty) : Prop :=
  ∀ n e fs cs, InTy (.model n e fs cs) t → ∀ f ∈ fs, hasKey (fieldName f) cs = false

/-- **Constants are forced on output at every depth**: every schema instance held anywhere inside
a parsed value (nested field, list item, union alternative, default value) is an instance of a
class the type mentions, carries exactly the declared constants of that class, and its part of
the dump shows each of them with the constant value. -/
theorem constants_forced_nested (env : Env) (t : Ty) (j : Json) (v : PyVal)
    (hap : ConstsApart t) (h : decode env t j = .ok v) :
    ∀ w ∈ subObjs v, ∃ n e fs cs, InTy (.model n e fs cs) t ∧ (∃ fvs xs, w = .obj n fvs cs xs) ∧
      ∀ k, hasKey k cs = true → lookup k (dumped w) = lookup k cs := by
  intro w hw
  obtain ⟨m, hm, n, e, fs, cs, j', rfl, hd⟩ := subObjs_decoded env t j v h w hw
  refine ⟨n, e, fs, cs, hm, ?_, constants_forced env n e fs cs j' w (hap n e fs cs hm) hd⟩
  obtain ⟨_, fvs, xs, _, _, hv⟩ := decode_model_shape env n e fs cs j' w hd
  exact ⟨fvs, xs, hv⟩

mutual
/-- the JSON values a JSON value holds, at any depth (the value itself included) -/
def subJsons : Json → List Json
  | .arr xs => .arr xs :: subJsonsL xs
  | .obj kvs => .obj kvs :: subJsonsKv kvs
  | j => [j]
def subJsonsL : List Json → List Json
  | [] => []
  | x :: r => subJsons x ++ subJsonsL r
def subJsonsKv : List (Str × Json) → List Json
  | [] => []
  | (_, x) :: r => subJsons x ++ subJsonsKv r
end

theorem subJsonsKv_append (a b : List (Str × Json)) :
    subJsonsKv (a ++ b) = subJsonsKv a ++ subJsonsKv b := by
  induction a with
  | nil => simp [subJsonsKv]
  | cons p a ih => obtain ⟨k, x⟩ := p; simp [subJsonsKv, ih]

mutual
/-- … and the dump of a nested instance is the part of the whole dump at its place: nothing on
the way (lists, sets, `exclude_none`) drops or rewrites it -/
theorem encode_subObjs : ∀ (v w : PyVal), w ∈ subObjs v → encode w ∈ subJsons (encode v)
  | .obj n fs cs xs, w, hw => by
    simp only [subObjs, List.mem_cons] at hw
    rcases hw with rfl | hw
    · simp [encode, subJsons]
    · have := encodeFs_subObjs fs w hw
      simp [encode, subJsons, subJsonsKv_append, this]
  | .list vs, w, hw | .set vs, w, hw => by
    have := encodeL_subObjs vs w hw
    simp [encode, subJsons, this]
  | .none, w, hw | .bool _, w, hw | .int _, w, hw | .float _, w, hw | .str _, w, hw | .opq _ _, w, hw => by cases hw
theorem encodeL_subObjs : ∀ (vs : List PyVal) (w : PyVal), w ∈ subObjsL vs →
    encode w ∈ subJsonsL (encodeList vs)
  | [], w, hw => by cases hw
  | v :: vs, w, hw => by
    rcases List.mem_append.mp hw with hw | hw
    · simp [encodeList, subJsonsL, encode_subObjs v w hw]
    · simp [encodeList, subJsonsL, encodeL_subObjs vs w hw]
theorem encodeFs_subObjs : ∀ (fs : List (Str × PyVal)) (w : PyVal), w ∈ subObjsFs fs →
    encode w ∈ subJsonsKv (encodeFields fs)
  | [], w, hw => by cases hw
  | (k, v) :: r, w, hw => by
    by_cases hv : v = .none
    · subst hv
      exact encodeFs_subObjs r w hw
    · rw [encodeFields_cons_ne k v r hv]
      rcases List.mem_append.mp hw with hw | hw
      · simp [subJsonsKv, encode_subObjs v w hw]
      · simp [subJsonsKv, encodeFs_subObjs r w hw]
end

/-- non-vacuity: a schema holding a list of nested schema instances; both the nested instance and the
outer one show their own `@type` -/
def stepTy : Ty := .model "Step".toList .allow [.mk "label".toList (.cstr .nes) true none]
  [("@type".toList, .str "HowToStep".toList)]
def protoTy : Ty := .model "Proto".toList .allow [.mk "steps".toList (.list stepTy) true none]
  [("@type".toList, .str "HowTo".toList)]

example : ConstsApart protoTy := by
  intro n e fs cs h
  rcases h with h | ((h | h | h) | h) <;> cases h <;> (repeat rw [String.toList_ofList]) <;> decide

def stepVal : PyVal :=
  .obj "Step".toList [("label".toList, .str "s1".toList)] [("@type".toList, .str "HowToStep".toList)] []
def protoVal : PyVal :=
  .obj "Proto".toList [("steps".toList, .list [stepVal])] [("@type".toList, .str "HowTo".toList)] []

example : decode envEx protoTy (.obj [("steps".toList, .arr [.obj [("label".toList, .str "s1".toList),
    ("@type".toList, .str "Other".toList)]])]) = .ok protoVal := by rfl
example : stepVal ∈ subObjs protoVal := .tail _ (.head _)
example : lookup "@type".toList (dumped stepVal) = some (.str "HowToStep".toList) := by rfl

end MetadorModel.C12
