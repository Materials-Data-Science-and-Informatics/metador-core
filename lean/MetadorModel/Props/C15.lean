import MetadorModel.Proofs.Acl
/-!
# C15 — Node restrictions cannot be escaped by navigating the container

Property theorems about `MetadorModel.Acl`. All of them are stated for an arbitrary guard
table `t` with `TableOk t` and an arbitrary fixed tree `T`, for navigation chains of any
length. `Bridge/AclTable.lean` shows on every run that the table extracted from the current
source is such a table. Helper lemmas live in `Proofs/Acl.lean`.
-/
namespace MetadorModel.C15
open MetadorModel MetadorModel.Acl

/-! ## Flags only grow along a chain -/

/-- one navigation step (child lookup, listing + lookup, visit, query result, `require_*`,
absolute lookup, `parent`, `restrict`) never loses a flag -/
theorem step_monotone (t : AclTable) (ht : TableOk t = true) (T : Tree) (w w' : Wrapper) (s : Step)
    (h : step t T w s = .ok w') : w.flags.le w'.flags = true := by
  have F := facts_of_tableOk t ht
  rcases step_cases t F T w w' s h with h | ⟨p, h, _⟩ | ⟨_, p, f, rest, _, h⟩ | ⟨f, h⟩
  · rw [h]; exact Flags.le_refl _
  · rw [h]; exact Flags.le_refl _
  · rw [h]; exact Flags.le_union_right _ _
  · rw [h]; exact Flags.le_union_left _ _

/-- `flags start ⊆ flags (nav chain start)` for every chain -/
theorem flags_monotone (t : AclTable) (ht : TableOk t = true) (T : Tree) (chain : List Step)
    (start w : Wrapper) (h : nav t T chain start = .ok w) : start.flags.le w.flags = true :=
  nav_invariant t T (fun x => start.flags.le x.flags = true)
    (fun x y s hx hs => Flags.le_trans hx (step_monotone t ht T x y s hs)) chain start w
    (Flags.le_refl _) h

example : (nav currentTable [(["g"], true), (["g", "d"], false)]
    [.child .getitem ["g"], .restrict ⟨true, false, false⟩, .parent, .child .visititems ["g", "d"]]
    ⟨[], ⟨false, true, false⟩, []⟩).toOption =
    some ⟨["g", "d"], ⟨true, true, false⟩, [([], ⟨true, true, false⟩)]⟩ := by decide

/-! ## read_only: every mutating operation is refused without effect -/

/-- on a read-only wrapper every mutating operation on data, attributes or metadata raises
`UnsupportedOperationError` and the raw state is what it was -/
theorem ro_refuses {σ α : Type} (t : AclTable) (ht : TableOk t = true) (w : Wrapper) (isGroup : Bool)
    (hro : w.flags.ro = true) (op : String) (hop : op ∈ mutatingOps)
    (raw : σ → Except NavErr (σ × α)) (s : σ) :
    runOp t isGroup w op raw s = .error .unsupported ∧
    stateAfter s (runOp t isGroup w op raw s) = s := by
  have F := facts_of_tableOk t ht
  have := runOp_refused t F isGroup w op .ro (F.mutG op hop) hro raw s
  exact ⟨this, by rw [this]; rfl⟩

/-- … and this holds for every node reachable from a read-only start by any chain -/
theorem ro_refuses_after_nav {σ α : Type} (t : AclTable) (ht : TableOk t = true) (T : Tree)
    (chain : List Step) (start w : Wrapper) (hro : start.flags.ro = true)
    (h : nav t T chain start = .ok w) (isGroup : Bool) (op : String) (hop : op ∈ mutatingOps)
    (raw : σ → Except NavErr (σ × α)) (s : σ) :
    w.flags.ro = true ∧ runOp t isGroup w op raw s = .error .unsupported ∧
    stateAfter s (runOp t isGroup w op raw s) = s := by
  have hw : w.flags.ro = true :=
    Flags.le_iff.1 (flags_monotone t ht T chain start w h) .ro hro
  exact ⟨hw, ro_refuses t ht w isGroup hw op hop raw s⟩

example : "move" ∈ mutatingOps ∧ "meta.__delitem__" ∈ mutatingOps ∧ "attrs.__setitem__" ∈ mutatingOps ∧
    (runOp currentTable true ⟨["g"], ⟨true, false, false⟩, []⟩ "move"
      (fun (s : Nat) => .ok (s + 1, ())) 7).toOption = none ∧
    (runOp currentTable true ⟨["g"], ⟨false, false, true⟩, []⟩ "move"
      (fun (s : Nat) => .ok (s + 1, ())) 7).toOption = some (8, ()) := by decide

/-! ## skel_only: no contents, attribute values or metadata objects -/

theorem skel_hides {σ α : Type} (t : AclTable) (ht : TableOk t = true) (w : Wrapper) (isGroup : Bool)
    (hsk : w.flags.skel = true) (op : String) (hop : op ∈ readingOps)
    (raw : σ → Except NavErr (σ × α)) (s : σ) :
    runOp t isGroup w op raw s = .error .unsupported :=
  have F := facts_of_tableOk t ht
  runOp_refused t F isGroup w op .skel (F.readG op hop) hsk raw s

theorem skel_hides_after_nav {σ α : Type} (t : AclTable) (ht : TableOk t = true) (T : Tree)
    (chain : List Step) (start w : Wrapper) (hsk : start.flags.skel = true)
    (h : nav t T chain start = .ok w) (isGroup : Bool) (op : String) (hop : op ∈ readingOps)
    (raw : σ → Except NavErr (σ × α)) (s : σ) :
    w.flags.skel = true ∧ runOp t isGroup w op raw s = .error .unsupported := by
  have hw : w.flags.skel = true :=
    Flags.le_iff.1 (flags_monotone t ht T chain start w h) .skel hsk
  exact ⟨hw, skel_hides t ht w isGroup hw op hop raw s⟩

/-- the attribute manager of a restricted node: under `skel_only` no value-yielding method,
under `read_only` no mutating method gets through `WrappedAttributeManager.__getattr__`
(whatever other flags are set) -/
theorem attr_manager_restricted (t : AclTable) (ht : TableOk t = true) (f : Flags) :
    (f.skel = true → ∀ m ∈ attrValueMethods, t.attrMethodRefused f m = true) ∧
    (f.ro = true → ∀ m ∈ attrMutMethods, t.attrMethodRefused f m = true) := by
  have A := attrFacts_of_tableOk t ht
  -- the allowed set only depends on the ro and skel flags
  have hdep : t.attrAllowed f = t.attrAllowed ⟨f.ro, false, f.skel⟩ := by
    have : (t.attrWhitelist.filter fun e => f.has e.1) =
        t.attrWhitelist.filter fun e => (⟨f.ro, false, f.skel⟩ : Flags).has e.1 :=
      List.filter_congr fun e he => by
        have := A.keys e he
        cases hk : e.1 <;> simp [hk, Flags.has] at this ⊢
    simp only [AclTable.attrAllowed, this]
  have hwrapped : ∀ fl, t.attrsWrappedFor.contains fl = true → f.has fl = true →
      t.attrsWrapped f = true :=
    fun fl hc hf => List.any_eq_true.2 ⟨fl, List.contains_iff_mem.1 hc, hf⟩
  constructor
  · intro hsk m hm
    simp only [AclTable.attrMethodRefused, hwrapped .skel A.wrappedSkel hsk, Bool.true_and, Bool.and_eq_true]
    rw [hdep, hsk]
    cases f.ro
    · exact ⟨A.skelNonempty, A.skelNoValue m hm⟩
    · exact ⟨A.bothNonempty, A.bothNoValue m hm⟩
  · intro hro m hm
    simp only [AclTable.attrMethodRefused, hwrapped .ro A.wrappedRo hro, Bool.true_and, Bool.and_eq_true]
    rw [hdep, hro]
    cases f.skel
    · exact ⟨A.roNonempty, A.roNoMut m hm⟩
    · exact ⟨A.bothNonempty, A.bothNoMut m hm⟩

example : currentTable.attrMethodRefused ⟨false, false, true⟩ "get" = true ∧
    currentTable.attrMethodRefused ⟨true, false, false⟩ "get" = false ∧
    currentTable.attrMethodRefused ⟨true, true, false⟩ "update" = true ∧
    currentTable.attrMethodRefused ⟨false, true, false⟩ "update" = false := by decide

/-! ## local_only: nothing above the node it was declared on -/

/-- prefix order on paths: `a` is `b` or an ancestor of `b` -/
def atOrBelow (root p : Path) : Prop := ∃ rel, p = root ++ rel

/-- From a node declared `local_only` (no remembered parent: `restrict(local_only=True)` clears
it), every node reachable by any chain lies at or below it, still is `local_only`, and only
remembers parents at or below it. -/
theorem local_confined (t : AclTable) (ht : TableOk t = true) (T : Tree) (chain : List Step)
    (start w : Wrapper) (hloc : start.flags.loc = true) (hroot : start.lps = [])
    (h : nav t T chain start = .ok w) :
    atOrBelow start.path w.path ∧ w.flags.loc = true := by
  have F := facts_of_tableOk t ht
  let Inv : Wrapper → Prop := fun x =>
    x.flags.loc = true ∧ atOrBelow start.path x.path ∧ ∀ e ∈ x.lps, atOrBelow start.path e.1
  have hstep : ∀ x y s, Inv x → step t T x s = .ok y → Inv y := by
    intro x y s ⟨hl, hp, hlp⟩ hs
    rcases step_cases t F T x y s hs with
      rfl | ⟨p, rfl, ⟨rel, rfl⟩ | hnl⟩ | ⟨_, p, f, rest, hlps, rfl⟩ | ⟨f, rfl⟩
    · exact ⟨hl, hp, hlp⟩
    · obtain ⟨r0, hr0⟩ := hp
      refine ⟨hl, ⟨r0 ++ rel, by simp [hr0]⟩, ?_⟩
      simp only [hl, ↓reduceIte, List.forall_mem_cons]
      exact ⟨⟨r0, hr0⟩, hlp⟩
    · rw [hl] at hnl; cases hnl
    · rw [hlps] at hlp
      exact ⟨by simp [Flags.union, hl], hlp _ List.mem_cons_self,
        fun e he => hlp e (List.mem_cons_of_mem _ he)⟩
    · refine ⟨by simp [Flags.union, hl], hp, fun e he => ?_⟩
      split at he
      · cases he
      · exact hlp e he
  have h0 : Inv start := ⟨hloc, ⟨[], by simp⟩, by rw [hroot]; intro e he; cases he⟩
  obtain ⟨h1, h2, _⟩ := nav_invariant t T Inv hstep chain start w h0 h
  exact ⟨h2, h1⟩

/-- a `local_only` wrapper refuses `file`, refuses `parent` when it is the declared node, and
refuses absolute paths -/
theorem local_upward_refused {σ α : Type} (t : AclTable) (ht : TableOk t = true) (T : Tree)
    (w : Wrapper) (isGroup : Bool) (hloc : w.flags.loc = true)
    (raw : σ → Except NavErr (σ × α)) (s : σ) :
    runOp t isGroup w "file" raw s = .error .unsupported ∧
    (w.lps = [] → step t T w .parent = .error .unsupported) ∧
    (∀ p path, T.kind w.path = some true → (p = .getitem ∨ p = .get) →
      step t T w (.abs p path) = .error .value) := by
  have F := facts_of_tableOk t ht
  refine ⟨runOp_refused t F isGroup w "file" .loc (F.upG "file" (by simp [upwardOps])) hloc raw s,
    step_parent_root t F T w hloc, ?_⟩
  · intro p path hk hp2
    rcases hp2 with hp2 | hp2 <;> simp [step, hk, hp2, F.absGuard, hloc]

example : errOf (nav currentTable [(["g"], true), (["g", "h"], true)]
    [.child .get ["h"], .parent, .parent] ⟨["g"], ⟨false, true, false⟩, []⟩) = some .unsupported ∧
    (nav currentTable [(["g"], true), (["g", "h"], true)]
    [.child .get ["h"], .parent] ⟨["g"], ⟨false, true, false⟩, []⟩).toOption =
      some ⟨["g"], ⟨false, true, false⟩, []⟩ := by decide

/-! ## restrict only adds -/

theorem restrict_only_adds (t : AclTable) (ht : TableOk t = true) (T : Tree) (w : Wrapper) (f : Flags) :
    ∃ w', step t T w (.restrict f) = .ok w' ∧ w'.path = w.path ∧
      w.flags.le w'.flags = true ∧ f.le w'.flags = true ∧
      (f = ⟨false, false, false⟩ → w'.flags = w.flags) := by
  have F := facts_of_tableOk t ht
  refine ⟨⟨w.path, w.flags.union f, if f.loc then [] else w.lps⟩,
    by simp only [step, F.restrictOrs, ↓reduceIte], rfl, Flags.le_union_left _ _,
    Flags.le_union_right _ _, ?_⟩
  rintro rfl
  simp [Flags.union]

/-! ## The tables -/

/-- the hand-written table of the current source (used by the driver) is well-formed -/
theorem current_table_ok : TableOk currentTable = true := by decide

/-- Pinned behaviour (before F22): under `local_only` the remembered parent object was handed
out with its own flags — a node restricted as read-only reached a writable wrapper through
`parent`. The chain is the replay used against the implementation (corpus/C15). -/
theorem legacy_parent_drops_flags :
    (nav Legacy.table [(["g"], true)]
      [.child .getitem ["g"], .restrict ⟨true, false, false⟩, .parent]
      ⟨[], ⟨false, true, false⟩, []⟩).toOption.map (·.flags.ro) = some false ∧
    (nav currentTable [(["g"], true)]
      [.child .getitem ["g"], .restrict ⟨true, false, false⟩, .parent]
      ⟨[], ⟨false, true, false⟩, []⟩).toOption.map (·.flags.ro) = some true ∧
    TableOk Legacy.table = false := by decide

/-- Pinned behaviour (before the dataset `__getattr__` repair): `parent` of a `local_only`
dataset wrapper fell through to the raw dataset and yielded the unrestricted raw parent. -/
theorem legacy_dataset_parent_escapes :
    (step Legacy.tableFallback [(["g"], true), (["g", "d"], false)]
      ⟨["g", "d"], ⟨true, true, false⟩, []⟩ .parent).toOption =
      some ⟨["g"], ⟨false, false, false⟩, []⟩ ∧
    (step currentTable [(["g"], true), (["g", "d"], false)]
      ⟨["g", "d"], ⟨true, true, false⟩, []⟩ .parent).toOption = none ∧
    TableOk Legacy.tableFallback = false := by decide

end MetadorModel.C15
