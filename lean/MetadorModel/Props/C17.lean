import MetadorModel.Proofs.Bytes
/-!
# C17 — Embedded file bytes and their file metadata are exact

Theorems about `Model/Bytes.lean` (`_h5_wrap_bytes`, the read loop of `hashsum`,
`FileMetaHarvester.run`, `_is_del_mark` / `_guard_value`, the order of steps in `pack_file`).

`bytes_survive` (the wrapped value is what every later overlay history — patches, copy, move,
merge, reopen — shows at the node) is the instance `V := H5Val` of the C01/C05 refinement
theorems, which are parametric in the value type; it is proved there, not here. What is proved
here is everything that happens to the bytes before and after they are such a value.
-/
namespace MetadorModel.C17
open MetadorModel.Bytes

/-! ## Wrapping is lossless for every byte string -/

/-- reading back what `_h5_wrap_bytes` produced gives the bytes, for every byte string
(empty, NUL-rich, trailing NULs, high bytes, marker-like: no side condition). -/
theorem unwrap_wrap (bs : Bytes) : unwrap (wrapBytes bs) = bs := by
  unfold wrapBytes
  split_ifs with h
  · rfl
  · simp only [unwrap]
    have : bs.length = 0 := by omega
    exact (List.length_eq_zero_iff.mp this).symm

theorem wrap_injective (a b : Bytes) (h : wrapBytes a = wrapBytes b) : a = b := by
  rw [← unwrap_wrap a, ← unwrap_wrap b, h]

/-- HDF5 stores and returns the wrapped value unchanged, for every byte string (this is why
the empty string is special-cased: `np.void(b"")` is refused by HDF5). -/
theorem store_wrap (bs : Bytes) : h5Store (wrapBytes bs) = .ok (wrapBytes bs) := by
  unfold wrapBytes
  split_ifs with h
  · simp [h5Store, h]
  · rfl

theorem store_roundtrip (bs : Bytes) : (h5Store (wrapBytes bs)).map unwrap = .ok bs := by
  rw [store_wrap]
  show Except.ok (unwrap (wrapBytes bs)) = _
  rw [unwrap_wrap]

example : unwrap (wrapBytes []) = [] ∧ unwrap (wrapBytes [0x61, 0, 0]) = [0x61, 0, 0] ∧
    wrapBytes [] = .empty ∧ wrapBytes [0, 0] = .void [0, 0] := by decide

/-- Why the wrapping is needed: stored as a numpy `S` string the trailing NULs are lost,
stored as plain `bytes` a NUL is refused (concrete witnesses). -/
theorem naive_wrapping_not_exact :
    (h5Store (.fixed [0x61, 0])).map unwrap ≠ .ok [0x61, 0] ∧
    h5Store (.str [0x61, 0]) = .error .valueError ∧
    h5Store (.void []) = .error .valueError := by decide

/-! ## Chunked reading loses nothing: digest and size are those of the whole content -/

/-- the chunks read by the `hashsum` loop concatenate to the content, for every positive chunk
size -/
theorem chunks_flatten (n : Nat) (hn : 0 < n) (bs : Bytes) : (chunks n bs).flatten = bs :=
  chunks_flatten' n hn bs

/-- every chunk handed to `update` is non-empty and at most `n` bytes long -/
theorem chunks_bounded (n : Nat) (bs c : Bytes) (h : c ∈ chunks n bs) : c ≠ [] ∧ c.length ≤ n :=
  chunksAux_mem n _ bs c h

/-- with chunk size 0 nothing would be read (the loop ends at the first empty `read`): the
hypothesis `0 < n` cannot be dropped -/
theorem chunks_zero (bs : Bytes) : chunks 0 bs = [] := by
  simp [chunks, chunksAux]

example : chunks 2 [1, 2, 3, 4, 5] = [[1, 2], [3, 4], [5]] := by decide

/-- chunked digest = digest of the whole content, for any state type and any update function
that streams -/
theorem chunked_digest {σ : Type} (upd : σ → Bytes → σ)
    (hs : ∀ s a b, upd (upd s a) b = upd s (a ++ b)) (h0 : ∀ s, upd s [] = s)
    (init : σ) (n : Nat) (hn : 0 < n) (bs : Bytes) :
    hashChunks upd init n bs = upd init bs :=
  hashChunks_eq upd hs h0 init n hn bs

/-- the harvested file metadata: `contentSize` is the length, `sha256` is the one-shot SHA-256
of the content -/
theorem file_meta_exact {σ : Type} (hl : HashLib σ) (h : Streaming hl) (bs : Bytes) :
    harvestFileMeta hl bs = .ok { contentSize := bs.length, sha256 := oneShot hl sha256 bs } := by
  unfold harvestFileMeta
  rw [hashsum_eq_oneShot hl h sha256 (by simp [hashAlgs])]

/-- a hash library that satisfies `Streaming` (states are the bytes seen so far) -/
def demoLib : HashLib Bytes where
  new _ := []
  blockSize _ := 64
  update s c := s ++ c
  hexdigest s := s.map (fun b => Char.ofNat b.toNat)

theorem demoLib_streaming : Streaming demoLib :=
  ⟨fun s a b => List.append_assoc s a b, fun s => List.append_nil s, fun _ => Nat.zero_lt_succ 63⟩

/-! ## The deletion marker -/

/-- exactly one byte string wraps to the IH5 deletion marker -/
theorem del_marker_iff (bs : Bytes) : wrapBytes bs = delMark ↔ bs = [0x7f] := by
  constructor
  · intro h
    have := congrArg unwrap h
    rw [unwrap_wrap] at this
    exact this
  · intro h; subst h; rfl

theorem isDelMark_iff (v : H5Val) : isDelMark v = true ↔ v = delMark := by
  cases v <;> simp [isDelMark, delMark]

/-- … and `_is_del_mark` recognises exactly that one -/
theorem isDelMark_wrap_iff (bs : Bytes) : isDelMark (wrapBytes bs) = true ↔ bs = [0x7f] :=
  (isDelMark_iff _).trans (del_marker_iff bs)

/-- On IH5 the marker value is rejected loudly (`ValueError`) and nothing is stored (the
result is an error, there is no new store), whatever the store and the path. -/
theorem del_marker_rejected {σ : Type} (hl : HashLib σ) (st : Store) (p : Str) (bs : Bytes)
    (h : wrapBytes bs = delMark) :
    createDataset .ih5 st p (wrapBytes bs) = .error .valueError ∧
    packFile hl .ih5 st p bs = .error .valueError := by
  have hb := (del_marker_iff bs).mp h
  subst hb
  refine ⟨rfl, ?_⟩
  unfold packFile
  split_ifs
  · rfl
  · unfold harvestFileMeta hashsum
    rw [if_pos (by simp [hashAlgs])]
    rfl

/-- every other wrapped value passes the guard -/
theorem guard_passes (bs : Bytes) (h : bs ≠ [0x7f]) : guardValue (wrapBytes bs) = .ok () := by
  rw [guardValue, if_neg fun hd => h ((isDelMark_wrap_iff bs).mp hd)]

/-! ## `pack_file` then read -/

/-- Embedding a file at a fresh path succeeds (on plain HDF5 for every content, on IH5 for
every content but the marker) and a reader then sees exactly the bytes, their length and their
SHA-256; nothing else in the container changes. -/
theorem pack_read_exact {σ : Type} (hl : HashLib σ) (hs : Streaming hl) (drv : Driver)
    (st : Store) (p : Str) (bs : Bytes) (hfresh : st.get p = none)
    (hok : drv = .h5 ∨ bs ≠ [0x7f]) :
    ∃ st', packFile hl drv st p bs = .ok st' ∧
      readFile st' p = some (bs, some { contentSize := bs.length, sha256 := oneShot hl sha256 bs }) ∧
      ∀ q, q ≠ p → readFile st' q = readFile st q := by
  have hg : (if drv = .ih5 then guardValue (wrapBytes bs) else .ok ()) = .ok () := by
    split_ifs with hd
    · rcases hok with h | h
      · rw [hd] at h; cases h
      · exact guard_passes bs h
    · rfl
  refine ⟨{ data := (p, wrapBytes bs) :: st.data,
            fmeta := (p, { contentSize := bs.length, sha256 := oneShot hl sha256 bs }) :: st.fmeta }, ?_, ?_, ?_⟩
  · unfold packFile
    rw [hfresh, file_meta_exact hl hs]
    simp only [Option.isSome_none, Bool.false_eq_true, if_false]
    unfold createDataset
    rw [hg, store_wrap]
  · simp [readFile, Store.get, Store.getMeta, List.find?, unwrap_wrap]
  · intro q hq
    have hq' : (p == q) = false := by
      simp only [beq_eq_false_iff_ne, ne_eq]; exact fun h => hq h.symm
    simp [readFile, Store.get, Store.getMeta, List.find?, hq']

/-- both drivers show the same bytes and metadata for the same file -/
theorem drivers_agree {σ : Type} (hl : HashLib σ) (hs : Streaming hl) (st : Store) (p : Str)
    (bs : Bytes) (hfresh : st.get p = none) (hb : bs ≠ [0x7f]) :
    ∃ s1 s2, packFile hl .h5 st p bs = .ok s1 ∧ packFile hl .ih5 st p bs = .ok s2 ∧
      readFile s1 p = readFile s2 p ∧ (readFile s1 p).map (·.1) = some bs := by
  obtain ⟨s1, h1, r1, _⟩ := pack_read_exact hl hs .h5 st p bs hfresh (Or.inl rfl)
  obtain ⟨s2, h2, r2, _⟩ := pack_read_exact hl hs .ih5 st p bs hfresh (Or.inr hb)
  exact ⟨s1, s2, h1, h2, by rw [r1, r2], by rw [r1]; rfl⟩

/-- plain HDF5 has no reserved value: the marker-like content is stored and read back
unaltered -/
theorem plain_h5_keeps_marker {σ : Type} (hl : HashLib σ) (hs : Streaming hl) (st : Store)
    (p : Str) (hfresh : st.get p = none) :
    ∃ st', packFile hl .h5 st p [0x7f] = .ok st' ∧ (readFile st' p).map (·.1) = some [0x7f] := by
  obtain ⟨s1, h1, r1, _⟩ := pack_read_exact hl hs .h5 st p [0x7f] hfresh (Or.inl rfl)
  exact ⟨s1, h1, by rw [r1]; rfl⟩

/-! non-vacuity: concrete stores and contents meeting the hypotheses -/
example : (⟨[], []⟩ : Store).get ['x'] = none ∧ ([0x7f, 0] : Bytes) ≠ [0x7f] := by decide
example : packFile demoLib .ih5 ⟨[], []⟩ ['x'] [0x7f] = .error .valueError := by decide
example : (packFile demoLib .ih5 ⟨[], []⟩ ['x'] [0x7f, 0]).toOption.bind (readFile · ['x'])
    = some ([0x7f, 0], some ⟨2, ['\x7f', '\x00']⟩) := by decide
example : (packFile demoLib .h5 ⟨[], []⟩ ['x'] [0x7f]).toOption.bind (readFile · ['x'])
    = some ([0x7f], some ⟨1, ['\x7f']⟩) := by decide
example : (packFile demoLib .h5 ⟨[], []⟩ ['x'] []).toOption.bind (readFile · ['x'])
    = some ([], some ⟨0, []⟩) := by decide

end MetadorModel.C17
