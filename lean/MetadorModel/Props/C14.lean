import MetadorModel.Proofs.PartialKeep
/-!
# C14 — Merging partial metadata is a lossless, associative, non-mutating monoid

Property theorems about `MetadorModel.Partial` (model of `PartialModel._update_field`,
`merge_with`, `to_partial`, `from_partial`). Helper lemmas live in `Proofs/Partial*.lean`.

A partial instance is `PVal.obj cls fields` with key-sorted fields at every level (`wf`: the
canonical form of `__dict__`); an absent field is a missing key. `mergeWith ow x y` is
`x.merge_with(y, allow_overwrite=ow)`; it returns a new value and its operands are values of a
pure function, so "never mutates its operands" holds in the model by construction (on the
implementation it is checked by snapshots). `sameOutcome r s` reads "both results are the same
value, or both raise".
-/
namespace MetadorModel.C14
open MetadorModel MetadorModel.Partial

/-! ## the empty partial is a left and right identity -/

theorem merge_empty_left (ow : Bool) (c c' : Cls) (fs : Fields) (h : AL.sorted fs = true) :
    mergeWith ow (empty c) (.obj c' fs) = .ok (.obj c fs) := by
  have hp := mergeFields_keyWise ow h []
  rw [empty, mergeWith_obj]
  cases hr : mergeFields ow [] fs with
  | error e =>
    obtain ⟨k, e', he⟩ := hr ▸ hp
    cases he
  | ok r =>
    rw [hr] at hp
    rw [AL.ext (mergeFields_sorted rfl hr) h fun k => Except.ok.inj (hp k).symm]
    rfl

theorem merge_empty_left' (ow : Bool) (c : Cls) (fs : Fields) (h : (PVal.obj c fs).wf = true) :
    mergeWith ow (empty c) (.obj c fs) = .ok (.obj c fs) :=
  merge_empty_left ow c c fs ((wf_obj c fs).mp h).1

theorem merge_empty_right (ow : Bool) (c c' : Cls) (fs : Fields) :
    mergeWith ow (.obj c fs) (empty c') = .ok (.obj c fs) := by
  rfl

/-! ## associativity where the classes at one nested position form an inheritance chain -/

/-- at every nested position the three values have one shape and, for model values, pairwise
related classes -/
def ChainAt (a b c : PVal) : Prop := Sim a b ∧ Sim b c ∧ Sim a c

theorem merge_assoc (ow : Bool) (a b c : PVal) (wa : a.wf = true) (wb : b.wf = true) (wc : c.wf = true)
    (h : ChainAt a b c) :
    sameOutcome (bindE (mergeWith ow a b) (fun m => mergeWith ow m c))
      (bindE (mergeWith ow b c) (fun m => mergeWith ow a m)) := by
  obtain ⟨sab, sbc, sac⟩ := h
  cases a with
  | obj c1 f1 =>
    -- `Sim` leaves three model values
    cases b <;> try exact sab.elim
    cases c <;> try exact sbc.elim
    simp only [mergeWith_obj, bindE_map, map_bindE]
    exact sameOutcome_map _ (assocF ow wa wb wc sab.2 sbc.2 sac.2 (assocM _))
  | _ =>
    -- the left operand is no model value: both sides raise
    cases mergeWith ow b c <;> exact trivial

/-- the nested merge (`_update_field` on two model values, with the class test) is associative too -/
theorem merge_assoc_nested (ow : Bool) (a b c : PVal) (wa : a.wf = true) (wb : b.wf = true) (wc : c.wf = true)
    (h : ChainAt a b c) :
    sameOutcome (bindE (merge ow a b) (fun m => merge ow m c)) (bindE (merge ow b c) (fun m => merge ow a m)) :=
  assocV c ow a b wa wb wc h.1 h.2.1 h.2.2

/-! ## what a successful merge holds, field by field -/

theorem mergeWith_ok {ow : Bool} {c1 c2 : Cls} {f1 f2 : Fields} {z : PVal} (w2 : (PVal.obj c2 f2).wf = true)
    (h : mergeWith ow (.obj c1 f1) (.obj c2 f2) = .ok z) :
    ∃ r, z = .obj c1 r ∧ ∀ k, updO ow (AL.get f1 k) (AL.get f2 k) = .ok (AL.get r k) := by
  have hp := mergeFields_keyWise ow ((wf_obj c2 f2).mp w2).1 f1
  rw [mergeWith_obj] at h
  cases hm : mergeFields ow f1 f2 with
  | error e => rw [hm] at h; cases h
  | ok r => rw [hm] at h hp; cases h; exact ⟨r, rfl, hp⟩

/-- lists are concatenated in order -/
theorem merge_list_concat {ow : Bool} {c1 c2 : Cls} {f1 f2 r : Fields}
    (w1 : (PVal.obj c1 f1).wf = true) (w2 : (PVal.obj c2 f2).wf = true)
    (h : mergeWith ow (.obj c1 f1) (.obj c2 f2) = .ok (.obj c1 r)) {k : String} {xs ys : List PVal}
    (h1 : AL.get f1 k = some (.list xs)) (h2 : AL.get f2 k = some (.list ys)) :
    AL.get r k = some (.list (xs ++ ys)) := by
  obtain ⟨r', e, hp⟩ := mergeWith_ok w2 h
  cases e
  have := hp k
  rw [h1, h2, updO_some, merge_list] at this
  exact (Except.ok.inj this).symm

/-- sets are united -/
theorem merge_set_union {ow : Bool} {c1 c2 : Cls} {f1 f2 r : Fields}
    (w1 : (PVal.obj c1 f1).wf = true) (w2 : (PVal.obj c2 f2).wf = true)
    (h : mergeWith ow (.obj c1 f1) (.obj c2 f2) = .ok (.obj c1 r)) {k : String} {xs ys : List Atom}
    (h1 : AL.get f1 k = some (.set xs)) (h2 : AL.get f2 k = some (.set ys)) :
    ∃ ws, AL.get r k = some (.set ws) ∧ ∀ a, a ∈ ws ↔ a ∈ xs ∨ a ∈ ys := by
  obtain ⟨r', e, hp⟩ := mergeWith_ok w2 h
  cases e
  have := hp k
  rw [h1, h2, updO_some, merge_set] at this
  exact ⟨unionA xs ys, (Except.ok.inj this).symm, mem_unionA xs ys⟩

/-- nested model values of related classes are merged recursively; the result keeps the class of
the left value -/
theorem merge_nested {ow : Bool} {c1 c2 : Cls} {f1 f2 r : Fields}
    (w1 : (PVal.obj c1 f1).wf = true) (w2 : (PVal.obj c2 f2).wf = true)
    (h : mergeWith ow (.obj c1 f1) (.obj c2 f2) = .ok (.obj c1 r)) {k : String} {d1 d2 : Cls} {g1 g2 : Fields}
    (h1 : AL.get f1 k = some (.obj d1 g1)) (h2 : AL.get f2 k = some (.obj d2 g2))
    (hr : related d2 d1 = true) :
    ∃ g, AL.get r k = some (.obj d1 g) ∧ mergeFields ow g1 g2 = .ok g := by
  obtain ⟨r', e, hp⟩ := mergeWith_ok w2 h
  cases e
  have := hp k
  rw [h1, h2, updO_some, merge_obj_obj, if_pos hr] at this
  cases hm : mergeFields ow g1 g2 with
  | error e => rw [hm] at this; cases this
  | ok g => rw [hm] at this; exact ⟨g, Except.ok.inj this.symm, rfl⟩

/-! ## no provided value is dropped -/

/-- two provided values that are not merged but treated as opaque: an atom met by anything, a
model value met by a non-model value or by a model value of an unrelated class -/
def Clash : PVal → PVal → Prop
  | .atom _, _ => True
  | .obj c1 _, .obj c2 _ => related c2 c1 = false
  | .obj _ _, _ => True
  | .list _, _ => False
  | .set _, _ => False

theorem merge_clash {ow : Bool} {o n : PVal} (h : Clash o n) : merge ow o n = asOpaque ow n := by
  cases o with
  | atom a => exact merge_atom ow a n
  | obj c1 f1 =>
    cases n with
    | obj c2 f2 => rw [merge_obj_obj, if_neg (by rw [show related c2 c1 = false from h]; simp)]
    | _ => rfl
  | _ => exact h.elim

/-- without overwrite permission a conflicting merge raises -/
theorem conflict_raises {c1 c2 : Cls} {f1 f2 : Fields} (w2 : (PVal.obj c2 f2).wf = true)
    {k : String} {o n : PVal} (h1 : AL.get f1 k = some o) (h2 : AL.get f2 k = some n) (hc : Clash o n) :
    ∃ e, mergeWith false (.obj c1 f1) (.obj c2 f2) = .error e := by
  have hp := mergeFields_keyWise false ((wf_obj c2 f2).mp w2).1 f1
  rw [mergeWith_obj]
  cases hm : mergeFields false f1 f2 with
  | error e => exact ⟨e, rfl⟩
  | ok r =>
    have := (hm ▸ hp) k
    simp only [h1, h2, updO_some, merge_clash hc] at this
    cases this

/-- the conflict itself is the `ValueError` of `_update_field` -/
theorem conflict_is_value_error {o n : PVal} (hc : Clash o n) : merge false o n = .error .conflict := by
  rw [merge_clash hc]; rfl

/-- with overwrite permission the later value wins -/
theorem later_wins {c1 c2 : Cls} {f1 f2 r : Fields}
    (w1 : (PVal.obj c1 f1).wf = true) (w2 : (PVal.obj c2 f2).wf = true)
    (h : mergeWith true (.obj c1 f1) (.obj c2 f2) = .ok (.obj c1 r))
    {k : String} {o n : PVal} (h1 : AL.get f1 k = some o) (h2 : AL.get f2 k = some n) (hc : Clash o n) :
    AL.get r k = some n := by
  obtain ⟨r', e, hp⟩ := mergeWith_ok w2 h
  cases e
  have := hp k
  rw [h1, h2, updO_some, merge_clash hc] at this
  exact (Except.ok.inj this).symm

/-- every provided leaf (atom — including `0`, `False`, `""` —, list or set — including empty
ones) of both operands is present in the result, or, only with overwrite permission and only for
the earlier operand, the later operand's value sits in the result at that path or above it -/
theorem no_value_dropped (ow : Bool) (x y z : PVal) (wx : x.wf = true) (wy : y.wf = true)
    (h : mergeWith ow x y = .ok z) (p : List String) (v : PVal) (hv : v.isObj = false) :
    (valAt y p = some v → ∃ w, valAt z p = some w ∧ Keeps v w) ∧
    (valAt x p = some v → (∃ w, valAt z p = some w ∧ Keeps v w) ∨
      (ow = true ∧ ∃ q n, q <+: p ∧ q ≠ [] ∧ valAt y q = some n ∧ valAt z q = some n)) := by
  cases x with
  | obj c1 f1 =>
    cases y with
    | obj c2 f2 =>
      obtain ⟨r, rfl, hp⟩ := mergeWith_ok wy h
      cases p with
      | nil => exact ⟨fun hy => (by cases hy; cases hv), fun hx => (by cases hx; cases hv)⟩
      | cons k rest =>
        have := keep ow (AL.get f1 k) (AL.get f2 k) (AL.get r k)
          (wfOpt_child (x := some (.obj c2 f2)) wy k) (hp k) v hv rest
        have e1 : ∀ (c : Cls) (fs : Fields) (rest : List String),
            valAt (.obj c fs) (k :: rest) = valAtO (AL.get fs k) rest :=
          fun c fs rest => valAtO_cons (some (.obj c fs)) k rest
        rw [e1, e1, e1]
        refine ⟨this.1, fun hx => ?_⟩
        exact (this.2 hx).imp_right fun ⟨how, q, n, hq, h2, h3⟩ =>
          ⟨how, k :: q, n, List.cons_prefix_cons.mpr ⟨rfl, hq⟩, List.cons_ne_nil k q, e1 .. ▸ h2, e1 .. ▸ h3⟩
    | _ => cases h
  | _ => cases h

/-- without overwrite permission nothing is replaced at all -/
theorem no_value_dropped_strict (x y z : PVal) (wx : x.wf = true) (wy : y.wf = true)
    (h : mergeWith false x y = .ok z) (p : List String) (v : PVal) (hv : v.isObj = false)
    (hx : valAt x p = some v ∨ valAt y p = some v) : ∃ w, valAt z p = some w ∧ Keeps v w := by
  have := no_value_dropped false x y z wx wy h p v hv
  rcases hx with hx | hy
  · rcases this.2 hx with h1 | ⟨h2, _⟩
    · exact h1
    · cases h2
  · exact this.1 hy

/-! ## complete object → partial → complete object -/

mutual
/-- converting a complete object to its partial and back gives the same object -/
theorem from_to_partial (req : Cls → List String) (o : PVal) (h : complete req o = true) :
    fromPartial req (toPartial o) = .ok o := by
  cases o with
  | atom a => rfl
  | set xs => rfl
  | list xs =>
    simp only [toPartial, fromPartial]
    rw [from_to_partial_list req xs h]
  | obj c fs =>
    simp only [complete, Bool.and_eq_true] at h
    simp only [toPartial, fromPartial]
    rw [from_to_partial_fields req fs h.2]
    simp [h.1]
theorem from_to_partial_list (req : Cls → List String) : (xs : List PVal) → completeL req xs = true →
    fromL req xs = .ok xs
  | [], _ => by simp [fromL]
  | x :: r, h => by
    simp only [completeL, Bool.and_eq_true] at h
    simp only [fromL]
    rw [show fromPartial req x = .ok x from from_to_partial req x h.1, from_to_partial_list req r h.2]
theorem from_to_partial_fields (req : Cls → List String) : (fs : Fields) → completeF req fs = true →
    fromF req fs = .ok fs
  | [], _ => by simp [fromF]
  | (k, v) :: r, h => by
    simp only [completeF, Bool.and_eq_true] at h
    simp only [fromF]
    rw [show fromPartial req v = .ok v from from_to_partial req v h.1, from_to_partial_fields req r h.2]
end

/-! ## before the repair F5, `v_new or v_old` dropped falsy values -/

/-- with that shortcut the empty partial is *not* a left identity: a provided `0` is lost -/
theorem legacy_or_drops_falsy :
    ∃ x : PVal, x.wf = true ∧ Legacy.mergeWith false (empty ["T"]) x ≠ .ok x ∧
      mergeWith false (empty ["T"]) x = .ok x := by
  refine ⟨.obj ["T"] [("i", .atom (.int 0))], by decide, ?_, by rfl⟩
  have : Legacy.mergeWith false (empty ["T"]) (.obj ["T"] [("i", .atom (.int 0))]) = .ok (.obj ["T"] []) := by
    rfl
  rw [this]
  intro h
  cases h

/-! ## the partial class of a model class is made from that very class -/
/-- every stored partial was made from the class object it is stored under, and from a class of the
program (`S`) -/
def TabInv (t : Factory.Tab) (S : List Factory.ClsObj) : Prop :=
  ∀ u p, Factory.lookup t.partials u = some p → p.src.uid = u ∧ p.src ∈ S

theorem tabInv_empty (S : List Factory.ClsObj) : TabInv {} S := by
  intro u p h
  simp [Factory.lookup] at h

theorem getPartial_inv {t : Factory.Tab} {S : List Factory.ClsObj} (h : TabInv t S)
    {c : Factory.ClsObj} (hc : c ∈ S) : TabInv (Factory.getPartial t c).1 S := by
  unfold Factory.getPartial
  cases hl : Factory.lookup t.partials c.uid with
  | some p => simpa using h
  | none =>
    intro u p hp
    simp only [Factory.lookup] at hp
    split_ifs at hp with hu
    · cases hp
      exact ⟨hu, hc⟩
    · exact h u p hp

theorem run_inv {S : List Factory.ClsObj} : (l : List Factory.ClsObj) → (t : Factory.Tab) → TabInv t S →
    (∀ c ∈ l, c ∈ S) → TabInv (Factory.run t l) S
  | [], t, h, _ => by simpa [Factory.run] using h
  | c :: r, t, h, hs => by
    simp only [Factory.run]
    exact run_inv r _ (getPartial_inv h (hs c (by simp))) (fun d hd => hs d (by simp [hd]))

/-- `get_partial(c).__partial_src__ is c` in every reachable state of the factory: whatever
`get_partial` calls happened before (`TabInv`), for every class object `c` of a program whose class
objects are told apart by their identity — in particular when several of them carry the same name. -/
theorem get_partial_src {t : Factory.Tab} {S : List Factory.ClsObj} (h : TabInv t S)
    (hid : ∀ a ∈ S, ∀ b ∈ S, a.uid = b.uid → a = b) {c : Factory.ClsObj} (hc : c ∈ S) :
    (Factory.getPartial t c).2.src = c := by
  unfold Factory.getPartial
  cases hl : Factory.lookup t.partials c.uid with
  | some p =>
    obtain ⟨h1, h2⟩ := h _ _ hl
    exact hid _ h2 _ hc h1
  | none => rfl

/-- … after any history of `get_partial` calls from the initial (empty) tables -/
theorem get_partial_src_run (hist : List Factory.ClsObj) (c : Factory.ClsObj)
    (hid : ∀ a ∈ c :: hist, ∀ b ∈ c :: hist, a.uid = b.uid → a = b) :
    (Factory.getPartial (Factory.run {} hist) c).2.src = c :=
  get_partial_src (run_inv hist {} (tabInv_empty _) (fun d hd => by simp [hd])) hid (by simp)

/-- a second `get_partial` of the same class object returns the same partial class -/
theorem get_partial_cached (t : Factory.Tab) (c : Factory.ClsObj) :
    (Factory.getPartial (Factory.getPartial t c).1 c).2 = (Factory.getPartial t c).2 := by
  unfold Factory.getPartial
  cases hl : Factory.lookup t.partials c.uid with
  | some p => simp [hl]
  | none => simp [Factory.lookup]

/-- two class objects with one name, the partial of the first created before the second exists:
each gets its own partial -/
example : let a : Factory.ClsObj := ⟨1, "m.Sample"⟩
          let b : Factory.ClsObj := ⟨2, "m.Sample"⟩
          (Factory.getPartial (Factory.run {} [a, b, a]) b).2.src = b ∧
          (Factory.getPartial (Factory.run {} [a, b, a]) a).2.src = a := by decide

/-- The table of forward references, in contrast, is keyed by the *name*: after the partial of a
second class of the same name was created, a nested reference to the first class resolves to the
partial of the second (a container class whose partial is created then gets the wrong field type).
The harness keeps nested references away from names that are defined twice. -/
theorem forwardref_by_name_is_ambiguous :
    ∃ (a b : Factory.ClsObj), a ≠ b ∧
      Factory.resolve (Factory.run {} [a, b]) a.name = some ⟨b⟩ := by
  refine ⟨⟨1, "m.Sample"⟩, ⟨2, "m.Sample"⟩, by decide, by decide⟩

/-! ## non-vacuity -/

def isOk {α : Type} : Except Err α → Bool
  | .ok _ => true
  | .error _ => false

def exA : PVal := .obj ["Top"] [("i", .atom (.int 0)), ("k", .obj ["Par"] [("x", .atom (.int 1))]),
  ("l", .list [.atom (.int 1)])]
def exB : PVal := .obj ["Top"] [("b", .atom (.bool false)), ("k", .obj ["Par", "Chi"] [("y", .atom (.int 2))]),
  ("l", .list [])]
def exC : PVal := .obj ["Top"] [("k", .obj ["Par"] [("x", .atom (.int 5))]), ("s", .atom (.str "")),
  ("st", .set [])]

example : exA.wf = true ∧ exB.wf = true ∧ exC.wf = true := by decide
/-- the hypotheses of `merge_assoc` are satisfiable by a triple with a parent/child class pair
at one nested position and falsy leaves -/
example : ChainAt exA exB exC := by
  simp [ChainAt, Sim, SimF, exA, exB, exC, AL.get, related, sub]
/-- … and on it both sides raise without overwrite (the field `k.x` conflicts) and succeed with it -/
example : isOk (bindE (mergeWith false exA exB) (fun m => mergeWith false m exC)) = false := by decide
example : isOk (bindE (mergeWith true exA exB) (fun m => mergeWith true m exC)) = true := by decide
example : isOk (mergeWith false exA exB) = true := by decide
example : Clash (.atom (.int 1)) (.atom (.int 5)) := trivial
example : complete (fun c => if c = ["Top"] then ["i"] else []) exA = true := by decide

end MetadorModel.C14
