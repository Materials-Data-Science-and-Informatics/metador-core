import MetadorModel.Model.Merge
import MetadorModel.Proofs.Listing
import MetadorModel.Proofs.MergeFollow
import MetadorModel.Proofs.StubFollow
/-!
# C05 — merge materialises the overlay view and continues the patch chain

Theorems about `MetadorModel.Merge` (model of `IH5Record.merge_files`).
Part 1 (this section): the merged container identifies itself as the same record at the same
patch state, so exactly the patch blocks that are accepted on top of the source are accepted on
top of the merged container. Part 2 (tree level: the merged tree is the overlay view, follow-up
patches give the same view) is in the section `tree` below.
-/
namespace MetadorModel.C05
open MetadorModel.Merge

/-- the merged block is the newest source block, except for `prev_patch` (taken from the oldest
block: the merged container takes the place of the whole chain) and the payload hash -/
theorem merge_identity (ubs : List UB) (h : Nat) (first last m : UB)
    (hf : ubs.head? = some first) (hl : ubs.getLast? = some last)
    (hm : mergeUB ubs h = some m) :
    m.record = last.record ∧ m.index = last.index ∧ m.patch = last.patch ∧
    m.prev = first.prev ∧ m.hash = some h := by
  simp only [mergeUB, hf, hl, Option.some.injEq] at hm
  subst hm
  exact ⟨rfl, rfl, rfl, rfl, rfl⟩

theorem merge_defined (ubs : List UB) (h : Nat) (hne : ubs ≠ []) : ∃ m, mergeUB ubs h = some m := by
  cases ubs with
  | nil => exact absurd rfl hne
  | cons u us =>
    have : ((u :: us).getLast?).isSome := by simp [List.getLast?_isSome]
    obtain ⟨l, hl⟩ := Option.isSome_iff_exists.mp this
    exact ⟨{ l with prev := u.prev, hash := some h }, by simp [mergeUB, hl]⟩

/-- **chain continuation**: a patch block is accepted on top of the merged container exactly
when it is accepted on top of the newest container of the source (`_check_ublock`: same record
uuid, larger index, `prev_patch` = predecessor's patch uuid) -/
theorem merge_continues_chain (ubs : List UB) (h : Nat) (last m p : UB)
    (hl : ubs.getLast? = some last) (hm : mergeUB ubs h = some m) :
    follows p m = follows p last := by
  cases hf : ubs.head? with
  | none => simp [mergeUB, hf] at hm
  | some first =>
    obtain ⟨h1, h2, h3, _, _⟩ := merge_identity ubs h first last m hf hl hm
    simp [follows, h1, h2, h3]

/-- the merged container is a base container whenever the source starts with one, and it is
committed (carries the hash of its payload) -/
theorem merge_is_base (ubs : List UB) (h : Nat) (first m : UB)
    (hf : ubs.head? = some first) (hbase : first.prev = none) (hm : mergeUB ubs h = some m) :
    m.prev = none ∧ m.hash = some h := by
  cases hl : ubs.getLast? with
  | none => simp [mergeUB, hf, hl] at hm
  | some last =>
    obtain ⟨_, _, _, h4, h5⟩ := merge_identity ubs h first last m hf hl hm
    exact ⟨h4.trans hbase, h5⟩

/-- the next patch created on the *source* (`IH5UserBlock.create(prev = newest)`) follows the
merged container -/
theorem next_patch_follows_merged (ubs : List UB) (h fresh : Nat) (last m : UB)
    (hl : ubs.getLast? = some last) (hm : mergeUB ubs h = some m) :
    follows (nextUB last fresh) m = true := by
  rw [merge_continues_chain ubs h last m _ hl hm]
  simp [follows, nextUB]

/-- non-vacuity: a three-container chain -/
example : mergeUB [⟨7, 0, 100, none, some 1⟩, ⟨7, 1, 101, some 100, some 2⟩, ⟨7, 2, 102, some 101, some 3⟩] 9
    = some ⟨7, 2, 102, none, some 9⟩ := by decide

theorem coherent_ends : ∀ (l : List UB) (first last : UB), coherent l = true →
    l.head? = some first → l.getLast? = some last →
    last.record = first.record ∧ first.index ≤ last.index
  | [], _, _, _, hf, _ => by simp at hf
  | [a], first, last, _, hf, hl => by
    simp at hf hl; subst hf; subst hl; exact ⟨rfl, Nat.le_refl _⟩
  | a :: b :: rest, first, last, hc, hf, hl => by
    simp only [coherent, Bool.and_eq_true] at hc
    simp at hf; subst hf
    have hl' : (b :: rest).getLast? = some last := by simpa [List.getLast?_cons_cons] using hl
    obtain ⟨h1, h2⟩ := coherent_ends (b :: rest) b last hc.2 rfl hl'
    have hfo := hc.1
    simp only [follows, Bool.and_eq_true, beq_iff_eq, decide_eq_true_eq] at hfo
    exact ⟨h1.trans hfo.1.1, by omega⟩

theorem coherent_append : ∀ (xs ys : List UB), coherent (xs ++ ys) =
    (coherent xs && coherent ys &&
      (match xs.getLast?, ys.head? with
        | some a, some b => follows b a
        | _, _ => true))
  | [], ys => by simp [coherent]
  | [a], [] => by simp [coherent]
  | [a], b :: ys => by simp [coherent, Bool.and_comm]
  | a :: b :: xs, ys => by
    have ih := coherent_append (b :: xs) ys
    simp only [List.cons_append] at ih ⊢
    simp only [coherent, ih, List.getLast?_cons_cons]
    cases follows b a <;> simp


/-- **a merged run takes the place of the run inside the chain**: if `pre ++ run ++ post`
(oldest first) is a coherent chain and `m` is the block `merge_files` writes for `run`
(opened with `allow_baseless=True`), then `pre ++ [m] ++ post` is coherent. The link to the
predecessor is what `prev_patch` of the OLDEST merged container provides. -/
theorem squash_coherent (pre run post : List UB) (h : Nat) (m : UB)
    (hc : coherent (pre ++ (run ++ post)) = true) (hm : mergeUB run h = some m) :
    coherent (pre ++ ([m] ++ post)) = true := by
  cases hf : run.head? with
  | none => simp [mergeUB, hf] at hm
  | some first =>
  cases hl : run.getLast? with
  | none => simp [mergeUB, hf, hl] at hm
  | some last =>
  obtain ⟨i1, i2, i3, i4, _⟩ := merge_identity run h first last m hf hl hm
  rw [coherent_append, coherent_append run post] at hc
  simp only [Bool.and_eq_true] at hc
  obtain ⟨⟨hpre, ⟨hrun, hpost⟩, hseam2⟩, hseam1⟩ := hc
  obtain ⟨e1, e2⟩ := coherent_ends run first last hrun hf hl
  rw [coherent_append, coherent_append [m] post]
  simp only [Bool.and_eq_true]
  refine ⟨⟨hpre, ⟨rfl, hpost⟩, ?_⟩, ?_⟩
  · -- the first block of `post` follows `m` as it followed `last`
    cases hp : post.head? with
    | none => rfl
    | some p =>
      rw [hl, hp] at hseam2
      exact (merge_continues_chain run h last m p hl hm).trans hseam2
  · -- `m` follows the last block of `pre` as `first` did
    cases ha : pre.getLast? with
    | none => rfl
    | some a =>
      simp only [ha, List.head?_append, hf, Option.or] at hseam1
      show follows m a = true
      simp only [follows, Bool.and_eq_true, beq_iff_eq, decide_eq_true_eq] at hseam1 ⊢
      exact ⟨⟨by rw [i1, e1]; exact hseam1.1.1, by rw [i2]; omega⟩, by rw [i4]; exact hseam1.2⟩

/-- merging is refused when the set contains a stub — whichever container of the set it is (in
particular the oldest one of a stub with committed patches on top, re-opened from disk) and
whether or not there is an uncommitted container -/
theorem merge_refused_with_stub (flags : List Bool) (w : Bool) (h : true ∈ flags) :
    mergeGuard flags w = .error .stub := by
  have : flags.any id = true := List.any_eq_true.mpr ⟨true, h, rfl⟩
  simp [mergeGuard, this]

/-- merging is refused while there are uncommitted changes -/
theorem merge_refused_when_writable (flags : List Bool) : mergeGuard flags true ≠ .ok () := by
  unfold mergeGuard
  split <;> simp

/-- the guard lets a merge through exactly when no container is a stub and all are committed -/
theorem merge_allowed_iff (flags : List Bool) (w : Bool) :
    mergeGuard flags w = .ok () ↔ (∀ f ∈ flags, f = false) ∧ w = false := by
  unfold mergeGuard
  by_cases hs : flags.any id = true
  · simp only [hs, if_true]
    constructor
    · intro h; cases h
    · rintro ⟨h, _⟩
      obtain ⟨f, hf, hid⟩ := List.any_eq_true.mp hs
      have := h f hf
      simp_all
  · have hall : ∀ f ∈ flags, f = false := by
      intro f hf
      cases f with
      | false => rfl
      | true => exact absurd (List.any_eq_true.mpr ⟨true, hf, rfl⟩) hs
    cases w
    · constructor
      · intro _; exact ⟨hall, rfl⟩
      · intro _; simp [hs]
    · simp [hs]

/-- non-vacuity: a stub with two committed patches on top; a plain three-container record -/
example : mergeGuard [true, false, false] false = .error .stub ∧
    mergeGuard [false, false, false] false = .ok () ∧
    mergeGuard [false, false, false] true = .error .writable := ⟨rfl, rfl, rfl⟩

/-- non-vacuity of `squash_coherent`: patches 1..2 of a four-container chain squashed -/
example : coherent ([⟨7, 0, 100, none, some 1⟩] ++ ([⟨7, 1, 101, some 100, some 2⟩, ⟨7, 2, 102, some 101, some 3⟩] ++
      [⟨7, 3, 103, some 102, some 4⟩])) = true ∧
    mergeUB [⟨7, 1, 101, some 100, some 2⟩, ⟨7, 2, 102, some 101, some 3⟩] 9 = some ⟨7, 2, 102, some 100, some 9⟩ ∧
    coherent ([⟨7, 0, 100, none, some 1⟩] ++ ([⟨7, 2, 102, some 100, some 9⟩] ++ [⟨7, 3, 103, some 102, some 4⟩])) = true := by
  decide

/-! ## tree level: the merged container shows the overlay view of the source -/
section tree
open MetadorModel.Tree MetadorModel.Overlay MetadorModel.Single MetadorModel.Listing
variable {V : Type}

/-- The view of the source can be replayed parents-first (every listed node other than the
root has its parent listed before it, as a group, and is listed once). This is a property of
the *view* of `r`; it is what "the view is a tree, listed in pre-order" means and is checked on
every generated history by the correspondence run (the model's `merge` would fail otherwise). -/
def ViewReplayable (r : Rec V) : Prop := Replayable (Overlay.listing r)

/-- **merge materialises the overlay view**: at every path the merged single container shows
the kind/value and every attribute the source record shows, for any number of source
containers, deletions and replacements. -/
theorem merge_view (r m : Rec V) (h : ViewReplayable r) (hm : mergeCont r = .ok m) (q : Path) :
    viewKind m q = viewKind r q ∧ ∀ k, viewAttr m q k = viewAttr r q k := by
  by_cases hq : q = []
  · subst hq
    exact ⟨rfl, fun k => by
      rw [materialise_root_attr _ h m hm (rootAttrs_nodup r) k, root_attr_listing]⟩
  · obtain ⟨hk, ha⟩ := materialise_view _ h m hm (listing_attrs_nodup r) q hq
    rw [aget_nonRoot _ q hq, aget_listing r q hq] at hk ha
    refine ⟨by rw [hk]; cases viewKind r q <;> rfl, fun k => ?_⟩
    rw [ha k]
    cases hv : viewKind r q with
    | none => simp [viewAttr_none_of_viewKind_none r q hv]
    | some kd => simp [aget_attrsList]

theorem merge_single (r m : Rec V) (h : ViewReplayable r) (hm : mergeCont r = .ok m) :
    m.length = 1 := by
  obtain ⟨c, rfl, _⟩ := materialise_single _ h m hm
  rfl

theorem merge_succeeds (r : Rec V) (h : ViewReplayable r) : ∃ m, mergeCont r = .ok m :=
  ⟨_, (materialise_eq (Overlay.listing r) h).1⟩

/-- merging is a pure function of the source record: the source is the same value before and
after (the model has no hidden state; on the implementation this clause is checked by hashing
all source files and comparing dumps and `ih5_meta` of the still-open object) -/
theorem merge_idempotent_on_view (r m m' : Rec V) (h : ViewReplayable r)
    (hm : mergeCont r = .ok m) (h' : ViewReplayable m) (hm' : mergeCont m = .ok m') (q : Path) :
    viewKind m' q = viewKind r q ∧ ∀ k, viewAttr m' q k = viewAttr r q k := by
  obtain ⟨a1, a2⟩ := merge_view r m h hm q
  obtain ⟨b1, b2⟩ := merge_view m m' h' hm' q
  exact ⟨b1.trans a1, fun k => (b2 k).trans (a2 k)⟩

/-- non-vacuity: a three-container record (set, attributes incl. a root attribute, delete,
re-create in later patches) satisfies the hypothesis of the tree-level theorems -/
def exRec : Rec Nat :=
  (W.run Rec.init [.set ["a", "x"] 1, .sattr ["a"] "k" 5, .patch, .del ["a", "x"], .grp ["b"],
    .sattr [] "r" 9, .patch, .set ["a", "y"] 2]).1

/-- the three containers, evaluated once; the examples below start from this value -/
theorem exRec_eq : exRec =
    [[([], ⟨.vgroup, []⟩), (["a"], ⟨.vgroup, []⟩), (["a", "y"], ⟨.data 2, []⟩)],
     [([], ⟨.vgroup, [("r", some 9)]⟩), (["a"], ⟨.vgroup, []⟩), (["a", "x"], ⟨.del, []⟩), (["b"], ⟨.sgroup, []⟩)],
     [([], ⟨.vgroup, []⟩), (["a"], ⟨.vgroup, [("k", some 5)]⟩), (["a", "x"], ⟨.data 1, []⟩)]] := by
  decide +kernel

theorem exRec_replayable : exRec.length = 3 ∧ ViewReplayable exRec := by
  rw [ViewReplayable, exRec_eq]
  exact ⟨rfl, replayableB_sound _ (by decide +kernel)⟩

example : exRec.length = 3 ∧ ViewReplayable exRec := exRec_replayable

/-! ### follow-up patches: every patch that applies to the source applies to the merged container
with the same result -/
open MetadorModel.Follow

/-- the merged record is one well-formed container (plain root group, parent-closed, no deletion
markers): it satisfies the record invariant on its own -/
theorem merge_inv (r m : Rec V) (h : ViewReplayable r) (hm : mergeCont r = .ok m) : Inv m := by
  obtain ⟨c, rfl, g⟩ := materialise_single _ h m hm
  exact inv_single g.wf

/-- the merged container mentions no path (other than the root) that the source never mentions -/
theorem merge_mentions (r m : Rec V) (h : ViewReplayable r) (hm : mergeCont r = .ok m) :
    MentionSub r m := by
  obtain ⟨c, rfl, g⟩ := materialise_single _ h m hm
  refine mentionSub_single c g r (fun q _ hne => ?_)
  rw [← (merge_view r [c] h hm q).1]
  exact hne

/-- **follow-up patches, strongest form**: the patch containers `ps` (newest first) only have to
be valid continuations of the source record `r` (`InvOver ps r`; nothing is asked of the
containers of `r` themselves). Then they are valid continuations of the merged container, the
combined record satisfies the record invariant, and at every path it shows what the patches
show on top of the source. -/
theorem merge_followups_over (r m : Rec V) (h : ViewReplayable r) (hm : mergeCont r = .ok m)
    (ps : List (Cont V)) (hps : InvOver ps r) :
    Inv (ps ++ m) ∧ ∀ q, viewKind (ps ++ m) q = viewKind (ps ++ r) q ∧
      ∀ k, viewAttr (ps ++ m) q k = viewAttr (ps ++ r) q k := by
  obtain ⟨o2, e1, e2⟩ := follow_same_view r m (funext fun q => ((merge_view r m h hm q).1).symm)
    (funext fun q => funext fun k => ((merge_view r m h hm q).2 k).symm) (merge_mentions r m h hm) ps hps
  exact ⟨inv_append ps m o2 (merge_inv r m h hm), fun q => ⟨by rw [e1], fun k => by rw [e2]⟩⟩

/-- **every patch that applies to the source applies to the merged container with the same
result**: any list of patch containers `ps` that is a valid continuation of the source record
(`Inv (ps ++ r)`, the invariant every record produced by the write paths satisfies) is a valid
continuation of the merged single container, and the patched merged record shows, at every
path, the same kind/value and the same attributes as the patched source. -/
theorem merge_followups_same_view (r m : Rec V) (h : ViewReplayable r) (hm : mergeCont r = .ok m)
    (ps : List (Cont V)) (hinv : Inv (ps ++ r)) :
    Inv (ps ++ m) ∧ ∀ q, viewKind (ps ++ m) q = viewKind (ps ++ r) q ∧
      ∀ k, viewAttr (ps ++ m) q k = viewAttr (ps ++ r) q k :=
  merge_followups_over r m h hm ps (invOver_of_inv ps r hinv)

/-- closed form: the patched merged record shows the patches `ps` applied (oldest first, as the
monoid action `applyKind/applyAttr` of C01) to the view of the source -/
theorem merge_followups_fold (r m : Rec V) (h : ViewReplayable r) (hm : mergeCont r = .ok m)
    (ps : List (Cont V)) (hps : InvOver ps r) :
    viewKind (ps ++ m) = ps.foldr applyKind (viewKind r) ∧
    viewAttr (ps ++ m) = ps.foldr applyAttr (viewAttr r) := by
  obtain ⟨_, hsame⟩ := merge_followups_over r m h hm ps hps
  obtain ⟨f1, f2⟩ := view_fold_over ps r hps
  exact ⟨(funext fun q => (hsame q).1).trans f1, (funext fun q => funext fun k => (hsame q).2 k).trans f2⟩

/-- non-vacuity: two further patches written on top of the three-container source `exRec`
(replace a dataset by a group, delete a group, attributes on an old node, a new root attribute);
the five-container record satisfies the invariant, so the theorem applies with these `ps`;
the merged container exists and the patched merged record shows the updates. -/
def exFollow : Rec Nat :=
  (W.run exRec [.patch, .del ["a", "y"], .grp ["a", "y"], .set ["a", "y", "z"] 7, .sattr ["a"] "k" 6,
    .patch, .del ["b"], .sattr [] "s" 1, .dattr ["a"] "k"]).1

def exPatches : List (Cont Nat) := exFollow.take 2

example : exFollow = exPatches ++ exRec ∧ exPatches.length = 2 ∧ Inv (exPatches ++ exRec) := by
  rw [exPatches, exFollow, exRec_eq]
  exact ⟨by decide +kernel, rfl, invB_sound _ (by decide +kernel)⟩

example : ∃ m, mergeCont exRec = .ok m ∧
    viewKind (exPatches ++ m) ["a", "y", "z"] = some (.data 7) ∧
    viewKind (exPatches ++ m) ["b"] = none ∧ viewKind (exPatches ++ m) ["a", "x"] = none ∧
    viewAttr (exPatches ++ m) [] "s" = some 1 ∧ viewAttr (exPatches ++ m) [] "r" = some 9 ∧
    viewAttr (exPatches ++ m) ["a"] "k" = none := by
  rw [exPatches, exFollow, exRec_eq]
  exact ⟨_, (materialise_eq _ (replayableB_sound _ (by decide +kernel))).1, by decide +kernel⟩

/-- **operational form, for the existence-based part of the API** (`create_group`,
`create_dataset`, `del`, `attrs[k] = v`, `del attrs[k]`, any number of patch boundaries; `copy` and
`move` are not covered here): performing the same update in new patches on top of the source
and on top of the merged container reports the same outcome for every operation and creates the
very same patch containers `ps`; the two patched records show the same tree. Nothing is assumed
about either run: the source record satisfies the record invariant (every record produced by the
write paths does, `Overlay.step_inv_basic`), and the rest is `Follow.update_same`. -/
theorem merge_same_update (r m : Rec V) (h : ViewReplayable r) (hm : mergeCont r = .ok m)
    (hne : r ≠ []) (hinv : Inv r) (ops : List (Op V)) (hex : ∀ op ∈ ops, isExP op = true) :
    ∃ ps outs, ps ≠ [] ∧
      W.run (newPatch m) ops = (ps ++ m, outs) ∧ W.run (newPatch r) ops = (ps ++ r, outs) ∧
      Inv (ps ++ m) ∧ ∀ q, viewKind (ps ++ m) q = viewKind (ps ++ r) q ∧
        ∀ k, viewAttr (ps ++ m) q k = viewAttr (ps ++ r) q k := by
  have hv : SameSkel r m := fun q => by
    obtain ⟨a, b⟩ := merge_view r m h hm q
    exact ⟨by rw [a], fun k => by rw [b k]⟩
  have he : r.isEmpty = m.isEmpty := by
    obtain ⟨c, rfl, _⟩ := materialise_single _ h m hm
    cases r with
    | nil => exact absurd rfl hne
    | cons a r => rfl
  obtain ⟨ps, outs, hps, e1, e2, i1, i2, _⟩ :=
    update_same r m hv (merge_mentions r m h hm) he hinv (merge_inv r m h hm) ops hex
  exact ⟨ps, outs, hps, e2, e1, i2, (merge_followups_same_view r m h hm ps i1).2⟩

theorem exRec_inv : Inv exRec := by
  rw [exRec_eq]
  exact invB_sound _ (by decide +kernel)

example : Inv exRec := exRec_inv

/-- non-vacuity: an update in two patches on the three-container source -/
def exOps : List (Op Nat) :=
  [.grp ["c"], .set ["a", "x"] 5, .del ["b"], .sattr ["a"] "k" 8, .dattr ["a"] "k",
   .set ["a", "y", "t"] 3, .patch, .set ["c", "d"] 1, .del ["a", "y"], .grp ["q", "w", "e"]]

example : (∀ op ∈ exOps, isExP op = true) ∧ exRec ≠ [] ∧ InvAlong (newPatch exRec) exOps := by
  rw [exRec_eq]
  exact ⟨by decide, List.cons_ne_nil _ _, invAlongB_sound _ _ (by decide +kernel)⟩

end tree

end MetadorModel.C05
