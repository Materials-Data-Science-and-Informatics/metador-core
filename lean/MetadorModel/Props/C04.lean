import MetadorModel.Proofs.ChainFaults
import MetadorModel.Proofs.ChainUBlock
/-!
# C04 — Only coherent, untampered file sets open as a record

Theorems about `MetadorModel.Chain.validate`, the model of `IH5Record._open` +
`_check_ublock` (+ the manifest check of `IH5MFRecord`), see `Model/Chain.lean`.

* `H : P → Digest` is `hashsum_file(path, skip_bytes=1024)`, `HM : M → Digest` the hash of
  the sidecar manifest. They are parameters; wherever a statement says "tampering is
  detected" the hypothesis is that the **two payloads concerned** hash differently
  (`H p' ≠ H f.payload`), never injectivity of `H`.
* `mfAware` selects `IH5MFRecord`; the fault corollaries are stated for `allowBaseless = false`
  (what `IH5Record(files, "r")` does) unless the parameter does not matter.
* "for every valid record" is the hypothesis `Coherent … s` (by `validate_ok_iff` these are
  exactly the file sets that open); a corrupted copy is any list `fs` that is a permutation of
  the corrupted arrangement, so the order in which files are passed never matters.
-/
namespace MetadorModel.C04
open MetadorModel.Chain List

variable {P M : Type} (H : P → Digest) (HM : M → Digest) (mfAware ab : Bool)

/-- the file set is refused, whatever the error -/
def Rejected (fs : List (File P M)) : Prop := ∀ s, validate H HM mfAware ab fs ≠ .ok s

/-- **Accepted exactly when coherent.** `validate fs` succeeds with result `s` iff `s` is an
arrangement of `fs` that is one base plus a gap-free chain of patches of the same record,
with every committed payload hashing to its stored hash, distinct patch uuids, and (manifest
aware class) a manifest matching the newest container. -/
theorem validate_ok_iff (fs s : List (File P M)) :
    validate H HM mfAware ab fs = .ok s ↔ s.Perm fs ∧ Coherent H HM mfAware ab s :=
  Chain.validate_ok_iff H HM mfAware ab fs s

/-- the order of the file list does not matter -/
theorem validate_perm {fs fs' : List (File P M)} (hp : fs.Perm fs') (s : List (File P M)) :
    validate H HM mfAware ab fs = .ok s ↔ validate H HM mfAware ab fs' = .ok s := by
  rw [validate_ok_iff, validate_ok_iff]
  exact ⟨fun ⟨h1, h2⟩ => ⟨h1.trans hp, h2⟩, fun ⟨h1, h2⟩ => ⟨h1.trans hp.symm, h2⟩⟩

theorem rejected_iff (fs : List (File P M)) :
    Rejected H HM mfAware ab fs ↔ ∀ s, s.Perm fs → ¬ Coherent H HM mfAware ab s := by
  unfold Rejected
  constructor
  · intro h s hp hc; exact h s ((validate_ok_iff H HM mfAware ab fs s).mpr ⟨hp, hc⟩)
  · intro h s hv
    obtain ⟨hp, hc⟩ := (validate_ok_iff H HM mfAware ab fs s).mp hv
    exact h s hp hc

variable {H HM mfAware ab}

theorem rejected_of_perm {fs fs' : List (File P M)} (hfs : fs.Perm fs')
    (h : ∀ s, s.Perm fs' → ¬ Coherent H HM mfAware ab s) : Rejected H HM mfAware ab fs :=
  (rejected_iff H HM mfAware ab fs).mpr fun s hp => h s (hp.trans hfs)

/-- of a file set given in strictly increasing patch order only that arrangement has to be looked at -/
theorem rejected_of_sorted {fs l : List (File P M)} (hfs : fs.Perm l) (hl : SortedLt l)
    (h : ¬ Coherent H HM mfAware ab l) : Rejected H HM mfAware ab fs :=
  rejected_of_perm hfs fun _ hp hs => h (sortedLt_unique hp (hs.sortedLt H HM) hl ▸ hs)

/-- **Any flipped, added or removed payload byte of a committed container** (more generally: any
replacement of the payload by one with a different hash, which covers truncation and extension)
is refused. -/
theorem tamper_rejected {l₁ l₂ : List (File P M)} {f : File P M} {p' : P} {fs : List (File P M)}
    (hc : Coherent H HM mfAware ab (l₁ ++ f :: l₂))
    (hcommitted : f.ub.hash ≠ none)
    (hdiff : H p' ≠ H f.payload)
    (hfs : fs.Perm (l₁ ++ { f with payload := p' } :: l₂)) :
    Rejected H HM mfAware ab fs := by
  refine rejected_of_perm hfs fun s hp hs => ?_
  have hf : f.ub.hash = some (H f.payload) := (hc.hash_mem f (by simp)).resolve_left hcommitted
  rcases hs.hash_mem ({ f with payload := p' } : File P M) (hp.symm.subset (by simp)) with h | h
  · exact hcommitted h
  · simp only [HashOK] at h
    rw [hf] at h
    injection h with h
    exact hdiff h.symm

/-- **A missing inner container** is refused. -/
theorem remove_inner_rejected {l₁ l₂ : List (File P M)} {f : File P M} {fs : List (File P M)}
    (hc : Coherent H HM mfAware ab (l₁ ++ f :: l₂)) (h1 : l₁ ≠ []) (h2 : l₂ ≠ [])
    (hfs : fs.Perm (l₁ ++ l₂)) :
    Rejected H HM mfAware ab fs := by
  refine rejected_of_sorted hfs ((hc.sortedLt H HM).sublist (by simp)) fun hs => ?_
  have hn := hc.nodup
  rw [map_append, map_cons, perm_middle.nodup_iff, nodup_cons] at hn
  obtain ⟨b, r₁, rfl⟩ := exists_cons_of_ne_nil h1
  obtain ⟨g, r₂, rfl⟩ := exists_cons_of_ne_nil h2
  -- `g` names the container before the gap and the one removed: two containers with one patch uuid
  have e1 : g.ub.prev = some (lastOf b r₁).ub.pid := (hs.chain_split (l₂ := g :: r₂)).1.2
  have e2 : g.ub.prev = some f.ub.pid := (hc.chain_split (l₂ := f :: g :: r₂)).2.1.2
  exact hn.1 (Option.some.inj (e2.symm.trans e1) ▸ mem_append_left _ (mem_map_of_mem (lastOf_mem b r₁)))

/-- **A missing base** is refused (unless the caller explicitly allows a base-less set). -/
theorem remove_base_rejected {b : File P M} {rest fs : List (File P M)}
    (hc : Coherent H HM mfAware false (b :: rest)) (hne : rest ≠ [])
    (hfs : fs.Perm rest) :
    Rejected H HM mfAware false fs := by
  refine rejected_of_sorted hfs ((hc.sortedLt H HM).sublist (by simp)) fun hs => ?_
  obtain ⟨g, r, rfl⟩ := exists_cons_of_ne_nil hne
  have e2 : g.ub.prev = some b.ub.pid := hc.chain.1.2
  rw [hs.basePrev] at e2; cases e2

/-- **A container of another record** among the files is refused: no accepted set contains two
files with different record uuids. -/
theorem foreign_rejected {fs : List (File P M)} {f g : File P M} (hf : f ∈ fs) (hg : g ∈ fs)
    (hrid : f.ub.rid ≠ g.ub.rid) :
    Rejected H HM mfAware ab fs := by
  exact rejected_of_perm (Perm.refl fs) fun s hp hs =>
    hrid (hs.sameRecord f (hp.symm.subset hf) g (hp.symm.subset hg))

/-- **Substituting a container that has a successor** by any other container (of another record,
of another fork of the same record, …) is refused: the successor names the patch uuid of the
original, which no remaining file carries. -/
theorem substitute_rejected {l₁ l₂ : List (File P M)} {f c g : File P M} {fs : List (File P M)}
    (hc : Coherent H HM mfAware false (l₁ ++ f :: c :: l₂))
    (hpid : g.ub.pid ≠ f.ub.pid)
    (hfs : fs.Perm (l₁ ++ g :: c :: l₂)) :
    Rejected H HM mfAware false fs := by
  refine rejected_of_perm hfs fun s hperm hs => ?_
  -- `c` names `f` as predecessor
  have hcprev : c.ub.prev = some f.ub.pid := by
    cases l₁ with
    | nil => exact hc.chain.1.2
    | cons b r =>
      have := hc.chain_split (l₁ := r) (l₂ := f :: c :: l₂)
      exact this.2.1.2
  have hcs : c ∈ s := hperm.symm.subset (by simp)
  rcases hs.pred c hcs with h | ⟨x, hx, hxp⟩
  · rw [hcprev] at h; cases h
  · rw [hcprev] at hxp
    injection hxp with hxp
    have hn := hc.nodup
    rw [map_append, map_cons, perm_middle.nodup_iff, nodup_cons] at hn
    rcases mem_append.mp (hperm.subset hx) with hx' | hx'
    · exact hn.1 (hxp ▸ mem_append_left _ (mem_map_of_mem hx'))
    · rcases mem_cons.mp hx' with rfl | hx'
      · exact hpid hxp.symm
      · exact hn.1 (hxp ▸ mem_append_right _ (mem_map_of_mem hx'))

/-- **A forked set** — two containers that continue the same state (or two bases) — is refused. -/
theorem fork_rejected {fs rest : List (File P M)} {g₁ g₂ : File P M}
    (hfs : fs.Perm (g₁ :: g₂ :: rest)) (hfork : g₁.ub.prev = g₂.ub.prev) :
    Rejected H HM mfAware false fs := by
  refine rejected_of_perm hfs fun s hp hs => ?_
  have hpw : (g₁ :: g₂ :: rest).Pairwise (fun a b => a.ub.prev ≠ b.ub.prev) :=
    hs.noFork.perm hp (fun h => h.symm)
  exact (pairwise_cons.mp hpw).1 g₂ mem_cons_self hfork

/-- **A duplicated container / duplicated `patch_uuid`** is refused. -/
theorem dup_pid_rejected {fs rest : List (File P M)} {g₁ g₂ : File P M}
    (hfs : fs.Perm (g₁ :: g₂ :: rest)) (hdup : g₁.ub.pid = g₂.ub.pid) :
    Rejected H HM mfAware ab fs := by
  refine rejected_of_perm hfs fun s hp hs => ?_
  have hn : ((g₁ :: g₂ :: rest).map (fun f => f.ub.pid)).Nodup := (hp.map _).nodup_iff.mp hs.nodup
  simp only [map_cons, nodup_cons, mem_cons] at hn
  exact hn.1 (Or.inl hdup)

/-- **A manifest that does not match its container** (edited or missing) is refused by the
manifest-aware class. -/
theorem manifest_mismatch_rejected {init : List (File P M)} {l : File P M} {e : Ext}
    {m' : Option M} {fs : List (File P M)}
    (hc : Coherent H HM true ab (init ++ [l])) (hext : l.ub.ext = some e)
    (hbad : ∀ m, m' = some m → e.mhash ≠ HM m)
    (hfs : fs.Perm (init ++ [{ l with mf := m' }])) :
    Rejected H HM true ab fs := by
  have hsorted : SortedLt (init ++ [{ l with mf := m' }]) := by
    simpa [SortedLt, pairwise_append] using hc.sortedLt H HM
  refine rejected_of_sorted hfs hsorted fun hs => ?_
  obtain ⟨m, hm, hh⟩ := hs.last_manifest rfl e hext
  exact hbad m hm hh

/-- **Removing only the newest patch** leaves a set that opens (and shows the previous state):
the shortened list is returned unchanged. For the manifest-aware class the container that
becomes newest must still have its manifest, which every commit of that class writes. -/
theorem remove_newest_accepted {init : List (File P M)} {l : File P M} {fs : List (File P M)}
    (hc : Coherent H HM mfAware ab (init ++ [l])) (hne : init ≠ [])
    (hmf : mfAware = true → ∀ b r, init = b :: r → ∀ e, (lastOf b r).ub.ext = some e →
      ∃ m, (lastOf b r).mf = some m ∧ e.mhash = HM m)
    (hfs : fs.Perm init) :
    validate H HM mfAware ab fs = .ok init :=
  (validate_ok_iff H HM mfAware ab fs init).mpr ⟨hfs.symm, hc.dropNewest hne hmf⟩

/-- a file whose user block does not load (damaged magic string, size line or JSON) makes
opening fail before anything else is looked at -/
theorem ub_damage_rejected (fs : List (Option (File P M))) (h : none ∈ fs) :
    ∀ s, openFiles H HM mfAware ab fs ≠ .ok s := by
  intro s hs
  obtain ⟨l, rfl, -⟩ := openFiles_ok H HM hs
  simp at h

/-- the user-block text accepted by the (canonical) parser is exactly a rendered well-formed
block: any damage to the JSON text that is not itself a canonical block is refused -/
theorem ub_parse_iff (t : List Char) (u : UBlock.UBT) :
    UBlock.parseUBT t = .ok u ↔ t = UBlock.render u ∧ u.wf = true :=
  UBlock.parseUBT_ok_iff t u

/-! ## Non-vacuity: a concrete record with three containers, and each fault on it -/

section Example
abbrev EH : Nat → Digest := fun p => List.replicate p 'x'
abbrev EM : Nat → Digest := fun m => List.replicate m 'y'

instance : DecidableEq (Except Err (List (File Nat Nat))) := fun a b =>
  match a, b with
  | .ok x, .ok y => if h : x = y then isTrue (by rw [h]) else isFalse (by intro h'; cases h'; exact h rfl)
  | .error x, .error y => if h : x = y then isTrue (by rw [h]) else isFalse (by intro h'; cases h'; exact h rfl)
  | .ok _, .error _ => isFalse (by intro h; cases h)
  | .error _, .ok _ => isFalse (by intro h; cases h)

def ub0 : UB := ⟨['r'], 0, ['a'], none, some (EH 10), some ⟨false, ['m'], EM 1⟩⟩
def ub1 : UB := ⟨['r'], 1, ['b'], some ['a'], some (EH 11), some ⟨false, ['n'], EM 2⟩⟩
def ub2 : UB := ⟨['r'], 4, ['c'], some ['b'], some (EH 12), some ⟨false, ['o'], EM 3⟩⟩
def f0 : File Nat Nat := { ub := ub0, payload := 10, mf := some 1 }
def f1 : File Nat Nat := { ub := ub1, payload := 11, mf := some 2 }
def f2 : File Nat Nat := { ub := ub2, payload := 12, mf := some 3 }
/-- a diverging patch on top of `f0` (another fork) and a container of another record -/
def fork1 : File Nat Nat := { ub := ⟨['r'], 1, ['x'], some ['a'], some (EH 21), none⟩, payload := 21 }
def alien : File Nat Nat := { ub := ⟨['q'], 1, ['y'], some ['a'], some (EH 31), none⟩, payload := 31 }

/-- the record opens, in any order of the file list, for both classes -/
example : validate EH EM true false [f2, f0, f1] = .ok [f0, f1, f2] := by decide
example : validate EH EM false false [f1, f2, f0] = .ok [f0, f1, f2] := by decide

theorem example_coherent : Coherent EH EM true false ([f0] ++ f1 :: [f2]) :=
  ((validate_ok_iff EH EM true false [f2, f0, f1] [f0, f1, f2]).mp (by decide)).2

/-- hypotheses of the corollaries are satisfiable, and the model computes the same verdicts -/
example : Rejected EH EM true false [f0, { f1 with payload := 99 }, f2] :=
  tamper_rejected example_coherent (by decide) (by decide) (Perm.refl _)
example : validate EH EM true false [f0, { f1 with payload := 99 }, f2] = .error .hashMismatch := by decide
example : Rejected EH EM true false [f2, f0] :=
  remove_inner_rejected (l₁ := [f0]) (l₂ := [f2]) example_coherent (by simp) (by simp) (by decide)
example : validate EH EM true false [f2, f0] = .error .prevMismatch := by decide
example : Rejected EH EM true false [f1, f2] :=
  remove_base_rejected (b := f0) example_coherent (by simp) (Perm.refl _)
example : validate EH EM true false [f1, f2] = .error .basePrev := by decide
example : Rejected EH EM true false [f0, alien, f2] :=
  foreign_rejected (f := f0) (g := alien) (by simp) (by simp) (by decide)
example : Rejected EH EM true false [f0, fork1, f2] :=
  substitute_rejected (l₁ := [f0]) (l₂ := []) example_coherent (by decide) (Perm.refl _)
example : Rejected EH EM true false [f0, f1, fork1, f2] :=
  fork_rejected (g₁ := f1) (g₂ := fork1) (rest := [f0, f2]) (by decide) (by decide)
example : Rejected EH EM true false [f0, f1, f1, f2] :=
  dup_pid_rejected (g₁ := f1) (g₂ := f1) (rest := [f0, f2]) (by decide) rfl
example : Rejected EH EM true false [f0, f1, { f2 with mf := some 7 }] :=
  manifest_mismatch_rejected (init := [f0, f1]) (l := f2) (e := ⟨false, ['o'], EM 3⟩) example_coherent rfl
    (by intro m hm; cases hm; decide) (Perm.refl _)
example : validate EH EM true false [f0, f1, { f2 with mf := none }] = .error .mfMissing := by decide
example : validate EH EM true false [f1, f0] = .ok [f0, f1] :=
  remove_newest_accepted (init := [f0, f1]) (l := f2) example_coherent (by simp)
    (by intro _ b r h e he; cases h; exact ⟨2, rfl, by cases he; decide⟩) (by decide)
/-- an uncommitted newest container is accepted, an uncommitted inner one is not -/
example : validate EH EM false false [f0, { f1 with ub := { ub1 with hash := none } }] =
    .ok [f0, { f1 with ub := { ub1 with hash := none } }] := by decide
example : validate EH EM false false [f0, { f1 with ub := { ub1 with hash := none } }, f2] =
    .error .hashMissing := by decide
end Example

end MetadorModel.C04
