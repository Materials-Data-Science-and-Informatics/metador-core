import MetadorModel.Proofs.Plugin
/-!
# C16 — Plugin references order, match and resolve by semantic version

Property theorems about `MetadorModel.Plugin` (model of `PluginRef`, the operators
`functools.total_ordering` derives from `__ge__`, `PluginGroup._add_ep/versions/resolve`,
`to_ep_name/from_ep_name`). Helper lemmas live in `Proofs/Plugin.lean`.

The specification order is `keyLt`: strict lexicographic order on `(group, name, version)`
with Python string order on the two names and numeric order on the version triple.
-/
namespace MetadorModel.C16
open MetadorModel.Plugin

/-! ## Total order consistent with equality and hashing -/

/-- `==` is structural equality of `(group, name, version)`. -/
theorem eq_iff_same (a b : Ref) : eq a b = true ↔ a = b := Plugin.eq_iff a b

/-- equal references hash alike (and conversely: the hash key is the whole triple). -/
theorem hash_consistent (a b : Ref) : eq a b = true ↔ hashKey a = hashKey b := by
  rw [Plugin.eq_iff]
  obtain ⟨ag, an, av⟩ := a
  obtain ⟨bg, bn, bv⟩ := b
  simp [hashKey]

/-- all four comparison operators are the lexicographic order on `(group, name, version)`. -/
theorem operators_are_lex (a b : Ref) :
    (lt a b = true ↔ keyLt a b) ∧ (le a b = true ↔ ¬ keyLt b a) ∧
    (gt a b = true ↔ keyLt b a) ∧ (ge a b = true ↔ ¬ keyLt a b) :=
  ⟨lt_iff a b, le_iff a b, gt_iff a b, ge_iff a b⟩

theorem le_refl (a : Ref) : le a a = true := (le_iff a a).mpr (leP_refl a)

theorem le_antisymm (a b : Ref) (h1 : le a b = true) (h2 : le b a = true) : eq a b = true :=
  (Plugin.eq_iff a b).mpr (leP_antisymm ((le_iff a b).mp h1) ((le_iff b a).mp h2))

theorem le_trans (a b c : Ref) (h1 : le a b = true) (h2 : le b c = true) : le a c = true :=
  (le_iff a c).mpr (leP_trans ((le_iff a b).mp h1) ((le_iff b c).mp h2))

theorem le_total (a b : Ref) : le a b = true ∨ le b a = true := by
  rcases leP_total a b with h | h
  · exact Or.inl ((le_iff a b).mpr h)
  · exact Or.inr ((le_iff b a).mpr h)

theorem lt_irrefl (a : Ref) : lt a a = false :=
  Bool.eq_false_iff.2 (mt (lt_iff a a).1 (keyLt_irrefl a))

theorem lt_iff_le_not_eq (a b : Ref) : lt a b = true ↔ (le a b = true ∧ eq a b = false) := by
  simp only [lt_iff, le_iff, Bool.eq_false_iff, ne_eq, Plugin.eq_iff, leP]
  rcases keyLt_trichotomy a b with h | rfl | h
  · simp [h, keyLt_asymm h, keyLt_ne h]
  · simp [keyLt_irrefl]
  · simp [h, keyLt_asymm h]

theorem gt_iff_lt_swap (a b : Ref) : gt a b = lt b a :=
  Bool.eq_iff_iff.2 ((gt_iff a b).trans (lt_iff b a).symm)

theorem ge_iff_le_swap (a b : Ref) : ge a b = le b a :=
  Bool.eq_iff_iff.2 ((ge_iff a b).trans (le_iff b a).symm)

/-- exactly one of `a < b`, `a == b`, `a > b`. -/
theorem trichotomy (a b : Ref) :
    (lt a b = true ∧ eq a b = false ∧ gt a b = false) ∨
    (lt a b = false ∧ eq a b = true ∧ gt a b = false) ∨
    (lt a b = false ∧ eq a b = false ∧ gt a b = true) := by
  simp only [Bool.eq_false_iff, ne_eq, lt_iff, gt_iff, Plugin.eq_iff]
  rcases keyLt_trichotomy a b with h | rfl | h
  · simp [h, keyLt_asymm h, keyLt_ne h]
  · simp [keyLt_irrefl]
  · simp [h, keyLt_asymm h, (keyLt_ne h).symm]

/-! ## supports -/

theorem supports_iff (a b : Ref) : supports a b = true ↔
    a.group = b.group ∧ a.name = b.name ∧ a.ver.1 = b.ver.1 ∧ b.ver.2.1 ≤ a.ver.2.1 :=
  Plugin.supports_iff a b

/-! ## version tables -/

/-- Whatever the registration order (and whichever of the two registration paths is used —
both append and sort), the version list of a plugin name is the ascending list of all
registered references of that name. -/
theorem versions_sorted_all (rs : List Ref) (n : String) :
    let l := (rs.foldl register []).get n
    l.Pairwise (fun a b => le a b = true) ∧ l.Perm (rs.filter (fun r => r.name = n)) := by
  simp only [registerAll_get]
  refine ⟨?_, sortRefs_perm _⟩
  exact (sortRefs_sorted _).imp (fun {a b} h => (le_iff a b).mpr h)

/-- the version table does not depend on the registration order -/
theorem versions_order_independent (rs₁ rs₂ : List Ref) (h : rs₁.Perm rs₂) (n : String) :
    (rs₁.foldl register []).get n = (rs₂.foldl register []).get n := by
  simp only [registerAll_get]
  exact sortRefs_congr (h.filter _)

/-- `resolve` returns the newest registered version that supports the request … -/
theorem resolve_spec (grp : String) (rs : List Ref) (n : String) (v : Ver) (r : Ref)
    (h : resolve grp (rs.foldl register []) n (some v) = some r) :
    r ∈ rs ∧ r.name = n ∧ supports r ⟨grp, n, v⟩ = true ∧
    ∀ r' ∈ rs, r'.name = n → supports r' ⟨grp, n, v⟩ = true → le r' r = true := by
  simp only [resolve, versions, registerAll_get] at h
  obtain ⟨hmem, hmax⟩ := getLast?_max ((sortRefs_sorted _).filter _) h
  simp only [List.mem_filter, mem_sortRefs, decide_eq_true_eq] at hmem hmax
  exact ⟨hmem.1.1, hmem.1.2, hmem.2, fun r' hr' hn' hs' => (le_iff r' r).mpr (hmax r' ⟨⟨hr', hn'⟩, hs'⟩)⟩

/-- … and `None` exactly when no registered version supports it. -/
theorem resolve_none_iff (grp : String) (rs : List Ref) (n : String) (v : Ver) :
    resolve grp (rs.foldl register []) n (some v) = none ↔
    ∀ r' ∈ rs, r'.name = n → supports r' ⟨grp, n, v⟩ = false := by
  simp only [resolve, versions, registerAll_get, List.getLast?_eq_none_iff, List.filter_eq_nil_iff,
    mem_sortRefs, List.mem_filter, decide_eq_true_eq, Bool.not_eq_true, and_imp]

/-- without a version constraint `resolve` is the newest registered version of that name -/
theorem resolve_latest (grp : String) (rs : List Ref) (n : String) (r : Ref)
    (h : resolve grp (rs.foldl register []) n none = some r) :
    r ∈ rs ∧ r.name = n ∧ ∀ r' ∈ rs, r'.name = n → le r' r = true := by
  simp only [resolve, versions, registerAll_get] at h
  obtain ⟨hmem, hmax⟩ := getLast?_max (sortRefs_sorted _) h
  simp only [List.mem_filter, mem_sortRefs, decide_eq_true_eq] at hmem hmax
  exact ⟨hmem.1, hmem.2, fun r' hr' hn' => (le_iff r' r).mpr (hmax r' ⟨hr', hn'⟩)⟩

/-- the answer of `resolve` (with or without a version) does not depend on the order in which
the installed versions were registered -/
theorem resolve_order_independent (grp : String) (rs₁ rs₂ : List Ref) (h : rs₁.Perm rs₂)
    (n : String) (v : Option Ver) :
    resolve grp (rs₁.foldl register []) n v = resolve grp (rs₂.foldl register []) n v := by
  have hv := versions_order_independent rs₁ rs₂ h n
  cases v <;> simp only [resolve, versions, hv]

/-- compatibility is a preorder on references: every reference supports itself, and support
composes (same group, name and major version; minor versions only grow) -/
theorem supports_refl (a : Ref) : supports a a = true :=
  (supports_iff a a).mpr ⟨rfl, rfl, rfl, Nat.le_refl _⟩

theorem supports_trans (a b c : Ref) (h1 : supports a b = true) (h2 : supports b c = true) :
    supports a c = true := by
  obtain ⟨g1, n1, m1, l1⟩ := (supports_iff a b).mp h1
  obtain ⟨g2, n2, m2, l2⟩ := (supports_iff b c).mp h2
  exact (supports_iff a c).mpr ⟨g1.trans g2, n1.trans n2, m1.trans m2, Nat.le_trans l2 l1⟩

/-- what `resolve` returns for a request also serves every request that the REQUEST supports:
resolving never returns something weaker than what was asked for -/
theorem resolve_serves_weaker (grp : String) (rs : List Ref) (n : String) (v w : Ver) (r : Ref)
    (h : resolve grp (rs.foldl register []) n (some v) = some r)
    (hw : supports ⟨grp, n, v⟩ ⟨grp, n, w⟩ = true) : supports r ⟨grp, n, w⟩ = true :=
  supports_trans r ⟨grp, n, v⟩ ⟨grp, n, w⟩ (resolve_spec grp rs n v r h).2.2.1 hw

/-- `keys()` yields every registered reference, exactly as often as it was registered … -/
theorem keys_lists_registered (rs : List Ref) : (rs.foldl register []).keys.Perm rs :=
  registerAll_keys_perm rs

/-- … and the references of one name appear in it as the (ascending, complete) version list of
that name (`versions_sorted_all`), whatever the registration order. -/
theorem keys_of_name (rs : List Ref) (n : String) :
    (rs.foldl register []).keys.filter (fun r => r.name = n) = (rs.foldl register []).get n :=
  Table.keys_filter_name _ (registerAll_WF rs) n

/-- `name in group` holds exactly when some version of that name was registered,
`(name, version) in group` exactly when that version was registered -/
theorem contains_iff (grp : String) (rs : List Ref) (n : String) :
    (contains grp (rs.foldl register []) n none = true ↔ ∃ r ∈ rs, r.name = n) ∧
    ∀ v, (contains grp (rs.foldl register []) n (some v) = true ↔ (⟨grp, n, v⟩ : Ref) ∈ rs) :=
  ⟨contains_none_iff grp rs n, contains_some_iff grp rs n⟩

/-- `group.get(name, version)` is the plugin `resolve` picks (so `resolve_spec`, `resolve_none_iff`,
`resolve_latest` describe it); `group[key]` is the same for keys that are `in` the group and
`KeyError` otherwise. Queries read the table only: interleaving them with registrations cannot
change any later answer (they are functions of the registrations made so far). -/
theorem get_is_resolve (grp : String) (t : Table) (n : String) (v : Option Ver) :
    getPlugin grp t n v = resolve grp t n v ∧
    getItem grp t n v = (if contains grp t n v then some (resolve grp t n v) else none) :=
  ⟨rfl, rfl⟩

/-! ## entry point names -/

/-- `from_ep_name(to_ep_name(name, version)) == (name, version)` for every valid qualified
name and every version triple, and the produced string is a valid entry-point name. -/
theorem epname_roundtrip (n : List Char) (v : Ver) (hn : isQualName n = true) :
    isEpName (toEpName n v) = true ∧ fromEpName (toEpName n v) = some (n, v) := by
  have hsplit : splitUU (toEpName n v) [] = [n, semverStr v] := by
    have := splitUU_append n (semverStr v) [] (isQualName_noUU n hn) (semverStr_noUnderscore v)
    simpa [toEpName] using this
  constructor
  · simp [isEpName, hsplit, hn, isSemVer_semverStr]
  · simp [fromEpName, hsplit, parseSemVer_semverStr]

/-- valid names never contain the separator `__` (so the split is unambiguous) -/
theorem qualname_has_no_separator (n : List Char) (hn : isQualName n = true) : NoUU n :=
  isQualName_noUU n hn

/-! ## a class obtained without a version cannot be subclassed -/

/-- class creation is refused exactly when some base class — at any position, with any other
bases — is a version-less (marked) handle -/
theorem marked_base_refused (bases : List Bool) :
    newRaises bases = true ↔ ∃ b ∈ bases, b = true := by
  simp [newRaises]

/-! ## the pinned code violated the order axioms (negative results, concrete witnesses) -/

/-- With the pinned `__ge__` (falls through to `None` on equal references) `a < a` holds. -/
theorem legacy_lt_not_irreflexive : Legacy.lt ⟨"g", "aa", (1, 0, 0)⟩ ⟨"g", "aa", (1, 0, 0)⟩ = true := by
  decide

/-! ## non-vacuity: the hypotheses are satisfiable on non-trivial data -/

example : isQualName "vt.aa-b_c".toList = true := by decide
example : fromEpName (toEpName "vt.aa-b_c".toList (1, 20, 3)) = some ("vt.aa-b_c".toList, (1, 20, 3)) :=
  (epname_roundtrip _ _ (by decide)).2
example : resolve "schema" ([⟨"schema", "vt.aa", (1, 2, 0)⟩, ⟨"schema", "vt.aa", (1, 0, 5)⟩,
    ⟨"schema", "vt.aa", (2, 0, 0)⟩, ⟨"schema", "vt.aa", (1, 10, 0)⟩].foldl register [])
    "vt.aa" (some (1, 1, 0)) = some ⟨"schema", "vt.aa", (1, 10, 0)⟩ := by decide
example : lt ⟨"g", "aa", (1, 9, 0)⟩ ⟨"g", "aa", (1, 10, 0)⟩ = true := by decide
example : ([⟨"schema", "vt.aa", (1, 2, 0)⟩, ⟨"schema", "vt.ab", (1, 0, 5)⟩,
    ⟨"schema", "vt.aa", (1, 0, 0)⟩].foldl register []).keys =
    [⟨"schema", "vt.aa", (1, 0, 0)⟩, ⟨"schema", "vt.aa", (1, 2, 0)⟩, ⟨"schema", "vt.ab", (1, 0, 5)⟩] := by decide
example : getItem "schema" ([⟨"schema", "vt.aa", (1, 2, 0)⟩, ⟨"schema", "vt.aa", (1, 0, 0)⟩].foldl register [])
    "vt.aa" (some (1, 0, 0)) = some (some ⟨"schema", "vt.aa", (1, 2, 0)⟩) := by decide
example : getItem "schema" ([⟨"schema", "vt.aa", (1, 2, 0)⟩].foldl register [])
    "vt.aa" (some (1, 0, 0)) = none := by decide

end MetadorModel.C16
