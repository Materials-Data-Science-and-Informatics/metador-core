import MetadorModel.Model.Merge
import MetadorModel.Proofs.Listing
import MetadorModel.Proofs.StubFollow
import MetadorModel.Props.C05
/-!
# C10 — Patches built on a stub apply to the real record with the same result

Theorems about `MetadorModel.Merge` (model of `IH5MFRecord.create_stub`, `init_stub_base`).
Part 1 (this section): the user block of the stub makes every patch created on top of the stub
the next patch of the real record. Part 2 (tree level) is in the section `tree` below.
-/
namespace MetadorModel.C10
open MetadorModel.Merge

/-- the stub is a base container with the identity of the newest real container -/
theorem stub_identity (ubs : List UB) (h : Nat) (last s : UB)
    (hl : ubs.getLast? = some last) (hs : stubUB ubs h = some s) :
    s.record = last.record ∧ s.index = last.index ∧ s.patch = last.patch ∧ s.prev = none := by
  simp only [stubUB, hl, Option.some.injEq] at hs
  subst hs
  exact ⟨rfl, rfl, rfl, rfl⟩

/-- **a patch created on top of the stub is accepted as the next patch of the real record**:
its block follows the newest real block (same record, index + 1, `prev_patch` = real newest
patch uuid) -/
theorem stub_patch_accepted (ubs : List UB) (h fresh : Nat) (last s : UB)
    (hl : ubs.getLast? = some last) (hs : stubUB ubs h = some s) :
    follows (nextUB s fresh) last = true ∧ (nextUB s fresh).index = last.index + 1 := by
  obtain ⟨h1, h2, h3, _⟩ := stub_identity ubs h last s hl hs
  simp [follows, nextUB, h1, h2, h3]

/-- and it is exactly the block the real record would have created itself, up to the fresh uuid -/
theorem stub_patch_same_block (ubs : List UB) (h fresh : Nat) (last s : UB)
    (hl : ubs.getLast? = some last) (hs : stubUB ubs h = some s) :
    nextUB s fresh = nextUB last fresh := by
  obtain ⟨h1, h2, h3, _⟩ := stub_identity ubs h last s hl hs
  simp [nextUB, h1, h2, h3]

example : stubUB [⟨7, 0, 100, none, some 1⟩, ⟨7, 1, 101, some 100, some 2⟩] 9 = some ⟨7, 1, 101, none, some 9⟩ := by
  decide

/-- **a stub cannot be merged**: the guard of `merge_files` refuses every file set whose base
container is a stub — alone or with any number of patch containers on top (whose blocks are not
marked), with or without an uncommitted container, however the set was opened (the guard looks
at the user blocks of ALL containers) -/
theorem stub_merge_refused (patchFlags : List Bool) (w : Bool) :
    mergeGuard (true :: patchFlags) w = .error .stub := by
  simp [mergeGuard]

example : mergeGuard [true] false = .error .stub ∧ mergeGuard [true, false, false, false] false = .error .stub :=
  ⟨rfl, rfl⟩

/-! ## tree level: the stub has the skeleton of the real record and none of its data -/
section tree
open MetadorModel.Tree MetadorModel.Overlay MetadorModel.Single MetadorModel.Listing
variable {V : Type}

/-- same hypothesis as in C05: the view of the real record is a tree listed parents-first -/
def ViewReplayable (r : Rec V) : Prop := Replayable (Overlay.listing r)

/-- kind of a stub node: groups stay groups, every dataset holds the `empty` value -/
def emptyKind (empty : V) : NKind V → NKind V
  | .group => .group
  | .data _ => .data empty

/-- **the stub exposes exactly the paths, node kinds and attribute names of the real record and
none of its data**: at every path below the root the stub shows a node iff the real record
does, of the same kind (datasets hold `empty`), with an attribute `k` iff the real node has
one (its value is `empty`). -/
theorem stub_skeleton (empty : V) (r s : Rec V) (h : ViewReplayable r)
    (hs : stubCont empty r = .ok s) (q : Path) (hq : q ≠ []) :
    viewKind s q = (viewKind r q).map (emptyKind empty) ∧
    ∀ k, viewAttr s q k = (viewAttr r q k).map (fun _ => empty) := by
  have hnd : ∀ e ∈ stubListing empty (Overlay.listing r), (e.2.2.map (·.1)).Nodup := by
    intro e he
    simp only [stubListing_eq, List.mem_map] at he
    obtain ⟨e0, he0, rfl⟩ := he
    simpa [emptied, List.map_map, Function.comp_def] using listing_attrs_nodup r e0 he0
  obtain ⟨hk, ha⟩ := materialise_view _ (replayable_stub empty _ h) s hs hnd q hq
  rw [nonRoot_stub, aget_map_val, aget_nonRoot _ q hq, aget_listing r q hq] at hk ha
  refine ⟨?_, fun k => ?_⟩
  · rw [hk]
    cases hv : viewKind r q with
    | none => rfl
    | some kd => cases kd <;> rfl
  · rw [ha k]
    cases hv : viewKind r q with
    | none => simp [viewAttr_none_of_viewKind_none r q hv]
    | some kd =>
      simp only [Option.map_some, Option.bind_some, emptied]
      rw [aget_map_val (fun _ => empty) (attrsList r q) k, aget_attrsList]

/-- the stub is a single container (it can only serve as a base for patches) -/
theorem stub_single (empty : V) (r s : Rec V) (h : ViewReplayable r) (hs : stubCont empty r = .ok s) :
    s.length = 1 := by
  obtain ⟨c, rfl, _⟩ := materialise_single _ (replayable_stub empty _ h) s hs
  rfl

/-- non-vacuity: a three-container record (set, attributes incl. a root attribute, delete,
re-create in later patches) satisfies the hypothesis of the tree-level theorems -/
def exRec : Rec Nat :=
  (W.run Rec.init [.set ["a", "x"] 1, .sattr ["a"] "k" 5, .patch, .del ["a", "x"], .grp ["b"],
    .sattr [] "r" 9, .patch, .set ["a", "y"] 2]).1

/-- the same record as in C05, whose evaluated value (`C05.exRec_eq`) the examples below start from -/
theorem exRec_eq : exRec = C05.exRec := rfl

example : exRec.length = 3 ∧ ViewReplayable exRec := C05.exRec_replayable

/-! ### existence-based updates: the stub and the real record cannot be told apart -/
open MetadorModel.Follow

/-- the stub shows the skeleton of the real record: same paths, group/dataset tags and attribute
names at every path including the root -/
theorem stub_sameSkel (empty : V) (r s : Rec V) (h : ViewReplayable r) (hs : stubCont empty r = .ok s) :
    SameSkel r s := by
  intro q
  by_cases hq : q = []
  · subst hq
    refine ⟨rfl, fun k => ?_⟩
    rw [stub_root_attr empty r s h hs k]
    cases viewAttr r [] k <;> rfl
  · obtain ⟨h1, h2⟩ := stub_skeleton empty r s h hs q hq
    refine ⟨?_, fun k => ?_⟩
    · rw [h1]
      cases hv : viewKind r q with
      | none => rfl
      | some kd => cases kd <;> rfl
    · rw [h2 k]
      cases viewAttr r q k <;> rfl

/-- the stub is one well-formed container: it satisfies the record invariant on its own -/
theorem stub_inv (empty : V) (r s : Rec V) (h : ViewReplayable r) (hs : stubCont empty r = .ok s) : Inv s := by
  obtain ⟨c, rfl, g⟩ := materialise_single _ (replayable_stub empty _ h) s hs
  exact inv_single g.wf

theorem stub_mentions (empty : V) (r s : Rec V) (h : ViewReplayable r) (hs : stubCont empty r = .ok s) :
    MentionSub r s := by
  obtain ⟨c, rfl, g⟩ := materialise_single _ (replayable_stub empty _ h) s hs
  refine mentionSub_single c g r (fun q hq hne => ?_)
  rw [(stub_skeleton empty r [c] h hs q hq).1] at hne
  intro hn
  rw [hn] at hne
  exact hne rfl

/-- **the existence-based write paths are determined by the skeleton.** `p` is the newest
(patch) container, sitting on top of the older containers `r₁` resp. `r₂` (a valid continuation
of both); `r₁` and `r₂` show the same paths, node kinds and attribute names — *not* the same
values. Then `create_dataset`, `create_group`, `__delitem__`, `attrs[k] = v`, `del attrs[k]`
have the same outcome `res` on both records — the same error, or success with the same new
newest container — and leave the older containers as they are. (`copy`/`move` are excluded:
they read values.) -/
theorem existence_determined (p : Cont V) (r₁ r₂ : Rec V) (op : Op V) (hop : isEx op = true)
    (hwf : WF p) (h1 : InvLast p r₁) (h2 : InvLast p r₂) (hs : SameSkel r₁ r₂)
    (he : r₁.isEmpty = r₂.isEmpty) :
    ∃ res : Except Err (Cont V),
      W.step (p :: r₁) op = onTop r₁ res ∧ W.step (p :: r₂) op = onTop r₂ res :=
  step_same p r₁ r₂ op hop hwf h1 h2 hs he

/-- spelled out, success: same new patch container, older containers untouched -/
theorem existence_determined_ok (p : Cont V) (r₁ r₂ R₁ : Rec V) (op : Op V) (hop : isEx op = true)
    (hwf : WF p) (h1 : InvLast p r₁) (h2 : InvLast p r₂) (hs : SameSkel r₁ r₂)
    (he : r₁.isEmpty = r₂.isEmpty) (hok : W.step (p :: r₁) op = .ok R₁) :
    ∃ p', R₁ = p' :: r₁ ∧ W.step (p :: r₂) op = .ok (p' :: r₂) := by
  obtain ⟨res, e1, e2⟩ := existence_determined p r₁ r₂ op hop hwf h1 h2 hs he
  cases res with
  | error e => rw [e1] at hok; cases hok
  | ok p' =>
    rw [e1] at hok
    simp only [onTop, Except.ok.injEq] at hok
    exact ⟨p', hok.symm, e2⟩

/-- spelled out, failure: the same exception -/
theorem existence_determined_error (p : Cont V) (r₁ r₂ : Rec V) (op : Op V) (e : Err) (hop : isEx op = true)
    (hwf : WF p) (h1 : InvLast p r₁) (h2 : InvLast p r₂) (hs : SameSkel r₁ r₂)
    (he : r₁.isEmpty = r₂.isEmpty) (herr : W.step (p :: r₁) op = .error e) :
    W.step (p :: r₂) op = .error e := by
  obtain ⟨res, e1, e2⟩ := existence_determined p r₁ r₂ op hop hwf h1 h2 hs he
  cases res with
  | ok p' => rw [e1] at herr; cases herr
  | error e' =>
    rw [e1] at herr
    simp only [onTop, Except.error.injEq] at herr
    rw [e2, ← herr]; rfl

/-- the full statement of the clause, as a proposition -/
def stub_patch_same_result_statement (V : Type) : Prop :=
  ∀ (empty : V) (r s : Rec V) (ops : List (Op V)), ViewReplayable r → stubCont empty r = .ok s →
    r ≠ [] → Inv r → (∀ op ∈ ops, isExP op = true) →
    ∃ ps outs, ps ≠ [] ∧
      W.run (newPatch s) ops = (ps ++ s, outs) ∧ W.run (newPatch r) ops = (ps ++ r, outs) ∧
      Inv (ps ++ r) ∧ Inv (ps ++ s) ∧ SameSkel (ps ++ r) (ps ++ s)

/-- **Patches built on the stub are the patches the real record would have built itself.**
`ops` is an update made of existence-based operations with any number of patch boundaries
(`commit_patch; create_patch`), performed in fresh patch containers on top of the stub `s` and,
directly, on top of the real record `r`, which satisfies the record invariant. Both runs report
the same outcome for every operation and create the same list of patch containers `ps` (newest
first); neither touches the older containers. So the record obtained by placing the patches made
on the stub next to the real containers, `ps ++ r`, *is* the record obtained by the direct update
— the same containers, hence the same tree, values included. It satisfies the record invariant,
and the patched stub again has the skeleton of the patched real record. Nothing is assumed about
either run (`Follow.update_same`; the write paths keep the invariant, `Overlay.step_inv_basic`). -/
theorem stub_patch_same_result (empty : V) (r s : Rec V) (ops : List (Op V)) (h : ViewReplayable r)
    (hs : stubCont empty r = .ok s) (hne : r ≠ []) (hinv : Inv r)
    (hex : ∀ op ∈ ops, isExP op = true) :
    ∃ ps outs, ps ≠ [] ∧
      W.run (newPatch s) ops = (ps ++ s, outs) ∧ W.run (newPatch r) ops = (ps ++ r, outs) ∧
      Inv (ps ++ r) ∧ Inv (ps ++ s) ∧ SameSkel (ps ++ r) (ps ++ s) := by
  have he : r.isEmpty = s.isEmpty := by
    obtain ⟨c, rfl, _⟩ := materialise_single _ (replayable_stub empty _ h) s hs
    cases r with
    | nil => exact absurd rfl hne
    | cons a r => rfl
  obtain ⟨ps, outs, hps, e1, e2, rest⟩ := update_same r s (stub_sameSkel empty r s h hs)
    (stub_mentions empty r s h hs) he hinv (stub_inv empty r s h hs) ops hex
  exact ⟨ps, outs, hps, e2, e1, rest⟩

theorem stub_patch_same_result_holds : stub_patch_same_result_statement V :=
  fun empty r s ops h hs hne hinv hex => stub_patch_same_result empty r s ops h hs hne hinv hex

example : Inv exRec := C05.exRec_inv

/-- consequence for the user: at every path the real record patched with the stub-made patches
shows the same kind/value and attributes as the directly updated real record -/
theorem stub_patch_same_view (empty : V) (r s : Rec V) (h : ViewReplayable r)
    (hs : stubCont empty r = .ok s) (hne : r ≠ []) (ops : List (Op V))
    (hex : ∀ op ∈ ops, isExP op = true) (hinv : Inv r) :
    ∃ ps, (W.run (newPatch s) ops).1 = ps ++ s ∧ (W.run (newPatch s) ops).2 = (W.run (newPatch r) ops).2 ∧
      ∀ q, viewKind (ps ++ r) q = viewKind (W.run (newPatch r) ops).1 q ∧
        ∀ k, viewAttr (ps ++ r) q k = viewAttr (W.run (newPatch r) ops).1 q k := by
  obtain ⟨ps, outs, _, e1, e2, _⟩ := stub_patch_same_result empty r s ops h hs hne hinv hex
  exact ⟨ps, by rw [e1], by rw [e1, e2], fun q => by rw [e2]; exact ⟨rfl, fun _ => rfl⟩⟩

/-- non-vacuity: the three-container record `exRec`, its stub, and an update in two patches
(create group / dataset, delete, set and delete attributes, two refused operations, nested
`create_group` with missing ancestors); the record invariant holds along the direct run, and evaluating
both runs shows the same two patch containers and outcomes. -/
def exOps : List (Op Nat) :=
  [.grp ["c"], .set ["a", "x"] 5, .del ["b"], .sattr ["a"] "k" 8, .dattr ["a"] "k",
   .set ["a", "y", "t"] 3, .dattr ["a"] "zz", .patch, .set ["c", "d"] 1, .del ["a", "y"],
   .grp ["q", "w", "e"]]

example : (∀ op ∈ exOps, isExP op = true) ∧ exRec ≠ [] ∧ InvAlong (newPatch exRec) exOps := by
  rw [exRec_eq, C05.exRec_eq]
  exact ⟨by decide, List.cons_ne_nil _ _, invAlongB_sound _ _ (by decide +kernel)⟩

example : ∃ s, stubCont 0 exRec = .ok s ∧
    (W.run (newPatch s) exOps).1.take 2 = (W.run (newPatch exRec) exOps).1.take 2 ∧
    (W.run (newPatch s) exOps).1.drop 2 = s ∧ (W.run (newPatch exRec) exOps).1.drop 2 = exRec ∧
    (W.run (newPatch s) exOps).2 = [true, true, true, true, true, false, false, true, true, true] ∧
    (W.run (newPatch exRec) exOps).2 = [true, true, true, true, true, false, false, true, true, true] :=
  ⟨_, (materialise_eq _ (replayable_stub 0 _ (replayableB_sound _ (by decide +kernel)))).1,
    by decide +kernel⟩

/-- non-vacuity of `existence_determined`: a patch container in the middle of that update on top
of the real record and of its stub -/
def exMid : Cont Nat := ((W.run (newPatch exRec) (exOps.take 4)).1).headD []

example : ∃ s, stubCont 0 exRec = .ok s ∧ WF exMid ∧ InvLast exMid exRec ∧ InvLast exMid s ∧
    exRec.isEmpty = s.isEmpty ∧ exMid.length = 5 :=
  ⟨_, (materialise_eq _ (replayable_stub 0 _ (replayableB_sound _ (by decide +kernel)))).1,
    wfB_sound _ (by decide +kernel), invLastB_sound _ _ (by decide +kernel),
    invLastB_sound _ _ (by decide +kernel), by decide +kernel, by decide +kernel⟩

end tree

end MetadorModel.C10
