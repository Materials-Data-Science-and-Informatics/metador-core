import MetadorModel.Proofs.ContainerDrvSim
import MetadorModel.Proofs.ContainerDrvCongOps
/-!
# C09: containers behave identically on plain HDF5 and on IH5 records

"Every container operation gives the same user-visible result whether the raw driver is a
plain HDF5 file or an IH5 record, regardless of where patch boundaries fall and where the
container is closed and opened again."

* (a) `boundaries_unobservable`: inserting patch boundaries anywhere in a history changes
  neither what the caller observes nor the state.
* (b) `reopen_unobservable_upto`: inserting reopen points is unobservable up to any relation
  that is preserved by reopening one side and is a congruence for all operations.
  (Literal equality of the rebuilt and the incrementally maintained caches does not hold:
  `literal_coherence_fails`.) `reopen_unobservable_of_coherent`: the concrete instance for
  histories from a fresh container — same observations, same raw tree, same uuid counter,
  `CachesEqv` caches — under the single hypothesis `CacheCoherent e` (in every reachable state
  the caches rebuilt from the raw tree are `CachesEqv` to the maintained ones; a consequence
  of the container invariant of C06). That `CachesEqv`-related states cannot be told apart
  (`obsEq_congruent`) is proved outright, through every definition of the model.
* (c) `driver_refinement`, `container_refines`, `container_refines_queries`,
  `container_refines_any_boundaries`: the container layer, written against an abstract raw
  driver that satisfies the view laws, is in lock-step with the model on the viewed state; so
  any two law-abiding drivers (plain tree, IH5-like patch log, …) are indistinguishable, also
  when patch boundaries are inserted.
-/
namespace MetadorModel.C09
open MetadorModel.Container

def core : SRef := ⟨"core", (0, 1, 0)⟩
def pk : PkgId := ⟨"pk", (1, 0, 0)⟩
/-- one installed schema `core` provided by package `pk` -/
def exEnv : Env := { schemas := [⟨core, [core], pk, false⟩], pkgs := [(pk, [core])] }

def pa : Path := [.user "a"]
def pd : Path := [.user "a", .user "d"]
def pd2 : Path := [.user "a", .user "d2"]
def pb : Path := [.user "b"]

/-- group, dataset, metadata on the dataset, copy with metadata, move of the copy, query,
delete of the group (each operation depends on the previous ones) -/
def exH : List Op :=
  [.createGroup pa, .createDataset pd "x", .onMeta pd [.set "core" none true "m", .get "core" none],
   .copy pd pd2 false, .move pd2 pb, .onMeta pb [.get "core" none, .del "core"], .delete pa]

/-- the same history with a patch boundary after every operation (and two in a row) -/
def exH' : List Op :=
  [.createGroup pa, .patch, .createDataset pd "x", .patch,
   .onMeta pd [.set "core" none true "m", .get "core" none], .patch, .patch,
   .copy pd pd2 false, .patch, .move pd2 pb, .patch,
   .onMeta pb [.get "core" none, .del "core"], .patch, .delete pa, .patch]

/-- the same history with the container closed and opened again between the operations -/
def exHr : List Op :=
  [.createGroup pa, .reopen, .createDataset pd "x", .reopen,
   .onMeta pd [.set "core" none true "m", .get "core" none], .reopen,
   .copy pd pd2 false, .reopen, .move pd2 pb, .reopen,
   .onMeta pb [.get "core" none, .del "core"], .reopen, .delete pa]

/-- **C09 (a).** A history with patch boundaries inserted at arbitrary positions gives the same
observations (status of every non-boundary operation, outcomes of all metadata
sub-operations) and the same final state as the history without them — for every schema
environment and every start state, without hypotheses. -/
theorem boundaries_unobservable {e : Env} {h h' : List Op} (hi : Ins isPatch h h') (s : St) :
    outcomes isPatch e s h' = outcomes isPatch e s h ∧ run e s h' = run e s h := by
  induction hi generalizing s with
  | nil => exact ⟨rfl, rfl⟩
  | keep op _ ih =>
    obtain ⟨i1, i2⟩ := ih (step e op s).2
    simp only [outcomes, run, i1, i2, and_self]
  | skip op hp _ ih =>
    obtain rfl : op = .patch := by cases op <;> first | rfl | cases hp
    exact ih s

theorem exH'_ins : Ins isPatch exH exH' := by
  unfold exH exH'
  repeat (first | exact Ins.nil | apply Ins.keep | apply Ins.skip _ rfl)

/-- `exH'` is `exH` with boundaries inserted between dependent operations -/
example : Ins isPatch exH exH' := exH'_ins

/-- the example history is not trivial: every operation succeeds, the metadata sub-operations
are answered (`set` done, `get` finds the object, also at the moved copy) -/
example : (outcomes isPatch exEnv initSt exH).map (fun o => (o.status.toBool, o.sub)) =
    [(true, []), (true, []), (true, [.done, .found true]), (true, []), (true, []),
     (true, [.found true, .done]), (true, [])] := by decide +kernel

/-- The induction behind (b), for histories over a set `P` of operations: `R` is kept by
reopening the right-hand side, and related states give equal observations and related successors
for the operations in `P`. -/
theorem reopen_unobservable_on_upto {e : Env} {P : Op → Prop} {R : St → St → Prop}
    (hc : ∀ s s', R s s' → R s (step e .reopen s').2)
    (hg : ∀ op, P op → ∀ s s', R s s' → obs e op s = obs e op s' ∧ R (step e op s).2 (step e op s').2)
    {h h' : List Op} (hi : Ins isReopen h h') (hP : ∀ op ∈ h, P op) {s s' : St} (hr : R s s') :
    outcomes isReopen e s h = outcomes isReopen e s' h' ∧ R (run e s h) (run e s' h') := by
  induction hi generalizing s s' with
  | nil => exact ⟨rfl, hr⟩
  | keep op _ ih =>
    obtain ⟨ho, hr'⟩ := hg op (hP op (List.mem_cons_self ..)) s s' hr
    obtain ⟨i1, i2⟩ := ih (fun o ho => hP o (List.mem_cons_of_mem _ ho)) hr'
    simp only [outcomes, run]
    exact ⟨by rw [i1, ho], i2⟩
  | skip op hp _ ih =>
    obtain rfl : op = .reopen := by cases op <;> first | rfl | cases hp
    exact ih hP (hc s s' hr)

/-- **C09 (b), general form.** Let `R` relate states that the caller cannot tell apart
(`Congruent`: equal observations for every operation, and the relation is kept) and let
rebuilding the caches from the raw tree keep the relation (`CacheCoherentR`). Then a history
with reopen points inserted anywhere gives the same observations and related final states.

The relation cannot be equality: see `literal_coherence_fails`. -/
theorem reopen_unobservable_upto {e : Env} {R : St → St → Prop}
    (hc : CacheCoherentR e R) (hg : Congruent e R) {h h' : List Op} (hi : Ins isReopen h h')
    {s s' : St} (hr : R s s') :
    outcomes isReopen e s h = outcomes isReopen e s' h' ∧ R (run e s h) (run e s' h') :=
  reopen_unobservable_on_upto (P := fun _ => True) hc (fun op _ => hg op) hi (fun _ _ => trivial) hr

/-- **Literal cache coherence fails.** After attaching and deleting one metadata object the
incrementally maintained `used` table keeps the stale entry `(pk, [])`, the caches rebuilt from
the raw tree do not have it: `reload s.raw ≠ s.c` for a reachable state. (Other reachable
differences: the order of the `children`/`schemas`/`tocPath` association lists.) This is why
reopen-unobservability is stated up to a relation. -/
theorem literal_coherence_fails :
    ∃ (e : Env) (h : List Op), reload (run e initSt h).raw ≠ (run e initSt h).c :=
  ⟨exEnv, [.createGroup pa, .onMeta pa [.set "core" none true "m"], .onMeta pa [.del "core"]],
    fun h => absurd (congrArg Caches.used h) (by decide +kernel)⟩

theorem exHr_ins : Ins isReopen exH exHr := by
  unfold exH exHr
  repeat (first | exact Ins.nil | apply Ins.keep | apply Ins.skip _ rfl)

example : Ins isReopen exH exHr := exHr_ins

/-- on the example the conclusion holds (evaluation) -/
example : (outcomes isReopen exEnv initSt exHr).map (fun o => (o.status.toBool, o.sub)) =
    (outcomes isReopen exEnv initSt exH).map (fun o => (o.status.toBool, o.sub)) := by
  decide +kernel

theorem ReachableP.step {P : Op → Prop} {e : Env} {s : St} (hr : ReachableP P e s) (op : Op) (hp : P op) :
    ReachableP P e (step e op s).2 := by
  obtain ⟨h, hh, rfl⟩ := hr
  exact ⟨h ++ [op], List.forall_mem_append.2 ⟨hh, by simpa using hp⟩, by rw [run_append]; rfl⟩

/-- **C09 (b), restricted alphabet.** The same statement for histories over any set `P` of
operations that contains `.reopen`, with coherence demanded only in states reachable by such
histories (`CacheCoherentOn P e`). This is the form that is discharged from the C06 invariant
(`Props/C09Coherent.lean`: `P` = all operations except a move to an empty node name, which
HDF5 cannot express). -/
theorem reopen_unobservable_of_coherent_on {P : Op → Prop} {e : Env} (hPr : P .reopen)
    (hco : CacheCoherentOn P e) {h h' : List Op} (hi : Ins isReopen h h') (hP : ∀ op ∈ h, P op) :
    outcomes isReopen e initSt h' = outcomes isReopen e initSt h ∧
    (run e initSt h').raw = (run e initSt h).raw ∧
    (run e initSt h').next = (run e initSt h).next ∧
    CachesEqv (run e initSt h').c (run e initSt h).c := by
  have h0 : ReachableP P e initSt := ⟨[], fun _ h => absurd h List.not_mem_nil, rfl⟩
  obtain ⟨h1, -, -, h2⟩ := reopen_unobservable_on_upto
    (R := fun s s' => ReachableP P e s ∧ ReachableP P e s' ∧ ObsEq s s')
    (fun s s' ⟨hr, hr', ho⟩ =>
      ⟨hr, ReachableP.step hr' .reopen hPr, ho.1, ho.2.1, ho.2.2.trans (hco s' hr').symm⟩)
    (fun op hp s s' ⟨hr, hr', ho⟩ =>
      ⟨(obsEq_congruent e op s s' ho).1, ReachableP.step hr op hp, ReachableP.step hr' op hp, (obsEq_congruent e op s s' ho).2⟩)
    hi hP ⟨h0, h0, ObsEq.refl _⟩
  exact ⟨h1.symm, h2.1.symm, h2.2.1.symm, h2.2.2.symm⟩

/-- **C09 (b).** If the caches rebuilt on reopen are equivalent (`CachesEqv`: dictionaries
extensionally, sets by membership, `used` only for packages that currently provide a schema)
to the incrementally maintained ones in every reachable state, then reopen points inserted
anywhere into a history from a fresh container are unobservable: same observations, same raw
tree, same uuid counter, equivalent caches. The only hypothesis is `CacheCoherent e`; that
equivalent caches are indistinguishable (`obsEq_congruent`) is proved for all operations
without any invariant. -/
theorem reopen_unobservable_of_coherent {e : Env} (hco : CacheCoherent e) {h h' : List Op}
    (hi : Ins isReopen h h') :
    outcomes isReopen e initSt h' = outcomes isReopen e initSt h ∧
    (run e initSt h').raw = (run e initSt h).raw ∧
    (run e initSt h').next = (run e initSt h).next ∧
    CachesEqv (run e initSt h').c (run e initSt h).c :=
  reopen_unobservable_of_coherent_on (P := fun _ => True) trivial (fun s ⟨h, _, hs⟩ => hco s ⟨h, hs⟩) hi
    (fun _ _ => trivial)

/-- caches that agree literally except for `used` are equivalent when no package provides
anything (helper for the example below) -/
theorem cachesEqv_of_fields {c c' : Caches} (h1 : c.tocPath = c'.tocPath) (h2 : c.parents = c'.parents)
    (h3 : c.pkginfos = c'.pkginfos) (h4 : c.providers = c'.providers) (h5 : c.schemas = c'.schemas)
    (h6 : c.children = c'.children) (h7 : c.providers = []) : CachesEqv c c' :=
  ⟨fun _ => by rw [h1], fun _ => by rw [h2], fun _ => by rw [h3], fun _ => by rw [h4],
   fun _ => by rw [h5], fun _ => by rw [h6]; exact OptRel.of_eq MemEq.refl rfl,
   fun r pk hm => by rw [h7] at hm; exact absurd hm (by simp [alGet])⟩

/-- the hypothesis `CacheCoherent` is meaningful where literal coherence fails: in the witness
state of `literal_coherence_fails` the rebuilt caches ARE `CachesEqv` to the maintained ones -/
example :
    CachesEqv
      (reload (run exEnv initSt
        [.createGroup pa, .onMeta pa [.set "core" none true "m"], .onMeta pa [.del "core"]]).raw)
      (run exEnv initSt
        [.createGroup pa, .onMeta pa [.set "core" none true "m"], .onMeta pa [.del "core"]]).c := by
  generalize hs : run exEnv initSt _ = s
  -- one evaluation of the history for all seven facts
  have h : (reload s.raw).tocPath = s.c.tocPath ∧ (reload s.raw).parents = s.c.parents ∧
      (reload s.raw).pkginfos = s.c.pkginfos ∧ (reload s.raw).providers = s.c.providers ∧
      (reload s.raw).schemas = s.c.schemas ∧ (reload s.raw).children = s.c.children ∧
      (reload s.raw).providers = [] := by
    subst hs
    decide +kernel
  obtain ⟨h1, h2, h3, h4, h5, h6, h7⟩ := h
  exact cachesEqv_of_fields h1 h2 h3 h4 h5 h6 h7

/-- instance of `reopen_unobservable_of_coherent` on the example histories -/
example (hco : CacheCoherent exEnv) :
    outcomes isReopen exEnv initSt exHr = outcomes isReopen exEnv initSt exH :=
  (reopen_unobservable_of_coherent hco exHr_ins).1

section
variable {D : Type} (drv : Driver D)

/-- **C09 (c), one operation.** Over any driver that satisfies the view laws of `Driver`
(errors compared through the enum `Err`), one container operation started in `sD` returns
what the model returns in the viewed state, the caller observes the same, and the state it
leaves is viewed as the model's next state. -/
theorem driver_refinement (e : Env) (op : Op) (sD : StD D) :
    (Drv.step drv e op sD).1 = (step e op (viewSt drv sD)).1 ∧
    Drv.obs drv e op sD = obs e op (viewSt drv sD) ∧
    viewSt drv (Drv.step drv e op sD).2 = (step e op (viewSt drv sD)).2 :=
  ⟨(step_sim e op sD).1, obs_sim e op sD, (step_sim e op sD).2⟩

/-- **C09 (c), all histories.** All observations (nothing hidden: `ins = fun _ => false`) and
the viewed final state agree with the model, for every history, by induction. -/
theorem container_refines (e : Env) (sD : StD D) (h : List Op) :
    Drv.outcomes drv (fun _ => false) e sD h = outcomes (fun _ => false) e (viewSt drv sD) h ∧
    viewSt drv (Drv.run drv e sD h) = run e (viewSt drv sD) h :=
  ⟨outcomes_sim _ e h sD, run_sim e h sD⟩

/-- user-visible queries after a history: `MetadorContainerTOC.query` and `node.meta.get` -/
theorem container_refines_queries (e : Env) (sD : StD D) (h : List Op) :
    (∀ start n v, tocQuery (viewSt drv (Drv.run drv e sD h)) start n v =
        tocQuery (run e (viewSt drv sD) h) start n v) ∧
    (∀ p k n v, Handle.get e (viewSt drv (Drv.run drv e sD h))
          (openHandle (viewSt drv (Drv.run drv e sD h)) p k) n v =
        Handle.get e (run e (viewSt drv sD) h) (openHandle (run e (viewSt drv sD) h) p k) n v) := by
  rw [run_sim]
  exact ⟨fun _ _ _ => rfl, fun _ _ _ _ => rfl⟩

/-- **C09 (c) + (a).** A history with patch boundaries inserted anywhere, run over ANY
law-abiding driver, gives the same observations (of the non-boundary operations) and the same
view as the history without boundaries run over the plain tree driver, provided both start
from the same viewed state. -/
theorem container_refines_any_boundaries (e : Env) (sD : StD D) (sT : StD Tree)
    (h0 : viewSt drv sD = viewSt treeDriver sT) {h h' : List Op} (hi : Ins isPatch h h') :
    Drv.outcomes drv isPatch e sD h' = Drv.outcomes treeDriver isPatch e sT h ∧
    viewSt drv (Drv.run drv e sD h') = viewSt treeDriver (Drv.run treeDriver e sT h) := by
  rw [outcomes_sim, outcomes_sim, run_sim, run_sim, h0]
  exact boundaries_unobservable hi _

end

/-! ### Non-vacuity: the IH5-like patch-log driver -/

/-- a freshly initialised container on the plain tree driver -/
def treeInit : StD Tree := ⟨initSt.raw, {}, 0⟩

/-- a freshly initialised container on the patch-log driver: one patch container holding the
three writes of `MetadorContainer.__init__` -/
def plInit : StD (List (List RawOp)) :=
  ⟨[[.create tocP .grp, .create versionP (.ds (.text "1.0")), .create uuidP (.ds (.text "uuid"))]], {}, 0⟩

example : viewSt treeDriver treeInit = initSt := rfl
example : viewSt patchLogDriver plInit = initSt := rfl

/-- the example history with its eight patch boundaries over the patch-log driver: nine patch
containers on disk (number of logged raw writes per container), … -/
example : ((Drv.run patchLogDriver exEnv plInit exH').raw.map List.length) =
    [4, 1, 5, 0, 4, 4, 3, 10, 0] := by decide +kernel

/-- … and the same view and the same observations as the history without boundaries over the
plain tree (instance of `container_refines_any_boundaries`) -/
example :
    Drv.outcomes patchLogDriver isPatch exEnv plInit exH' = Drv.outcomes treeDriver isPatch exEnv treeInit exH ∧
    viewSt patchLogDriver (Drv.run patchLogDriver exEnv plInit exH') =
      viewSt treeDriver (Drv.run treeDriver exEnv treeInit exH) :=
  container_refines_any_boundaries patchLogDriver exEnv plInit treeInit rfl exH'_ins

end MetadorModel.C09
