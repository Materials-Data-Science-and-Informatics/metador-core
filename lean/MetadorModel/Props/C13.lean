import MetadorModel.Proofs.Subtype
/-!
# C13 — Every child-schema instance is a valid parent-schema instance

`Sub env a b` ("whatever `a` holds serialises to something `b` accepts") is the semantic
relation the property is about. Theorems:

* `isSubtype_sound` — the override test of `check_types` (`util/typing.is_subtype`, modelled by
  `isSubtype` on runtype's canonical types) only answers "yes" for pairs in `Sub`, provided
  the nominal class table is sound (`ClassTableSound`: each phantom-string subclass edge is an
  inclusion of patterns, each schema subclass edge is already known to be in `Sub`) and the
  library parsers refuse by validation errors only (`NoCrash`, true since
  `fix: pint parsers turn every parsing failure into a validation error`).
* `child_valid_in_parent` — a child schema whose fields are the base's fields, unchanged or
  overridden by checked subtypes (`Extends`: what the class-construction rules of
  `SchemaMagic.__new__` / the decorators and `check_overrides` establish), is in `Sub` with its
  base: every valid child instance is parsed by the base.
* `undeclared_widening_refused` — an overridden field whose type is not a subtype of the
  inherited one makes `checkOverrides` fail unless it is listed in `__overrides__`.
* `checkTypes_visits_ancestors` — if `checkTypes` passes for a class, `checkOverrides` passed for
  every class up its inheritance chain (plugins and plain intermediate classes alike);
  `intermediate_widening_refused`, `declaration_not_inherited` (an ancestor's `@override`
  declaration does not cover a descendant), `new_field_below_forbidding_parent_refused`
  (required, `Optional` or defaulted: no new field below a parent that forbids extras).
* `loads_examine_every_ancestor` — load order and earlier refusals do not matter: after any sequence
  of plugin loads (`loadPlugin`/`loadAll`: `check_types` *without* `recheck`, the `__types_checked__`
  marks of the earlier loads kept, refused loads among them, dependency cycles allowed), a load
  that passes means that the loaded class and every class up its inheritance chain has passed
  `check_allowed_types` and `check_overrides` (invariant `MarksOk`: `checkTypesF_marksOk` for a walk
  that passes, `refused_load_restores_marks` for one that does not). `refused_stays_refused` /
  `refused_at_every_load`: a class that fails its examination is refused at every load, after any
  history, and so is every class that has it on its inheritance chain. No hypothesis on the
  table, no bound on loads or classes. `load_examines_unmarked` (a mark is per class: a class
  without a mark of its own is examined whatever else is marked), `child_refused_whatever_is_marked`;
  `legacy_refused_class_passes_next_load` (the behaviour before the repair F31: the mark survived a
  refusal), `legacy_nested_descendant_keeps_mark_of_refused_walk` (the first repair cleared the
  marks on the stack only, which a dependency cycle defeated).
* `const_over_container_refused` — `add_const_fields` over a collection-valued field (`List`/`Set`,
  also below `Optional`/`Annotated`) is refused without `override=True` whatever the item type is;
  `legacy_const_over_container_accepted` (the behaviour before the repair F30).
* `Extends` / `child_valid_in_parent` also cover the "marked subclass" pattern: a field of the base
  pinned by a constant of the child (`add_const_fields` over a Literal field).
* `installedStrings_sound_except`, `qualhashsum_not_subtype` — the class table of the installed
  phantom string types is sound except for the edge `QualHashsumStr < HashsumStr` (known
  finding F12: the subclass *replaces* the pattern).
-/
namespace MetadorModel.C13
open MetadorModel.Codec MetadorModel.Subtype

theorem isSubtype_le (T : Table) : ∀ a b, isSubtype T a b = true → le T (canon a) (canon b) = true := by
  intro a b h
  fun_induction isSubtype T a b with
  | case1 a b ih => simpa [canon] using ih h
  | case2 a b hnot hc => cases h
  | case3 a b hnot hc hl => cases h
  | case4 a b hnot hc hl => exact h

theorem isSubtype_plain (T : Table) (a b : Ty) (h : isAnn a = false ∨ isAnn b = false) :
    isSubtype T a b = (if isAnn a != isAnn b || isLit a != isLit b then false
      else if !isLit a && hasLit a && !hasLit b then false else le T (canon a) (canon b)) := by
  unfold isSubtype
  split
  · simp [isAnn] at h
  · rfl

/-- **Soundness of the override test.** Induction on the pair of canonical types
(`Proofs/Subtype.lean`: `valid_denL`, `le_sound`, `denR_accepts`). `Coherent` says that the
schema nodes of the two types are the registered classes, `SetsScalar` that sets hold hashable
item types (the grammar's "Set of hashables"). -/
theorem isSubtype_sound (env : Env) (T : Table) (R : Reg) (hn : NoCrash env)
    (hT : ClassTableSound env T R) (a b : Ty) (ha : Coherent R a) (hb : Coherent R b)
    (hs : SetsScalar b = true) (h : isSubtype T a b = true) :
    ∀ v, Valid env a v → accepts env b (encode v) = true :=
  le_canon_sound env T R hn hT a b ha hb hs (isSubtype_le T a b h)

/-- a type is in `Sub` with itself (the C12 round trip) -/
theorem Sub_refl (env : Env) (t : Ty) : Sub env t t := by
  intro v hv
  rw [accepts_iff]
  exact ⟨v, roundtrip_core env t v hv⟩

/-! ## the phantom string types -/

theorem splitOn_two_mem (sep : Char) (s : Str) (a b : Str) (h : splitOn sep s = [a, b]) : sep ∈ s := by
  induction s generalizing a b with
  | nil => simp [splitOn] at h
  | cons c r ih =>
    simp only [splitOn] at h
    split at h
    · simp at h
    · rename_i hd tl heq
      by_cases hc : (c == sep) = true
      · simp at hc; simp [hc]
      · simp [hc] at h
        obtain ⟨rfl, rfl⟩ := h
        have := ih _ _ heq
        simp [this]

theorem isHex_not_space (c : Char) (h : isHex c = true) : isSpace c = false := by
  simp only [isHex, Bool.or_eq_true, Bool.and_eq_true, decide_eq_true_eq, Char.le_def, UInt32.le_iff_toNat_le,
    Char.reduceVal, UInt32.reduceToNat] at h
  have : c ≠ ' ' := by rintro rfl; simp at h
  simp only [isSpace, Char.toNat, Bool.or_eq_false_iff, Bool.and_eq_false_iff, decide_eq_false_iff_not, beq_eq_false_iff_ne, ne_eq]
  exact ⟨⟨this, by omega⟩, by omega⟩

theorem mime_nes (s : Str) (h : recMime s = true) : recNes s = true := by
  unfold recMime at h
  split at h
  · rename_i a b heq
    have hm := splitOn_two_mem '/' s a b heq
    simp only [recNes, List.any_eq_true]
    exact ⟨'/', hm, by decide⟩
  · cases h

theorem hash_nes (s : Str) (h : recHash s = true) : recNes s = true := by
  cases s with
  | nil => simp [recHash] at h
  | cons c r =>
    simp only [recHash, List.isEmpty_cons, Bool.not_false, List.all_cons, Bool.true_and, Bool.and_eq_true] at h
    simp only [recNes, List.any_cons, Bool.or_eq_true]
    left
    simp [isHex_not_space c h.1]

theorem dropPrefix_cons (p : Char) (ps s h : Str) (e : dropPrefix? (p :: ps) s = some h) :
    ∃ r, s = p :: r := by
  cases s with
  | nil => simp [dropPrefix?] at e
  | cons c cs =>
    simp only [dropPrefix?] at e
    split at e
    · rename_i hpc
      simp at hpc
      exact ⟨cs, by rw [hpc]⟩
    · cases e

theorem qhash_nes (s : Str) (h : recQHash s = true) : recNes s = true := by
  unfold recQHash at h
  have key : ∃ r, s = 's' :: r := by
    split at h
    · rename_i hh heq
      exact dropPrefix_cons 's' _ s hh heq
    · split at h
      · rename_i hh heq
        exact dropPrefix_cons 's' _ s hh heq
      · cases h
  obtain ⟨r, rfl⟩ := key
  simp only [recNes, List.any_cons, Bool.or_eq_true]
  left
  decide

/-- **The installed phantom string types**: every nominal edge except `QualHashsumStr <
HashsumStr` is an inclusion of the accepted strings … -/
theorem installedStrings_sound_except (k k' : CStr) (h : cstrSub k k' = true)
    (hne : ¬ (k = .qhash ∧ k' = .hash)) : ∀ s, recog k s = true → recog k' s = true := by
  intro s hs
  match k, k', h, hne, hs with
  | .nes, .nes, _, _, hs | .mime, .mime, _, _, hs | .hash, .hash, _, _, hs | .qhash, .qhash, _, _, hs => exact hs
  | .mime, .nes, _, _, hs => exact mime_nes s hs
  | .hash, .nes, _, _, hs => exact hash_nes s hs
  | .qhash, .nes, _, _, hs => exact qhash_nes s hs
  | .qhash, .hash, _, hne, _ => exact absurd ⟨rfl, rfl⟩ hne
  | .nes, .mime, h, _, _ | .nes, .hash, h, _, _ | .nes, .qhash, h, _, _ | .mime, .hash, h, _, _
  | .mime, .qhash, h, _, _ | .hash, .mime, h, _, _ | .hash, .qhash, h, _, _ | .qhash, .mime, h, _, _ =>
    exact absurd h (by decide)

/-- … and that one is not (known finding F12): the witness the real code shows too. -/
theorem qualhashsum_not_subtype :
    recog .qhash "sha256:ab".toList = true ∧ recog .hash "sha256:ab".toList = false ∧
    cstrSub .qhash .hash = true ∧
    (∀ env T, isSubtype T (.cstr .qhash) (.cstr .hash) = true ∧
      accepts env (.cstr .qhash) (.str "sha256:ab".toList) = true ∧
      accepts env (.cstr .hash) (.str "sha256:ab".toList) = false) := by
  refine ⟨by decide, by decide, by decide, ?_⟩
  intro env T
  exact ⟨by rfl, by rfl, by rfl⟩

/-- hence no class table containing both is sound -/
theorem classTable_unsound_with_qualhashsum (env : Env) (T : Table) (R : Reg) :
    ¬ ClassTableSound env T R := by
  intro h
  have := h.1 .qhash .hash (by decide) "sha256:ab".toList (by decide)
  revert this
  decide

/-! ## characterisations used as regression anchors -/

/-- `Optional[X]` is never a subtype of a plain atom -/
theorem optional_not_subtype (T : Table) (k : Ty) (hk : k = .bool ∨ k = .int ∨ k = .float ∨ k = .str) :
    isSubtype T (.opt k) k = false := by
  rcases hk with rfl | rfl | rfl | rfl <;> rfl

/-- between Literals the test is exactly inclusion of the value sets (Python `==`) -/
theorem literal_subtype_iff (T : Table) (vs ws : List Lit) :
    isSubtype T (.lit vs) (.lit ws) = vs.all (fun v => ws.any (fun w => litNEq (some v) (some w))) := by
  simp [isSubtype, isAnn, isLit, canon, le, List.all_map, List.any_map, Function.comp_def]

/-- a Literal nested below a non-literal type is refused when the base type has no Literal at all
(`fix: is_subtype refuses literals nested below a non-literal type`): runtype would compare the
literal values by `isinstance` only, ignoring e.g. the length limits of plain `str` fields -/
theorem nested_literal_refused (T : Table) (a b : Ty) (hna : isAnn a = false) (hla : isLit a = false)
    (ha : hasLit a = true) (hb : hasLit b = false) : isSubtype T a b = false := by
  rw [isSubtype_plain T a b (Or.inl hna), hla, ha, hb]
  cases isAnn a != isAnn b || false != isLit b <;> rfl

theorem literal_superset_not_subtype (T : Table) :
    isSubtype T (.lit [.str "a".toList, .str "b".toList]) (.lit [.str "a".toList]) = false := by
  rw [literal_subtype_iff]; decide

/-! ## child schema vs. base schema -/

/-- What class construction (`SchemaMagic.__new__`, `add_const_fields`, `make_mandatory`) and
`check_overrides` establish between the effective schema of a class and that of its base:
* every field of the base is a field of the class, with a type in `Sub` with the inherited one
  (unchanged, or overridden and accepted by `is_subtype`), and where the class allows the
  field to be absent the base does too;
  or the class pins the field with a constant (`add_const_fields` over a Literal field: the
  "marked subclass" pattern) whose value the inherited type accepts;
* the constants of the base are constants of the class;
* if the base forbids extra fields, so does the class, and it adds neither fields nor constants
  (a constant that pins an inherited field is not new). -/
def Extends (env : Env) (ec ep : Extra) (fsc fsp : List Field) (csc csp : List (Str × Json)) : Prop :=
  (∀ n tg reqg dg, Field.mk n tg reqg dg ∈ fsp →
      (∃ t' req' d', Field.mk n t' req' d' ∈ fsc ∧ Sub env t' tg ∧
        ((req' = false ∧ d' = none) →
          (reqg = false ∧ (dg = none ∨ ∃ dj w, dg = some dj ∧ decode env tg dj = .ok w)))) ∨
      -- the "marked subclass" pattern: `add_const_fields` turned the field into a constant whose
      -- value the inherited type accepts (`decorators.py:96-110`)
      ((∀ f ∈ fsc, fieldName f ≠ n) ∧ ∃ j, lookup n csc = some j ∧ accepts env tg j = true)) ∧
  (∀ k, hasKey k csp = true → hasKey k csc = true) ∧
  (ep = .forbid → ec = .forbid ∧ (∀ f ∈ fsc, ∃ g ∈ fsp, fieldName g = fieldName f) ∧
      (∀ k, hasKey k csc = true → hasKey k csp = true ∨ ∃ g ∈ fsp, fieldName g = k))

/-- **Every valid instance of the child is accepted by the base.** -/
theorem child_valid_in_parent (env : Env) (nc np : Str) (ec ep : Extra) (fsc fsp : List Field)
    (csc csp : List (Str × Json)) (hE : Extends env ec ep fsc fsp csc csp) :
    ∀ v, Valid env (.model nc ec fsc csc) v → accepts env (.model np ep fsp csp) (encode v) = true := by
  intro v hv
  obtain ⟨fvs, xs, rfl, hfs, hxs, hnd, hdisj, _⟩ := valid_model_inv env nc ec fsc csc v hv
  obtain ⟨hF, hC, hX⟩ := hE
  have hxs' := extras_filter_self ec fsc csc xs hxs
  have hlook := dump_lookup env ec fsc csc xs fvs hfs hxs hnd hdisj
  simp only [List.append_assoc] at hlook
  have hkeys := ValidFs_keys env fsc fvs hfs
  -- every dumped field value sits under the name of a field of the child
  have hdumped : ∀ p ∈ encodeFields fvs, ∃ f ∈ fsc, fieldName f = p.1 := fun p hp => by
    obtain ⟨q, hq, e⟩ := encodeFields_keys fvs p hp
    exact List.mem_map.mp (hkeys ▸ List.mem_map.mpr ⟨q, hq, e⟩)
  rw [accepts_iff]
  -- every field of the base validates
  have hall : ∀ g ∈ fsp, ∃ r, decodeField env g (encodeFields fvs ++ (csc ++ xs)) = .ok r := by
    intro g hg
    obtain ⟨n, tg, reqg, dg⟩ := g
    rcases hF n tg reqg dg hg with ⟨t', req', d', hmem, hsub, hopt⟩ | ⟨hnf, j, hj, hacc⟩
    · obtain ⟨w, hw, hvw⟩ := ValidFs_mem env fsc fvs hfs _ hmem
      have hl := hlook _ hw
      simp only [fieldName] at hl hw
      simp only [ValidF] at hvw
      rcases hvw with ⟨rfl, hr, hd⟩ | ⟨hne, hval⟩
      · obtain ⟨hreq, hdg⟩ := hopt ⟨hr, hd⟩
        simp only [encOpt] at hl
        rcases hdg with rfl | ⟨dj, x, rfl, hx⟩
        · exact ⟨(n, .none), by simp [decodeField, hl, hreq]⟩
        · exact ⟨(n, x), by simp [decodeField, hl, hreq, hx, mapOk]⟩
      · rw [encOpt_of_ne_none w hne] at hl
        obtain ⟨x, hx⟩ := (accepts_iff env tg _).mp (hsub w hval)
        exact ⟨(n, x), by simp [decodeField, hl, hx, mapOk]⟩
    · -- the field is a constant of the child: the dump carries the constant
      have h1 : lookup n (encodeFields fvs) = none := lookup_none_of_notin _ _ fun p hp e => by
        obtain ⟨f, hf, hfn⟩ := hdumped p hp
        exact hnf f hf (hfn.trans e)
      have hl : lookup n (encodeFields fvs ++ (csc ++ xs)) = some j := by
        simp [lookup_append, h1, hj]
      obtain ⟨x, hx⟩ := (accepts_iff env tg j).mp hacc
      exact ⟨(n, x), by simp [decodeField, hl, hx, mapOk]⟩
  obtain ⟨pf, hpf⟩ := decodeFields_ok_of_all env fsp _ hall
  simp only [encode, hxs', decode, asDict, List.append_assoc, hpf]
  cases ep with
  | allow => exact ⟨_, rfl⟩
  | ignore => exact ⟨_, rfl⟩
  | forbid =>
    obtain ⟨rfl, hsubF, hsubC⟩ := hX rfl
    cases hxs
    -- no key of the dump is foreign to the base: a field name of the child, or one of its constants
    rw [List.filter_eq_nil_iff.mpr fun p hp => ?_]
    · exact ⟨_, rfl⟩
    · have hcov : hasKey p.1 csp = true ∨ ∃ g ∈ fsp, fieldName g = p.1 := by
        rcases List.mem_append.mp hp with hp | hp
        · obtain ⟨f, hf, hfn⟩ := hdumped p hp
          exact Or.inr (hfn ▸ hsubF f hf)
        · exact hsubC p.1 (List.any_eq_true.mpr ⟨p, by simpa using hp, by simp⟩)
      rcases hcov with h | ⟨g, hg, hgn⟩
      · simp [h]
      · have : fsp.any (fun f => fieldName f == p.1) = true := List.any_eq_true.mpr ⟨g, hg, beq_iff_eq.mpr hgn⟩
        simp [this]

/-- in the form of the design: the child's validated value, serialised, is accepted by the
parent (`Sub` between the two schema types) -/
theorem child_in_Sub_parent (env : Env) (nc np : Str) (ec ep : Extra) (fsc fsp : List Field)
    (csc csp : List (Str × Json)) (hE : Extends env ec ep fsc fsp csc csp) :
    Sub env (.model nc ec fsc csc) (.model np ep fsp csp) :=
  child_valid_in_parent env nc np ec ep fsc fsp csc csp hE

/-! ## `check_overrides` refuses undeclared widenings -/

theorem firstErr_error_of_mem (l : List (Except Refusal Unit)) (e : Refusal)
    (h : .error e ∈ l) : ∃ e', firstErr l = .error e' := by
  fun_induction firstErr l with
  | case1 => cases h
  | case2 r ih => exact ih (by simpa using h)
  | case3 e' r => exact ⟨e', rfl⟩

/-- **An undeclared override that is not a subtype is refused**: if class `c` re-annotates an
inherited (non-constant) field `f` with a type for which `is_subtype` says no, and `f` is not
listed in `__overrides__`, then `check_overrides` raises. -/
theorem undeclared_widening_refused (T : Table) (c : ClassDef) (f : Str) (h ph : Ty)
    (hover : f ∈ detectOverrides T c) (hdecl : f ∉ c.overrides)
    (hh : getHint f (typeHints T c.name) = some h) (hp : getHint f (baseHints T c) = some ph)
    (hns : isSubtype T h ph = false) :
    ∃ e, checkOverrides T c = .error e := by
  unfold checkOverrides
  simp only
  split
  · exact ⟨_, rfl⟩
  · split
    · exact ⟨_, rfl⟩
    · apply firstErr_error_of_mem _ .typeError
      apply List.mem_map.mpr
      refine ⟨f, List.mem_filter.mpr ⟨hover, by simpa using hdecl⟩, ?_⟩
      simp [hh, hp, hns]

/-- conversely, when `check_overrides` passes, every undeclared override is a subtype -/
theorem checked_overrides_are_subtypes (T : Table) (c : ClassDef)
    (hok : checkOverrides T c = .ok ()) (f : Str) (h ph : Ty)
    (hover : f ∈ detectOverrides T c) (hdecl : f ∉ c.overrides)
    (hh : getHint f (typeHints T c.name) = some h) (hp : getHint f (baseHints T c) = some ph) :
    isSubtype T h ph = true := by
  cases hs : isSubtype T h ph with
  | true => rfl
  | false =>
    obtain ⟨e, he⟩ := undeclared_widening_refused T c f h ph hover hdecl hh hp hs
    rw [he] at hok
    cases hok

/-! ## the legacy behaviour of the pint parsers (before F27) broke the Union rule -/

/-- a library parser that *raises* (pint: `AttributeError` on `"="`) aborts the whole Union, so
`NonEmptyStr <= Union[PintQuantity, NonEmptyStr]` (which `is_subtype` grants) was unsound -/
theorem legacy_crash_breaks_union_subtype :
    let env : Env := { norm := fun _ _ => none, normFloat := fun t => some t,
                       crash := fun _ s => s = ['='] }
    isSubtype [] (.cstr .nes) (.union [.opq .qty, .cstr .nes]) = true ∧
    Valid env (.cstr .nes) (.str ['=']) ∧
    accepts env (.union [.opq .qty, .cstr .nes]) (encode (.str ['='])) = false := by
  refine ⟨by decide, ?_, by decide⟩
  simp only [Valid]
  exact ⟨['='], rfl, by decide⟩

/-! ## `check_types` walks the whole inheritance chain -/

/-- one step of the dependency loop of `checkTypesF` -/
def ctStep (T : Table) (fuel : Nat) (acc : List Str × Except Refusal Unit) (d : Str) :
    List Str × Except Refusal Unit :=
  match acc.2 with
  | .error e => (acc.1, .error e)
  | .ok () => checkTypesF T fuel acc.1 d

theorem foldl_ctStep_error (T : Table) (fuel : Nat) (ds : List Str) (s : List Str) (e : Refusal) :
    List.foldl (ctStep T fuel) (s, .error e) ds = (s, .error e) := by
  induction ds with
  | nil => rfl
  | cons d ds ih => simpa [List.foldl, ctStep] using ih

theorem foldl_ctStep_ok (T : Table) (fuel : Nat) (ds : List Str) (acc : List Str × Except Refusal Unit)
    (h : (List.foldl (ctStep T fuel) acc ds).2 = .ok ()) : acc.2 = .ok () := by
  obtain ⟨s, _ | ⟨⟨⟩⟩⟩ := acc
  · rw [foldl_ctStep_error] at h
    exact h
  · rfl

/-- the k-th class up the inheritance chain (`0` = the class itself) -/
def nthAnc (T : Table) : Nat → Str → Option Str
  | 0, n => some n
  | k + 1, n =>
    match find T n with
    | some c =>
      match c.parent with
      | some p => nthAnc T k p
      | none => none
    | none => none

/-- the dependencies `check_types` descends into: the base class, then the nested schemas -/
def ctDeps (T : Table) (c : ClassDef) (n : Str) : List Str :=
  (match c.parent with
    | some p => [p]
    | none => []) ++ (fieldSchemasF T (T.length + 1) n).filter (fun s => s != n)

theorem checkTypesF_succ (T : Table) (fuel : Nat) (seen : List Str) (n : Str) (c : ClassDef)
    (hn : seen.contains n = false) (hf : find T n = some c) :
    checkTypesF T (fuel + 1) seen n =
      ((List.foldl (ctStep T fuel) (n :: seen, .ok ()) (ctDeps T c n)).1,
       (List.foldl (ctStep T fuel) (n :: seen, .ok ()) (ctDeps T c n)).2 >>= fun _ =>
         checkAllowed T c >>= fun _ => checkOverrides T c) := by
  have key : ∀ (R : List Str × Except Refusal Unit) (a b : Except Refusal Unit),
      (match R.2 with
       | .error e => (R.1, .error e)
       | .ok () =>
         match a with
         | .error e => (R.1, .error e)
         | .ok () => (R.1, b)) = (R.1, R.2 >>= fun _ => a >>= fun _ => b) := by
    rintro ⟨R1, _ | ⟨⟨⟩⟩⟩ (_ | ⟨⟨⟩⟩) b <;> rfl
  rw [checkTypesF]
  simp only [hn, hf, Bool.false_eq_true, if_false]
  exact key _ _ _

/-! ## class construction: what an accepted definition implies -/

/-- the fields of a class as `add_const_fields` sees them (before any of them becomes a constant) -/
def decoratorHints (T : Table) (c : ClassDef) : List (Str × Ty) :=
  (ownHints (baseHints T c) c).foldl (fun acc (p : Str × Ty) => setHint p.1 p.2 acc) (baseHints T c)

/-- whether the base class forbids extra fields, as `defineOk` computes it -/
def parentForbids (T : Table) (c : ClassDef) : Bool :=
  (match c.parent.bind (find T) with
    | some p => effExtra T p
    | none => .allow) == .forbid

theorem ite_error_eq_ok {c : Prop} [Decidable c] {e : Refusal} {x : Except Refusal Unit} :
    (if c then .error e else x) = .ok () ↔ ¬ c ∧ x = .ok () := by
  split <;> simp [*]

theorem defineOk_ok (T : Table) (c : ClassDef) (h : defineOk T c = .ok ()) :
    (parentForbids T c && (c.fields.map (fun f => f.1)).any (fun n => (getHint n (baseHints T c)).isNone)) = false ∧
    firstErr (c.consts.map (constOk T c (decoratorHints T c) (baseConsts T c) (parentForbids T c))) = .ok () := by
  -- `defineOk` is a chain of `if … then error`: accepted means every test failed
  simp only [defineOk, ite_error_eq_ok] at h
  exact ⟨Bool.eq_false_iff.mpr h.2.2.1, h.2.2.2.2⟩

theorem exists_error_of_ne_ok (r : Except Refusal Unit) (h : r ≠ .ok ()) : ∃ e, r = .error e := by
  cases r with
  | error e => exact ⟨e, rfl⟩
  | ok u => exact absurd rfl h

/-- **No new field below a parent that forbids extras** — required, `Optional` or defaulted alike
(`SchemaMagic.__new__`, `core.py:167-172`: the test is on the *names* of the new fields; an
`Optional`/defaulted field is dumped whenever it is set, and the parent rejects the key). -/
theorem new_field_below_forbidding_parent_refused (T : Table) (c p : ClassDef) (pn : Str)
    (hp : c.parent = some pn) (hf : find T pn = some p) (hforb : effExtra T p = .forbid)
    (f : Str × Ty × Option Json) (hmem : f ∈ c.fields) (hnew : getHint f.1 (baseHints T c) = none) :
    ∃ e, defineOk T c = .error e := by
  refine exists_error_of_ne_ok _ fun hok => ?_
  have hany : (c.fields.map (fun f => f.1)).any (fun n => (getHint n (baseHints T c)).isNone) = true :=
    List.any_eq_true.mpr ⟨f.1, List.mem_map.mpr ⟨f, hmem, rfl⟩, by simp [hnew]⟩
  have := (defineOk_ok T c hok).1
  simp [parentForbids, hp, hf, hforb, hany] at this

/-! ## non-vacuity -/

def envEx : Env := { norm := fun _ s => some s, normFloat := fun t => some t }

/-- a registry with one base class and one child (field narrowed, one field added) -/
def baseTy : Ty := .model "Base".toList .allow
  [.mk "f".toList (.opt (.cstr .nes)) false none, .mk "g".toList .int true none] [("@type".toList, .str "B".toList)]
def childTy : Ty := .model "Child".toList .ignore
  [.mk "f".toList (.cstr .mime) true none, .mk "g".toList .int true none, .mk "h".toList (.opt .bool) false none]
  [("@type".toList, .str "C".toList)]

def regEx : Reg := fun n => if n = "Base".toList then some baseTy else if n = "Child".toList then some childTy else none

def tblEx : Table := [{ name := "Base".toList }, { name := "Child".toList, parent := some "Base".toList }]

/-- the hypotheses of `isSubtype_sound` hold for a concrete pair (no schema classes involved,
so only the string part of `ClassTableSound` matters; the edge QualHashsumStr<HashsumStr is
avoided by stating the hypothesis for the pairs used) … -/
example : isSubtype tblEx (.list (.union [.cstr .mime, .lit [.str "x".toList]]))
    (.opt (.list (.union [.cstr .nes, .lit [.str "y".toList, .str "x".toList]]))) = true := by decide
example : isSubtype tblEx (.list (.cstr .mime)) (.opt (.list (.cstr .nes))) = true := by decide
example : NoCrash envEx := fun _ _ => rfl
example : Coherent regEx (.opt (.list childTy)) := by simp [Coherent, regEx, childTy]
example : SetsScalar (.opt (.set (.union [.int, .cstr .hash]))) = true := by decide

/-- … and `Extends` holds for the concrete child/base pair: the child narrows `f` from
`Optional[NonEmptyStr]` to `MimeTypeStr` (in `Sub` by `mime_nes`), keeps `g`, adds `h` -/
example : Extends envEx .ignore .allow
    [.mk "f".toList (.cstr .mime) true none, .mk "g".toList .int true none, .mk "h".toList (.opt .bool) false none]
    [.mk "f".toList (.opt (.cstr .nes)) false none, .mk "g".toList .int true none]
    [("@type".toList, .str "C".toList)] [("@type".toList, .str "B".toList)] := by
  refine ⟨fun n tg reqg dg hmem => ?_, by simp [hasKey], nofun⟩
  simp only [List.mem_cons, Field.mk.injEq, List.not_mem_nil, or_false] at hmem
  rcases hmem with ⟨rfl, rfl, rfl, rfl⟩ | ⟨rfl, rfl, rfl, rfl⟩
  · refine Or.inl ⟨.cstr .mime, true, none, by simp, fun v ⟨s, hv, hs⟩ => ?_, by simp⟩
    subst hv
    simp [accepts, encode, decode, recog, mime_nes s hs]
  · exact Or.inl ⟨.int, true, none, by simp, Sub_refl envEx .int, by simp⟩

example : decode envEx baseTy (encode (.obj "Child".toList
    [("f".toList, .str "a/b".toList), ("g".toList, .int 0), ("h".toList, .none)]
    [("@type".toList, .str "C".toList)] [])) =
    .ok (.obj "Base".toList [("f".toList, .str "a/b".toList), ("g".toList, .int 0)]
      [("@type".toList, .str "B".toList)] []) := by rfl

/-- … and for the "marked subclass" pattern: the base has the discriminator
`kind : Literal["circle", "square"]`, the child pins it with `add_const_fields({"kind": "circle"})`
below a base that forbids extra fields -/
example : Extends envEx .forbid .forbid
    [.mk "size".toList .int true none]
    [.mk "kind".toList (.lit [.str "circle".toList, .str "square".toList]) true none, .mk "size".toList .int true none]
    [("kind".toList, .str "circle".toList)] [] := by
  refine ⟨fun n tg reqg dg hmem => ?_, by simp [hasKey], fun _ => ⟨rfl, fun f hf => ?_, fun k hk => ?_⟩⟩
  · simp only [List.mem_cons, Field.mk.injEq, List.not_mem_nil, or_false] at hmem
    rcases hmem with ⟨rfl, rfl, rfl, rfl⟩ | ⟨rfl, rfl, rfl, rfl⟩
    · refine Or.inr ⟨fun f hf => ?_, .str "circle".toList, rfl, rfl⟩
      cases List.mem_singleton.mp hf
      decide
    · exact Or.inl ⟨.int, true, none, by simp, Sub_refl envEx .int, by simp⟩
  · cases List.mem_singleton.mp hf
    exact ⟨_, List.mem_cons_of_mem _ List.mem_cons_self, rfl⟩
  · simp only [hasKey, List.any_cons, List.any_nil, Bool.or_false, beq_iff_eq] at hk
    exact Or.inr ⟨_, List.mem_cons_self, hk⟩

/-- whatever the input carries in the constant field (`override_consts`: "ignored on load"), the
child instance holds the constant, and its dump is accepted by the base -/
example : decode envEx (.model "Circle".toList .forbid [.mk "size".toList .int true none] [("kind".toList, .str "circle".toList)])
      (.obj [("size".toList, .int 4), ("kind".toList, .str "triangle".toList)]) =
    .ok (.obj "Circle".toList [("size".toList, .int 4)] [("kind".toList, .str "circle".toList)] []) := by rfl

/-! ## load order: `check_types` without `recheck`, marks of earlier loads -/

theorem checkTypesF_succ_snd_ok (T : Table) (fuel : Nat) (marks : List Str) (n : Str) (c : ClassDef)
    (hn : marks.contains n = false) (hf : find T n = some c)
    (h : (checkTypesF T (fuel + 1) marks n).2 = .ok ()) :
    (List.foldl (ctStep T fuel) (n :: marks, .ok ()) (ctDeps T c n)).2 = .ok () ∧
      checkAllowed T c = .ok () ∧ checkOverrides T c = .ok () := by
  rw [checkTypesF_succ T fuel marks n c hn hf] at h
  generalize List.foldl _ _ _ = R at h ⊢
  rcases R with ⟨R1, _ | ⟨⟨⟩⟩⟩
  · cases h
  · cases hA : checkAllowed T c with
    | error e => rw [hA] at h; cases h
    | ok u => cases u; rw [hA] at h; exact ⟨rfl, rfl, h⟩

theorem checkTypesF_seen (T : Table) (fuel : Nat) (marks : List Str) (n : Str)
    (hc : marks.contains n = true) : checkTypesF T (fuel + 1) marks n = (marks, .ok ()) := by
  rw [checkTypesF]
  simp only [hc, if_true]

theorem checkTypesF_unknown (T : Table) (fuel : Nat) (marks : List Str) (n : Str)
    (hc : marks.contains n = false) (hf : find T n = none) :
    checkTypesF T (fuel + 1) marks n = (marks, .ok ()) := by
  rw [checkTypesF]
  simp only [hc, hf, Bool.false_eq_true, if_false]

theorem foldl_ctStep_mono (T : Table) (fuel : Nat)
    (ih : ∀ (marks : List Str) (n : Str), ∀ b ∈ marks, b ∈ (checkTypesF T fuel marks n).1) :
    ∀ (ds : List Str) (acc : List Str × Except Refusal Unit), ∀ b ∈ acc.1,
      b ∈ (List.foldl (ctStep T fuel) acc ds).1 := by
  intro ds
  induction ds with
  | nil => intro acc b hb; exact hb
  | cons d ds ihd =>
    intro acc b hb
    simp only [List.foldl]
    apply ihd
    unfold ctStep
    split
    · exact hb
    · exact ih _ _ b hb

theorem checkTypesF_mono (T : Table) : ∀ (fuel : Nat) (marks : List Str) (n : Str),
    ∀ b ∈ marks, b ∈ (checkTypesF T fuel marks n).1 := by
  intro fuel
  induction fuel with
  | zero => intro marks n b hb; simpa [checkTypesF] using hb
  | succ fuel ih =>
    intro marks n b hb
    cases hc : marks.contains n with
    | true => rw [checkTypesF_seen T fuel marks n hc]; exact hb
    | false =>
      cases hf : find T n with
      | none => rw [checkTypesF_unknown T fuel marks n hc hf]; exact hb
      | some c =>
        rw [checkTypesF_succ T fuel marks n c hc hf]
        exact foldl_ctStep_mono T fuel ih _ _ b (List.mem_cons_of_mem _ hb)

theorem checkTypesF_marks_self (T : Table) (fuel : Nat) (marks : List Str) (n : Str) :
    find T n = none ∨ n ∈ (checkTypesF T (fuel + 1) marks n).1 := by
  cases hc : marks.contains n with
  | true =>
    right
    rw [checkTypesF_seen T fuel marks n hc]
    simpa using hc
  | false =>
    cases hf : find T n with
    | none => left; rfl
    | some c =>
      right
      rw [checkTypesF_succ T fuel marks n c hc hf]
      exact foldl_ctStep_mono T fuel (checkTypesF_mono T fuel) _ _ n (List.mem_cons_self ..)

/-- classes of the table that carry no mark yet (the measure that bounds the depth of the walk) -/
def unexamined (T : Table) (marks : List Str) : Nat :=
  (T.filter (fun c => !marks.contains c.name)).length

theorem unexamined_le (T : Table) (marks : List Str) : unexamined T marks ≤ T.length :=
  List.length_filter_le _ _

theorem unexamined_mono (T : Table) (marks marks' : List Str) (h : ∀ b ∈ marks, b ∈ marks') :
    unexamined T marks' ≤ unexamined T marks := by
  unfold unexamined
  rw [← List.countP_eq_length_filter, ← List.countP_eq_length_filter]
  refine List.countP_mono_left fun c _ hc => ?_
  simp only [Bool.not_eq_true', List.contains_eq_mem, decide_eq_false_iff_not] at hc ⊢
  exact fun hm => hc (h _ hm)

theorem find_name (T : Table) (n : Str) (c : ClassDef) (h : find T n = some c) : c.name = n := by
  have := List.find?_some h
  simpa using this

theorem unexamined_lt (T : Table) (marks : List Str) (n : Str) (c : ClassDef)
    (hn : n ∉ marks) (hf : find T n = some c) : unexamined T (n :: marks) < unexamined T marks := by
  have hc := find_name T n c hf
  have : T.filter (fun c => !(n :: marks).contains c.name) =
      (T.filter (fun c => !marks.contains c.name)).filter (fun c => decide (c.name ≠ n)) := by
    rw [List.filter_filter]
    exact List.filter_congr fun a _ => by simp
  rw [unexamined, this]
  exact List.length_filter_lt_length_iff_exists.mpr
    ⟨c, List.mem_filter.mpr ⟨List.mem_of_find?_eq_some hf, by simpa [hc] using hn⟩, by simp [hc]⟩

/-- **What a mark stands for.** Every marked class that is not still under examination
(`pending`: the classes on the stack of the walk) passed `check_allowed_types` and
`check_overrides`, and its base class is marked as well. -/
def MarksOk (T : Table) (pending marks : List Str) : Prop :=
  ∀ b ∈ marks, b ∉ pending → ∀ cb, find T b = some cb →
    checkAllowed T cb = .ok () ∧ checkOverrides T cb = .ok () ∧
    ∀ p, cb.parent = some p → p ∈ marks ∨ find T p = none

theorem foldl_ctStep_marksOk (T : Table) (fuel : Nat) (pending : List Str)
    (ih : ∀ (marks : List Str) (n : Str), unexamined T marks < fuel → MarksOk T pending marks →
      (checkTypesF T fuel marks n).2 = .ok () → MarksOk T pending (checkTypesF T fuel marks n).1) :
    ∀ (ds : List Str) (acc : List Str × Except Refusal Unit), unexamined T acc.1 < fuel →
      MarksOk T pending acc.1 → (List.foldl (ctStep T fuel) acc ds).2 = .ok () →
      MarksOk T pending (List.foldl (ctStep T fuel) acc ds).1 := by
  intro ds
  induction ds with
  | nil => intro acc _ h _; exact h
  | cons d ds ihd =>
    intro acc hm h hok
    have h1 := foldl_ctStep_ok T fuel ds _ hok
    obtain ⟨s, r⟩ := acc
    cases foldl_ctStep_ok T fuel [d] (s, r) h1
    exact ihd _ (Nat.lt_of_le_of_lt (unexamined_mono T s _ (checkTypesF_mono T fuel s d)) hm) (ih s d hm h h1) hok

/-- the walk keeps the meaning of the marks, as long as it ends without a refusal -/
theorem checkTypesF_marksOk (T : Table) : ∀ (fuel : Nat) (pending marks : List Str) (n : Str),
    unexamined T marks < fuel → MarksOk T pending marks → (checkTypesF T fuel marks n).2 = .ok () →
    MarksOk T pending (checkTypesF T fuel marks n).1 := by
  intro fuel
  induction fuel with
  | zero => intro _ _ _ h; omega
  | succ fuel ih =>
    intro pending marks n hm h hok
    cases hc : marks.contains n with
    | true => rw [checkTypesF_seen T fuel marks n hc]; exact h
    | false =>
      cases hf : find T n with
      | none => rw [checkTypesF_unknown T fuel marks n hc hf]; exact h
      | some c =>
        have hn : n ∉ marks := by simpa using hc
        obtain ⟨hfold, hA, hO⟩ := checkTypesF_succ_snd_ok T fuel marks n c hc hf hok
        rw [checkTypesF_succ T fuel marks n c hc hf]
        have hlt := unexamined_lt T marks n c hn hf
        have hm' : unexamined T (n :: marks) < fuel := by omega
        have h0 : MarksOk T (n :: pending) (n :: marks) := fun b hb hbp cb hcb => by
          obtain ⟨hbn, hbp'⟩ := not_or.mp (mt List.mem_cons.mpr hbp)
          obtain ⟨a1, a2, a3⟩ := h b ((List.mem_cons.mp hb).resolve_left hbn) hbp' cb hcb
          exact ⟨a1, a2, fun p hp => (a3 p hp).imp_left (List.mem_cons_of_mem _)⟩
        have hR := foldl_ctStep_marksOk T fuel (n :: pending) (fun m d => ih (n :: pending) m d)
          (ctDeps T c n) (n :: marks, .ok ()) hm' h0 hfold
        intro b hb hbp cb hcb
        by_cases hbn : b = n
        · subst hbn
          rw [hf] at hcb
          cases hcb
          refine ⟨hA, hO, fun p hp => ?_⟩
          -- the base class is the first dependency the walk descends into
          obtain ⟨f', rfl⟩ : ∃ f', fuel = f' + 1 := ⟨fuel - 1, by omega⟩
          rcases checkTypesF_marks_self T f' (b :: marks) p with hnone | hmem
          · exact Or.inr hnone
          · left
            simp only [ctDeps, hp, List.singleton_append, List.foldl]
            apply foldl_ctStep_mono T (f' + 1) (checkTypesF_mono T (f' + 1))
            exact hmem
        · exact hR b hb (fun hp => (List.mem_cons.mp hp).elim hbn hbp) cb hcb

theorem loadPlugin_snd (T : Table) (marks : List Str) (n : Str) :
    (loadPlugin T marks n).2 = (checkTypesF T (2 * T.length + 2) marks n).2 := by
  simp only [loadPlugin]
  split <;> simp [*]

theorem loadPlugin_fst (T : Table) (marks : List Str) (n : Str) (h : (loadPlugin T marks n).2 = .ok ()) :
    (loadPlugin T marks n).1 = (checkTypesF T (2 * T.length + 2) marks n).1 := by
  rw [loadPlugin_snd] at h
  simp [loadPlugin, h]

/-- **A refused load leaves no trace**: the marks afterwards are the marks from before
(`core.py:390-395`: the top-level call clears every mark it has set). -/
theorem refused_load_restores_marks (T : Table) (marks : List Str) (n : Str)
    (h : (loadPlugin T marks n).2 ≠ .ok ()) : (loadPlugin T marks n).1 = marks := by
  rw [loadPlugin_snd] at h
  simp only [loadPlugin]
  split
  · rfl
  · contradiction

theorem loadPlugin_marksOk (T : Table) (marks : List Str) (n : Str) (h : MarksOk T [] marks) :
    MarksOk T [] (loadPlugin T marks n).1 := by
  by_cases hr : (loadPlugin T marks n).2 = .ok ()
  · rw [loadPlugin_fst T marks n hr]
    have := unexamined_le T marks
    exact checkTypesF_marksOk T _ [] marks n (by omega) h (loadPlugin_snd T marks n ▸ hr)
  · rw [refused_load_restores_marks T marks n hr]
    exact h

/-- any sequence of loads keeps the meaning of the marks, whatever their outcomes -/
theorem loadAll_marksOk (T : Table) : ∀ (loads marks : List Str), MarksOk T [] marks →
    MarksOk T [] (loadAll T marks loads).1 := by
  intro loads
  induction loads with
  | nil => intro marks h; exact h
  | cons n ns ih =>
    intro marks h
    simp only [loadAll]
    exact ih _ (loadPlugin_marksOk T marks n h)

theorem loadAll_append (T : Table) : ∀ (xs ys marks : List Str),
    loadAll T marks (xs ++ ys) =
      ((loadAll T (loadAll T marks xs).1 ys).1, (loadAll T marks xs).2 ++ (loadAll T (loadAll T marks xs).1 ys).2) := by
  intro xs
  induction xs with
  | nil => intro ys marks; rfl
  | cons x xs ih =>
    intro ys marks
    simp only [List.cons_append, loadAll, ih, List.cons_append]

theorem loadAll_length (T : Table) : ∀ (xs marks : List Str), (loadAll T marks xs).2.length = xs.length := by
  intro xs
  induction xs with
  | nil => intro _; rfl
  | cons x xs ih => intro marks; simp [loadAll, ih]

theorem loadAll_outcome_at (T : Table) (pre post : List Str) (n : Str) :
    (loadAll T [] (pre ++ n :: post)).2[pre.length]? = some (loadPlugin T (loadAll T [] pre).1 n).2 := by
  rw [loadAll_append]
  simp only [loadAll]
  rw [List.getElem?_append_right (by rw [loadAll_length]; exact Nat.le_refl _)]
  simp [loadAll_length]

/-- a dangling base name ends every chain -/
theorem find_of_nthAnc (T : Table) (k : Nat) (b a : Str) (ca : ClassDef) (ha : nthAnc T k b = some a)
    (hfa : find T a = some ca) : find T b ≠ none := by
  intro hb
  cases k with
  | zero =>
    simp only [nthAnc, Option.some.injEq] at ha
    rw [← ha, hb] at hfa
    cases hfa
  | succ k => simp [nthAnc, hb] at ha

theorem marksOk_chain (T : Table) (marks : List Str) (h : MarksOk T [] marks) :
    ∀ (k : Nat) (b a : Str) (ca : ClassDef), b ∈ marks → nthAnc T k b = some a → find T a = some ca →
      a ∈ marks := by
  intro k
  induction k with
  | zero =>
    intro b a ca hb ha _
    simp only [nthAnc, Option.some.injEq] at ha
    exact ha ▸ hb
  | succ k ih =>
    intro b a ca hb ha hfa
    rw [nthAnc] at ha
    split at ha
    · split at ha
      · rename_i cb hfb _ p hp
        exact ((h b hb (by simp) cb hfb).2.2 p hp).elim (fun hpm => ih p a ca hpm ha hfa)
          fun hpn => absurd hpn (find_of_nthAnc T k p a ca ha hfa)
      · cases ha
    · cases ha

/-- **Load order and earlier refusals do not matter.** After any sequence of plugin loads
(`check_types` without `recheck`, in any order, with repetitions, parents before or after their
children, *any of them refused*; dependency cycles allowed), a load that passes means: the loaded
class and every class up its inheritance chain — plugin or plain intermediate class, marked by this
load or by an earlier one — has passed `check_allowed_types` and `check_overrides`. No bound on the
number of loads or classes, no hypothesis on the table. (For the code before the repair F31 this needed the
hypothesis that no earlier load of the process was refused: `legacy_refused_class_passes_next_load`.) -/
theorem loads_examine_every_ancestor (T : Table) (pre : List Str) (n : Str)
    (hok : (loadPlugin T (loadAll T [] pre).1 n).2 = .ok ())
    (k : Nat) (a : Str) (ca : ClassDef) (ha : nthAnc T k n = some a) (hfa : find T a = some ca) :
    checkAllowed T ca = .ok () ∧ checkOverrides T ca = .ok () := by
  have hM0 := loadAll_marksOk T pre [] (by intro b hb; cases hb)
  have hM := loadPlugin_marksOk T _ n hM0
  have hnm : n ∈ (loadPlugin T (loadAll T [] pre).1 n).1 := by
    rw [loadPlugin_fst T _ n hok]
    exact (checkTypesF_marks_self T (2 * T.length + 1) _ n).resolve_left (find_of_nthAnc T k n a ca ha hfa)
  have ham := marksOk_chain T _ hM k n a ca hnm ha hfa
  obtain ⟨h1, h2, _⟩ := hM a ham (by simp) ca hfa
  exact ⟨h1, h2⟩

/-- the same for a whole sequence: wherever in a sequence of loads a load passes -/
theorem loads_examine_every_ancestor_at (T : Table) (pre post : List Str) (n : Str)
    (hok : (loadAll T [] (pre ++ n :: post)).2[pre.length]? = some (.ok ()))
    (k : Nat) (a : Str) (ca : ClassDef) (ha : nthAnc T k n = some a) (hfa : find T a = some ca) :
    checkAllowed T ca = .ok () ∧ checkOverrides T ca = .ok () := by
  rw [loadAll_outcome_at] at hok
  exact loads_examine_every_ancestor T pre n (Option.some.inj hok) k a ca ha hfa

/-- **`check_types` examines every class up the inheritance chain.** If the check of `n` passes,
`check_overrides` passed for the `k`-th class above `n`, for every `k`, whether or not the
classes in between are plugins: the case of `loads_examine_every_ancestor` without earlier loads. -/
theorem checkTypes_visits_ancestors (T : Table) (k : Nat) (n a : Str) (ca : ClassDef)
    (ha : nthAnc T k n = some a) (hfa : find T a = some ca)
    (hdist : ∀ i j, i < j → j ≤ k → nthAnc T i n ≠ nthAnc T j n) (hk : k ≤ 2 * T.length + 1)
    (h : checkTypes T n = .ok ()) : checkOverrides T ca = .ok () :=
  (loads_examine_every_ancestor T [] n ((loadPlugin_snd T [] n).trans h) k a ca ha hfa).2

/-- **A refused class stays refused, and so does everything below it.** Whatever was loaded
before (any sequence, any outcomes): if a class `a` on the inheritance chain of `n` (`k = 0`: `n`
itself) fails `check_allowed_types` or `check_overrides`, the load of `n` is refused. -/
theorem refused_stays_refused (T : Table) (pre : List Str) (n : Str) (k : Nat) (a : Str) (ca : ClassDef)
    (ha : nthAnc T k n = some a) (hfa : find T a = some ca)
    (hbad : checkAllowed T ca ≠ .ok () ∨ checkOverrides T ca ≠ .ok ()) :
    (loadPlugin T (loadAll T [] pre).1 n).2 ≠ .ok () := by
  intro hok
  obtain ⟨h1, h2⟩ := loads_examine_every_ancestor T pre n hok k a ca ha hfa
  rcases hbad with h | h
  · exact h h1
  · exact h h2

/-- `Ga.f : Int  <-  Pa.f : Optional[Int] (a plain intermediate class)  <-  Ch` (field untouched) -/
def tblMid : Table :=
  [{ name := "Ga".toList, fields := [("f".toList, .int, none)] },
   { name := "Pa".toList, parent := some "Ga".toList, fields := [("f".toList, .opt .int, none)] },
   { name := "Ch".toList, parent := some "Pa".toList }]

/-- the widening sits in the intermediate class; all three classes can be defined, the
intermediate class fails `check_overrides`, hence the check of the leaf class does not pass -/
theorem intermediate_widening_refused :
    build tblMid = .ok () ∧ checkTypes tblMid "Ch".toList ≠ .ok () := by
  refine ⟨rfl, fun h => ?_⟩
  exact refused_stays_refused tblMid [] "Ch".toList 1 "Pa".toList _ rfl rfl (Or.inr (fun h' => by cases h'))
    ((loadPlugin_snd tblMid [] _).trans h)

/-- `Ga.f : Int  <-  @override("f") Pa.f : Str  <-  Ch.f : Optional[Str]` (nothing declared) -/
def tblDecl : Table :=
  [{ name := "Ga".toList, fields := [("f".toList, .int, none)] },
   { name := "Pa".toList, parent := some "Ga".toList, fields := [("f".toList, .str, none)], overrides := ["f".toList] },
   { name := "Ch".toList, parent := some "Pa".toList, fields := [("f".toList, .opt .str, none)] }]

/-- the declaration of an ancestor (`__overrides__` is reset per class, `core.py:186`) does not
cover a descendant that widens the field again -/
theorem declaration_not_inherited :
    build tblDecl = .ok () ∧
    checkOverrides tblDecl { name := "Pa".toList, parent := some "Ga".toList, fields := [("f".toList, .str, none)], overrides := ["f".toList] } = .ok () ∧
    checkOverrides tblDecl { name := "Ch".toList, parent := some "Pa".toList, fields := [("f".toList, .opt .str, none)] } = .error .typeError ∧
    checkTypes tblDecl "Ch".toList ≠ .ok () := by
  refine ⟨rfl, rfl, rfl, fun h => ?_⟩
  exact refused_stays_refused tblDecl [] "Ch".toList 0 "Ch".toList _ rfl rfl (Or.inr (fun h' => by cases h'))
    ((loadPlugin_snd tblDecl [] _).trans h)

/-- the same about the list of outcomes of a whole sequence: at *every* position where `n` is
loaded — the first time, again after it was refused, after a sibling, after its parent — the
outcome is a refusal -/
theorem refused_at_every_load (T : Table) (pre post : List Str) (n : Str) (k : Nat) (a : Str) (ca : ClassDef)
    (ha : nthAnc T k n = some a) (hfa : find T a = some ca)
    (hbad : checkAllowed T ca ≠ .ok () ∨ checkOverrides T ca ≠ .ok ()) :
    ∃ r, (loadAll T [] (pre ++ n :: post)).2[pre.length]? = some r ∧ r ≠ .ok () :=
  ⟨_, loadAll_outcome_at T pre post n, refused_stays_refused T pre n k a ca ha hfa hbad⟩

/-- a class that carries no mark of its own is examined by its load, whatever else is marked
(in particular its base class): the mark is per class, it is not inherited -/
theorem load_examines_unmarked (T : Table) (marks : List Str) (n : Str) (c : ClassDef)
    (hn : n ∉ marks) (hf : find T n = some c) (h : (loadPlugin T marks n).2 = .ok ()) :
    checkAllowed T c = .ok () ∧ checkOverrides T c = .ok () :=
  (checkTypesF_succ_snd_ok T (2 * T.length + 1) marks n c (by simpa using hn) hf
    (by rw [← loadPlugin_snd]; exact h)).2

/-- `Ga.f : Int` with two children that widen `f` without declaring it, and a class below one of them -/
def tblSibs : Table :=
  [{ name := "Ga".toList, fields := [("f".toList, .int, none)] },
   { name := "Ch".toList, parent := some "Ga".toList, fields := [("f".toList, .opt .int, none)] },
   { name := "Cb".toList, parent := some "Ga".toList, fields := [("f".toList, .union [.int, .str], none)] },
   { name := "Le".toList, parent := some "Ch".toList }]

theorem tblSibs_Ch : find tblSibs "Ch".toList =
    some { name := "Ch".toList, parent := some "Ga".toList, fields := [("f".toList, .opt .int, none)] } := rfl

theorem tblSibs_Ch_bad : checkOverrides tblSibs
    { name := "Ch".toList, parent := some "Ga".toList, fields := [("f".toList, .opt .int, none)] } ≠ .ok () := by
  exact fun h => by cases h

/-- the widening child is refused whatever else is marked — its parent loaded before it, a
sibling, nothing at all — as long as it was not itself checked before -/
theorem child_refused_whatever_is_marked (marks : List Str) (h : "Ch".toList ∉ marks) :
    (loadPlugin tblSibs marks "Ch".toList).2 ≠ .ok () := by
  intro hok
  exact tblSibs_Ch_bad (load_examines_unmarked tblSibs marks _ _ h tblSibs_Ch hok).2

/-- non-vacuity of `refused_stays_refused`: after any loads whatsoever the widening child `Ch` and
the class `Le` below it are refused -/
example (pre : List Str) :
    (loadPlugin tblSibs (loadAll tblSibs [] pre).1 "Ch".toList).2 ≠ .ok () ∧
    (loadPlugin tblSibs (loadAll tblSibs [] pre).1 "Le".toList).2 ≠ .ok () :=
  ⟨refused_stays_refused tblSibs pre "Ch".toList 0 "Ch".toList _ rfl tblSibs_Ch (Or.inr tblSibs_Ch_bad),
   refused_stays_refused tblSibs pre "Le".toList 1 "Ch".toList _ rfl tblSibs_Ch (Or.inr tblSibs_Ch_bad)⟩

/-- the concrete sequence of the report (F31): `Ch` refused, `Ch` again refused, `Le` refused, the
sound part (`Ga`) passes, and only `Ga` is marked in the end -/
example : loadAll tblSibs [] ["Ch".toList, "Ch".toList, "Le".toList, "Ga".toList] =
    (["Ga".toList], [.error .typeError, .error .typeError, .error .typeError, .ok ()]) := by rfl

/-- `Ga.f : Int  <-  Mi (f : Optional[Int], undeclared; h : Optional[De])  <-  De`: the class `Mi`
names its own subclass `De` in a field (a dependency cycle) -/
def tblCyc : Table :=
  [{ name := "Ga".toList, fields := [("f".toList, .int, none)] },
   { name := "Mi".toList, parent := some "Ga".toList,
     fields := [("f".toList, .opt .int, none), ("h".toList, .opt (.model "De".toList .allow [] []), none)] },
   { name := "De".toList, parent := some "Mi".toList }]

/-- non-vacuity with a dependency cycle: `De` is examined *inside* the walk of `Mi` while `Mi`
carries its mark, and passes there; the walk of `Mi` is refused, every mark it set is cleared, and
`De` is refused whenever it is loaded -/
example : build tblCyc = .ok () ∧
    loadAll tblCyc [] ["Mi".toList, "De".toList, "Mi".toList, "De".toList, "Ga".toList] =
      (["Ga".toList], [.error .typeError, .error .typeError, .error .typeError, .error .typeError, .ok ()]) := by
  refine ⟨rfl, rfl⟩

/-! ## the behaviour of `check_types` before the two repairs (F31) -/

namespace Legacy

/-- a plugin load before the repairs (`core.py:367-389` before `fix: check_types forgets the 'checked' mark
of a schema it refuses`): the mark is set before the examination and nothing ever clears it -/
def loadPlugin (T : Table) (marks : List Str) (n : Str) : List Str × Except Refusal Unit :=
  checkTypesF T (2 * T.length + 2) marks n

def loadAll (T : Table) : List Str → List Str → List Str × List (Except Refusal Unit)
  | marks, [] => (marks, [])
  | marks, n :: ns =>
    let r := loadPlugin T marks n
    let rest := loadAll T r.1 ns
    (rest.1, r.2 :: rest.2)

/-- `schema.__types_checked__ = False` -/
def unmark (n : Str) (marks : List Str) : List Str := marks.filter (fun m => m != n)

/-- the walk of the first repair (`fix: check_types forgets the 'checked' mark of a schema it
refuses`): every level clears the mark of *its own* class when it raises, i.e. the classes on the
stack lose their marks, a class that the walk finished before keeps its mark -/
def checkTypesFStack (T : Table) : Nat → List Str → Str → List Str × Except Refusal Unit
  | 0, seen, _ => (seen, .ok ())
  | fuel + 1, seen, n =>
    if seen.contains n then (seen, .ok ())
    else
      match find T n with
      | none => (seen, .ok ())
      | some c =>
        let seen := n :: seen
        let deps := (match c.parent with
          | some p => [p]
          | none => []) ++ (fieldSchemasF T (T.length + 1) n).filter (fun s => s != n)
        let r := deps.foldl (fun (acc : List Str × Except Refusal Unit) d =>
          match acc.2 with
          | .error e => (acc.1, .error e)
          | .ok () => checkTypesFStack T fuel acc.1 d) (seen, .ok ())
        match r.2 with
        | .error e => (unmark n r.1, .error e)
        | .ok () =>
          match checkAllowed T c with
          | .error e => (unmark n r.1, .error e)
          | .ok () =>
            match checkOverrides T c with
            | .error e => (unmark n r.1, .error e)
            | .ok () => (r.1, .ok ())

def loadAllStack (T : Table) : List Str → List Str → List Str × List (Except Refusal Unit)
  | marks, [] => (marks, [])
  | marks, n :: ns =>
    let r := checkTypesFStack T (2 * T.length + 2) marks n
    let rest := loadAllStack T r.1 ns
    (rest.1, r.2 :: rest.2)

end Legacy

/-- The behaviour after a refusal before the repair F31: the refused class `Ch` passed its next load
unexamined, and so did the class `Le` below it — where the repaired code refuses all three loads
(`refused_stays_refused`). -/
theorem legacy_refused_class_passes_next_load :
    (Legacy.loadAll tblSibs [] ["Ch".toList, "Ch".toList, "Le".toList]).2 = [.error .typeError, .ok (), .ok ()] ∧
    (loadAll tblSibs [] ["Ch".toList, "Ch".toList, "Le".toList]).2 =
      [.error .typeError, .error .typeError, .error .typeError] := by
  refine ⟨rfl, rfl⟩

/-- The first repair (marks cleared level by level, on the stack only) was not enough with a
dependency cycle: `De` was examined inside the walk of `Mi`, passed, and kept its mark when `Mi` was
refused afterwards; from then on `De` passed every load although `Mi` on its chain is refused every
time (reproduced on the real classes at that commit). The final code refuses all four loads. -/
theorem legacy_nested_descendant_keeps_mark_of_refused_walk :
    Legacy.loadAllStack tblCyc [] ["Mi".toList, "De".toList, "Mi".toList, "De".toList] =
      (["De".toList, "Ga".toList], [.error .typeError, .ok (), .error .typeError, .ok ()]) ∧
    (loadAll tblCyc [] ["Mi".toList, "De".toList, "Mi".toList, "De".toList]).2 =
      [.error .typeError, .error .typeError, .error .typeError, .error .typeError] := by
  refine ⟨rfl, rfl⟩

/-! ## constants over collection-valued fields (F30) -/

namespace Legacy

/-- pydantic's `ModelField.type_`: the innermost item type -/
def innerTy : Ty → Ty
  | .opt t => innerTy t
  | .list t => innerTy t
  | .set t => innerTy t
  | .ann t => innerTy t
  | t => t

/-- `add_const_fields` before the repair F30 (before `fix: add_const_fields does not treat collection-valued
fields as enum/literal specialisation`): the test looked at `field_def.type_` only -/
def constOk (T : Table) (c : ClassDef) (hints : List (Str × Ty)) (bconsts : List (Str × Json))
    (parentForbids : Bool) (kv : Str × Json) : Except Refusal Unit :=
  let k := kv.1
  match getHint k hints with
  | some t =>
    match innerTy t with
    | .lit vs =>
      match jsonLit? kv.2 with
      | some l => if le T (.oneOf [some l]) (.oneOf (vs.map some)) then .ok () else .error .typeError
      | none => .error .typeError
    | _ => if c.constOverride then .ok () else .error .valueError
  | none =>
    if hasKey k bconsts then (if c.constOverride then .ok () else .error .valueError)
    else if parentForbids then .error .typeError
    else .ok ()

end Legacy

/-- **A constant over a collection-valued field is refused** unless the replacement is declared
with `override=True`: whatever the item type of the `List` / `Set` (also below `Optional` /
`Annotated`) is — a `Literal` or `Enum` containing the constant included — the class definition
raises. (The "marked subclass" shortcut is for plain fields only: the constant is a valid *item*,
not a valid value of the collection the parent expects.) -/
theorem const_over_container_refused (T : Table) (c : ClassDef) (kv : Str × Json) (t : Ty)
    (hmem : kv ∈ c.consts) (hno : c.constOverride = false)
    (hhint : getHint kv.1 (decoratorHints T c) = some t) (hcoll : singletonTy t = none) :
    ∃ e, defineOk T c = .error e := by
  refine exists_error_of_ne_ok _ fun hok => ?_
  obtain ⟨e, he⟩ := firstErr_error_of_mem _ .valueError (List.mem_map.mpr ⟨kv, hmem,
    show constOk T c (decoratorHints T c) (baseConsts T c) (parentForbids T c) kv = .error .valueError by
      simp [constOk, hhint, hcoll, hno]⟩)
  rw [(defineOk_ok T c hok).2] at he
  cases he

/-- `Ga (k : List[Literal["a","b"]], f : Int)  <-  Ch = add_const_fields({"k": "a"})` -/
def tblColl (t : Ty) (ovr : Bool) (v : Json) : Table :=
  [{ name := "Ga".toList, fields := [("k".toList, t, none), ("f".toList, .int, none)] },
   { name := "Ch".toList, parent := some "Ga".toList, consts := [("k".toList, v)], constOverride := ovr }]

def litAB : Ty := .lit [.str "a".toList, .str "b".toList]

/-- non-vacuity of `const_over_container_refused` and the other branches: a member of the Literal
over `List` / `Set` / `Optional[List]` is refused, with `override=True` (scalar or list constant) it
is an ordinary declared override, over the plain (also `Optional` / `Annotated`) field it is the
"marked subclass" pattern, a foreign value is refused there -/
example : build (tblColl (.list litAB) false (.str "a".toList)) = .error .valueError ∧
    build (tblColl (.set litAB) false (.str "a".toList)) = .error .valueError ∧
    build (tblColl (.opt (.list litAB)) false (.str "a".toList)) = .error .valueError ∧
    build (tblColl (.ann (.list litAB)) false (.arr [.str "a".toList])) = .error .valueError ∧
    build (tblColl (.list litAB) true (.str "a".toList)) = .ok () ∧
    build (tblColl (.list litAB) true (.arr [.str "a".toList])) = .ok () ∧
    build (tblColl litAB false (.str "a".toList)) = .ok () ∧
    build (tblColl (.opt (.ann litAB)) false (.str "a".toList)) = .ok () ∧
    build (tblColl litAB true (.str "zz".toList)) = .error .typeError := by
  refine ⟨rfl, rfl, rfl, rfl, rfl, rfl, rfl, rfl, rfl⟩

/-- The decorator before the repair F30 let the scalar through: the class was defined, `check_types`
passed (the constant is no override of an annotation), the child's dump carries the scalar, and
the parent — which expects a list — rejects it. -/
theorem legacy_const_over_container_accepted :
    Legacy.constOk (tblColl (.list litAB) false (.str "a".toList))
        { name := "Ch".toList, parent := some "Ga".toList, consts := [("k".toList, .str "a".toList)] }
        [("k".toList, .list litAB), ("f".toList, .int)] [] false ("k".toList, .str "a".toList) = .ok () ∧
    constOk (tblColl (.list litAB) false (.str "a".toList))
        { name := "Ch".toList, parent := some "Ga".toList, consts := [("k".toList, .str "a".toList)] }
        [("k".toList, .list litAB), ("f".toList, .int)] [] false ("k".toList, .str "a".toList) = .error .valueError ∧
    checkTypes (tblColl (.list litAB) false (.str "a".toList)) "Ch".toList = .ok () ∧
    (∀ env, decode env (.model "Ch".toList .allow [.mk "f".toList .int true none] [("k".toList, .str "a".toList)])
        (.obj [("f".toList, .int 1)]) =
      .ok (.obj "Ch".toList [("f".toList, .int 1)] [("k".toList, .str "a".toList)] [])) ∧
    (∀ env, accepts env (.model "Ga".toList .allow [.mk "k".toList (.list litAB) true none, .mk "f".toList .int true none] [])
        (encode (.obj "Ch".toList [("f".toList, .int 1)] [("k".toList, .str "a".toList)] [])) = false) := by
  refine ⟨rfl, rfl, rfl, fun _ => rfl, fun _ => rfl⟩

end MetadorModel.C13
