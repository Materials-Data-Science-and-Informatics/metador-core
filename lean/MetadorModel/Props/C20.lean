import MetadorModel.Proofs.ContainerReload
import MetadorModel.Props.C06
/-!
# C20 — Containers are self-describing

Property theorems on the container model (`Model/Container.lean`): for every stored metadata
object the raw tree holds the JSON Schema of its schema, the chain of parent schemas and the
record of the providing package, these equal what the plugin system (`Env`) reports, and the
caches of a freshly opened container (`reload`) report exactly that. The invariant `Inv e s` is
established by C06 (`sync_init`, `sync_step`, `sync_run`). The conformance of stored objects to the embedded
JSON Schema is the `Codec` part of C20 (`jsonschema_conforms`, C12 model) and not in this file.
-/
namespace MetadorModel.C20
open MetadorModel.Container

variable {e : Env} {s : St}

/-- *"For every metadata object stored in a container, the container also stores the JSON Schema of
the object's schema, the chain of its parent schemas, and name, version and plugin list of a package
providing it"*, and *"the embedded parent chain and provider equal what the plugin system reports
for that schema"* (`i.parents`, `i.pkg` of the environment's entry `e.info r`). -/
def SelfDescribing (e : Env) (s : St) : Prop :=
  ∀ p r u, ObjAt s.raw p r u →
    ∃ i, e.info r = some i ∧
      get? s.raw (schemaDir r ++ [.jsonschema]) = some (.ds (.jsonschema r)) ∧
      get? s.raw (schemaDir r ++ [.compat]) = some (.ds (.compat i.parents)) ∧
      get? s.raw (pkgPath i.pkg) = some (.ds (.pkginfo i.pkg (e.pkgPlugins i.pkg))) ∧
      r ∈ e.pkgPlugins i.pkg

theorem self_describing (he : WFEnv e) (hi : Inv e s) : SelfDescribing e s := by
  intro p r u ho
  obtain ⟨i, hinfo⟩ := hi.mok.objenv p r u ho
  have hu : UsedIn s.raw r := ⟨p, u, ho⟩
  refine ⟨i, hinfo, (hi.toc.json r).1 hu, ?_, (hi.toc.pkg i.pkg).1 ⟨r, i, hu, hinfo, rfl⟩, he.prov r i hinfo⟩
  rw [(hi.toc.compat r).1 hu, ppath_eq hinfo]

/-- conversely nothing else is embedded: schema and package records exist only for schemas in use -/
theorem only_used_embedded (hi : Inv e s) :
    (∀ r, get? s.raw (schemaDir r) ≠ none → UsedIn s.raw r) ∧
    (∀ pk, get? s.raw (pkgPath pk) ≠ none → ∃ r i, UsedIn s.raw r ∧ e.info r = some i ∧ i.pkg = pk) := by
  refine ⟨fun r h => ?_, fun pk h => ?_⟩
  · by_contra hn; exact h ((hi.toc.sdir r).2 hn)
  · by_contra hn; exact h ((hi.toc.pkg pk).2 hn)

/-- what a `MetadorContainerTOC` with caches `c` reports about the schema `r`
(`schemas.keys()`, `schemas.parent_path(r)`, `schemas.provider(r)`, `packages[provider]`) -/
def Reports (e : Env) (c : Caches) (r : SRef) : Prop :=
  ∃ i, e.info r = some i ∧ r ∈ c.schemas ∧ alGet c.parents r = some i.parents ∧
    alGet c.providers r = some [i.pkg] ∧ alGet c.pkginfos i.pkg = some (e.pkgPlugins i.pkg)

theorem reports_of_cache (he : WFEnv e) {U : SRef → Prop} {c : Caches} (hc : SchemaCache e U c) {r : SRef}
    {i : SInfo} (hinfo : e.info r = some i) (hu : U r) : Reports e c r := by
  have hreg : RegP e U i.pkg := ⟨r, i, hu, hinfo, rfl⟩
  refine ⟨i, hinfo, (hc.schemas r).mpr hu, ?_, (hc.providers r _).mpr ⟨i.pkg, rfl, hreg, he.prov r i hinfo⟩,
    (hc.pkginfos i.pkg _).mpr ⟨hreg, rfl⟩⟩
  have hsome : (alGet c.parents r).isSome :=
    (hc.index.domp r).mpr ((hc.index.dom r).mpr ⟨r, hu, mem_ppath_self he hinfo⟩)
  obtain ⟨l, hl⟩ := alGet_some_of_isSome hsome
  rw [hl, hc.index.par_val r l hl, ppath_eq hinfo]

/-- the live container reports the embedded description for every stored object -/
theorem self_describing_live (he : WFEnv e) (hi : Inv e s) {p : Path} {r : SRef} {u : Nat}
    (ho : ObjAt s.raw p r u) : Reports e s.c r := by
  obtain ⟨i, hinfo⟩ := hi.mok.objenv p r u ho
  exact reports_of_cache he hi.scache hinfo ⟨p, u, ho⟩

/-- *"… and this description is what a freshly opened container reports"* -/
theorem self_describing_after_reload (he : WFEnv e) (hi : Inv e s) {p : Path} {r : SRef} {u : Nat}
    (ho : ObjAt s.raw p r u) : Reports e (reload s.raw) r := by
  obtain ⟨i, hinfo⟩ := hi.mok.objenv p r u ho
  exact reports_of_cache he (reload_inv he hi).scache hinfo ⟨p, u, ho⟩

/-- reopening does not change the raw tree, so the reopened container is self-describing as well -/
theorem self_describing_reopen (he : WFEnv e) (hi : Inv e s) : SelfDescribing e (opReopen s).2 :=
  self_describing he (opReopen_inv he hi)

/-- a freshly opened container reports a schema only if it is embedded for an object in use -/
theorem reload_reports_only_used (he : WFEnv e) (hi : Inv e s) {r : SRef}
    (h : r ∈ (reload s.raw).schemas) : UsedIn s.raw r :=
  ((reload_inv he hi).scache.schemas r).mp h

/-- every state reachable from a fresh container is self-describing, and so is the reopened one -/
theorem self_describing_reachable (he : WFEnv e) (ops : List Op) (h : ∀ op ∈ ops, OpOK op) :
    SelfDescribing e (run e initSt ops) ∧ SelfDescribing e (opReopen (run e initSt ops)).2 :=
  have hi := MetadorModel.C06.sync_run he ops initSt (MetadorModel.C06.sync_init e) h
  ⟨self_describing he hi, self_describing_reopen he hi⟩

/-! ## Non-vacuity -/

open MetadorModel.C06 in
/-- the state after `C06.hist1` (one `vt.cc` object, three-level family `aa ← bb ← cc`) embeds the
chain `[aa, bb, cc]` and the package record, and a reopened container reports them -/
example : Reports env3 (reload (run env3 initSt hist1).raw) cc :=
  self_describing_after_reload env3_wf
    (sync_run env3_wf hist1 initSt (sync_init env3) (by decide)) hist1_obj

open MetadorModel.C06 in
example : alGet (reload (run env3 initSt hist1).raw).parents cc = some [aa, bb, cc] ∧
    alGet (reload (run env3 initSt hist1).raw).providers cc = some [pk1] := by decide +kernel

end MetadorModel.C20
