import MetadorModel.Proofs.Paths
import MetadorModel.Proofs.PathsAlias
import MetadorModel.Bridge.GroupMethods
import MetadorModel.Bridge.Paths
/-!
# C08 — Reserved `metador_*` namespace is invisible and untouchable for users

Property theorems about `MetadorModel.Paths` (path predicates of `container/utils.py`, guard
sequencing of the wrapper methods, filtered listings over a flat raw tree) and about the
method table that is re-extracted from `container/wrappers.py` on every run
(`Gen.groupMethods`). Helper lemmas live in `Proofs/Paths.lean`.

"Reserved" is the specification predicate `hasReservedSeg p`: some `/`-separated segment of
`p` starts with `metador_`.
-/
namespace MetadorModel.C08
open MetadorModel MetadorModel.Paths

/-! ## The predicate is exactly "some segment starts with `metador_`" -/

/-- `is_internal_path(p)` ⇔ some `/`-segment of `p` starts with `metador_` — relative,
absolute and nested alike; nothing else is refused. -/
theorem isInternal_iff (p : Str) :
    isInternalPath p = true ↔ ∃ seg ∈ pySplit p '/', pyStartswith seg METADOR_PREF = true :=
  isInternalPath_iff p

/-- the same for an arbitrary separator-free prefix (`find_missing` uses `metador_meta_`) -/
theorem isInternal_of_reserved_seg (p pref : Str) (hp : '/' ∉ pref) :
    isInternalPathP p pref = true ↔ ∃ seg ∈ pySplit p '/', pyStartswith seg pref = true :=
  isInternalPathP_iff p pref hp

example : isInternalPath "a/b/metador_meta_x/c".toList = true ∧ isInternalPath "/metador_container".toList = true ∧
    isInternalPath "metador_".toList = true := by
  -- each literal becomes its character list by a lemma (`"ab"` unifies with `String.ofList ['a', 'b']`);
  -- left to `decide`, the literal is decoded again at every unfolding, which is most of the work
  repeat rw [String.toList_ofList]
  decide

/-- near misses are not reserved (no false refusals): the guard passes them -/
theorem near_miss_not_reserved :
    isInternalPath "xmetador_".toList = false ∧ isInternalPath "metador".toList = false ∧
    isInternalPath "Metador_x".toList = false ∧ isInternalPath "a/_metador_x/b".toList = false ∧
    isInternalPath "/foo/xmetador_meta_bar".toList = false ∧
    (guardPath false "g2/metador".toList).isOk = true := by
  repeat rw [String.toList_ofList]
  decide

/-! ## Metadata directory ↔ node path -/

private theorem startswith_of_append (a b x : Str) (h : pyStartswith x (a ++ b) = true) :
    pyStartswith x a = true := by
  induction a generalizing x with
  | nil => simp
  | cons c a ih =>
    cases x with
    | nil => simp at h
    | cons d x =>
      simp only [List.cons_append, pyStartswith_cons_cons, Bool.and_eq_true] at h ⊢
      exact ⟨h.1, ih x h.2⟩

/-- the segments of `to_meta_base_path`, for `p.split("/") = i ++ [l]`: the last one gets the prefix
(dataset), or a segment that is the prefix is put in place of the empty last one (root) or added -/
private theorem metaBase_segs (p : Str) (ds : Bool) (i : List Str) (l : Str)
    (hi : pySplit p '/' = i ++ [l]) :
    pySplit (toMetaBasePath p ds) '/' =
      (if ds || i ++ [l] == [[], []] then i else i ++ [l]) ++
        [if ds then METADOR_META_PREF ++ l else METADOR_META_PREF] := by
  have hns : ∀ seg ∈ i ++ [l], '/' ∉ seg := hi ▸ pySplit_no_sep p '/'
  have hjoin : toMetaBasePath p ds = pyJoin '/'
      ((if ds || i ++ [l] == [[], []] then i else i ++ [l]) ++
        [if ds then METADOR_META_PREF ++ l else METADOR_META_PREF]) := by
    simp only [toMetaBasePath, hi, pyLast_append_one, pySetLast_append_one]
    cases ds
    · cases i ++ [l] == [[], []] <;> rfl
    · rfl
  rw [hjoin]
  refine split_join '/' _ (by simp) fun seg h => ?_
  rcases List.mem_append.mp h with h | h
  · refine hns seg ?_
    split at h
    · exact List.mem_append_left _ h
    · exact h
  · simp only [List.mem_singleton] at h
    subst h
    split
    · simp only [List.mem_append, not_or]
      exact ⟨meta_pref_no_slash, hns l (by simp)⟩
    · exact meta_pref_no_slash

/-- the metadata directory of any node is a reserved path and is recognised as a base dir -/
theorem metaBase_is_reserved (p : Str) (ds : Bool) :
    hasReservedSeg (toMetaBasePath p ds) ∧ isMetaBasePath (toMetaBasePath p ds) = true ∧
    isInternalPath (toMetaBasePath p ds) = true := by
  obtain ⟨i, hi⟩ := exists_init_last (pySplit p '/') (pySplit_ne_nil p '/')
  have hsplit := metaBase_segs p ds i _ hi
  have hlast : pyStartswith (pyLast (pySplit (toMetaBasePath p ds) '/')) METADOR_META_PREF = true := by
    rw [hsplit, pyLast_append_one]
    split
    · exact pyStartswith_append _ _
    · decide
  have hres : hasReservedSeg (toMetaBasePath p ds) :=
    ⟨_, pyLast_mem _ (pySplit_ne_nil _ _), startswith_of_append METADOR_PREF "meta_".toList _ hlast⟩
  exact ⟨hres, hlast, (isInternalPath_iff _).mpr hres⟩

/-- `to_data_node_path(to_meta_base_path(p, is_dataset)) == p` for every node name: `p` is not
empty, and a dataset name does not end in `/` (HDF5 node names: `/` or `/a/b`, relative `a/b`). -/
theorem metaBase_roundtrip (p : Str) (ds : Bool) (hp : p ≠ [])
    (hds : ds = true → pyLast (pySplit p '/') ≠ [] ∨ p = ['/']) :
    toDataNodePath (toMetaBasePath p ds) = p := by
  have hjoin := join_split p '/'
  obtain ⟨i, hi⟩ := exists_init_last (pySplit p '/') (pySplit_ne_nil p '/')
  generalize pyLast (pySplit p '/') = l at hi hds
  have hsplit := metaBase_segs p ds i l hi
  rw [hi] at hjoin
  have hdrop : ∀ x : Str, pyDrop METADOR_META_PREF.length (METADOR_META_PREF ++ x) = x := by
    intro x; simp [pyDrop]
  have hdrop0 : pyDrop METADOR_META_PREF.length METADOR_META_PREF = [] := by decide
  cases ds with
  | true =>
    rcases hds rfl with hlast | hroot
    · have : (l == []) = false := by simpa using hlast
      simp only [toDataNodePath, hsplit, Bool.true_or, ↓reduceIte, pyLast_append_one,
        pySetLast_append_one, hdrop, this, Bool.false_and, Bool.false_eq_true]
      exact hjoin
    · subst hroot; decide
  | false =>
    by_cases hroot : (i ++ [l] == [[], []]) = true
    · have h0 : i ++ [l] = [[], []] := by simpa using hroot
      have : p = ['/'] := by rw [← hjoin, h0]; rfl
      subst this; decide
    · simp only [toDataNodePath, hsplit, Bool.false_or, Bool.false_eq_true, ↓reduceIte, hroot,
        pyLast_append_one, pySetLast_append_one, hdrop0, beq_self_eq_true, Bool.true_and]
      have hcond : (decide ((i ++ [l] ++ [([] : Str)]).length > 2) ||
          pyHead (i ++ [l] ++ [([] : Str)]) != []) = true := by
        cases i with
        | nil =>
          -- one segment: it is `p` itself, hence not empty
          have : p = l := by rw [← hjoin]; rfl
          have hl : l ≠ [] := this ▸ hp
          simp [pyHead, hl]
        | cons a i => simp
      simp only [hcond, ↓reduceIte, pyPop_append_one]
      exact hjoin

example : toMetaBasePath "/a/b".toList true = "/a/metador_meta_b".toList ∧
    toMetaBasePath "/a/b".toList false = "/a/b/metador_meta_".toList ∧
    toMetaBasePath "/".toList false = "/metador_meta_".toList ∧
    toDataNodePath "a/b/metador_meta_".toList = "a/b".toList := by
  repeat rw [String.toList_ofList]
  decide

/-- the hypotheses of `metaBase_roundtrip` cannot be dropped: the empty name and a dataset
name ending in `/` do not come back -/
example : toDataNodePath (toMetaBasePath [] false) ≠ [] ∧
    toDataNodePath (toMetaBasePath "a/".toList true) ≠ "a/".toList := by
  repeat rw [String.toList_ofList]
  decide

/-! ## Every path-taking method refuses reserved paths without effect -/

/-- the extracted method table satisfies the guard discipline (re-checked on every run) -/
theorem methods_guarded : ∀ m ∈ Gen.groupMethods, m.guardsAllPaths = true :=
  Bridge.GroupMethods.methods_guarded

theorem guard_mem {m : MethodShape} (hm : m.guardsAllPaths = true) {i : Nat} (hi : i ∈ m.pathArgs) :
    Guard.path i ∈ m.guards :=
  List.contains_iff_mem.1 (List.all_eq_true.mp hm i hi)

theorem table_row {m : GMethod} (hm : m ∈ Gen.groupMethods) {i : Nat} (hi : i < m.userPaths.length) :
    m.shape.guardsAllPaths = true ∧ i ∈ m.shape.pathArgs := by
  have h := methods_guarded m hm
  simp only [GMethod.guardsAllPaths, Bool.and_eq_true, beq_iff_eq] at h
  obtain ⟨⟨⟨⟨⟨hshape, -⟩, -⟩, -⟩, -⟩, hargs⟩ := h
  exact ⟨hshape, hargs ▸ List.mem_range.mpr hi⟩

/-- A method whose guard sequence covers all its path-typed argument positions, called with a
reserved path in any of these positions (whatever the other arguments, the ACL flags, the raw
operation and the raw state are), raises and leaves the raw state unchanged. -/
theorem reserved_rejected {σ : Type} (m : MethodShape) (hm : m.guardsAllPaths = true)
    (raw : σ → List Str → Except Err σ) (s : σ) (loc ro : Bool) (args : List Str)
    (i : Nat) (hi : i ∈ m.pathArgs) (p : Str) (hp : args[i]? = some p) (hr : hasReservedSeg p) :
    (∃ e, wrappedCall loc ro m.guards raw s args = .error e) ∧
    stateAfter s (wrappedCall loc ro m.guards raw s args) = s := by
  obtain ⟨e, he⟩ := runGuards_reserved loc ro args i p hp ((isInternalPath_iff p).mpr hr) m.guards
    (guard_mem hm hi)
  have : wrappedCall loc ro m.guards raw s args = .error e := by simp [wrappedCall, he]
  exact ⟨⟨e, this⟩, by rw [this]; rfl⟩

/-- … and this holds for every method of the table extracted from the current source, for
every argument position (source, destination string, destination group + `name=` (the computed
`dst_path`), positional name/path). -/
theorem reserved_rejected_table {σ : Type} (m : GMethod) (hm : m ∈ Gen.groupMethods)
    (raw : σ → List Str → Except Err σ) (s : σ) (loc ro : Bool) (args : List Str)
    (i : Nat) (hi : i < m.userPaths.length) (p : Str) (hp : args[i]? = some p)
    (hr : hasReservedSeg p) :
    (∃ e, wrappedCall loc ro m.shape.guards raw s args = .error e) ∧
    stateAfter s (wrappedCall loc ro m.shape.guards raw s args) = s := by
  have ⟨h1, hi'⟩ := table_row hm hi
  exact reserved_rejected m.shape h1 raw s loc ro args i hi' p hp hr

/-- non-vacuity: `copy` called on a state `5` with a reserved `dst_path` (position 1) -/
example : ∃ m, Gen.groupMethods.find? (fun m => m.name == "copy") = some m ∧
    m.userPaths = ["source", "dst_path"] ∧
    (wrappedCall false false m.shape.guards (fun (s : Nat) _ => .ok (s + 1)) 5
      ["x".toList, "/g/metador_evil".toList]).toOption = none ∧
    (wrappedCall false false m.shape.guards (fun (s : Nat) _ => .ok (s + 1)) 5
      ["x".toList, "/g/ok".toList]).toOption = some 6 := by
  refine ⟨_, rfl, ?_⟩
  repeat rw [String.toList_ofList]
  decide

/-- `name in group` with a reserved name is refused, too -/
theorem contains_reserved_rejected (loc : Bool) (raw : Raw) (g p : Str) (hr : hasReservedSeg p) :
    Paths.contains loc raw g p = .error .internalPath := by
  simp [Paths.contains, guardPath_reserved loc p ((isInternalPath_iff p).mpr hr)]

/-! ## Listings only expose user nodes -/

/-- Whatever the raw tree contains (in particular: nodes with reserved names planted or left
behind), `keys/values/items/__iter__/__len__/__reversed__` and `visit/visititems` of a group
present no name with a reserved segment, and `len` counts exactly the presented keys. -/
theorem userView_hides (raw : Raw) (g : Str) :
    (∀ k ∈ keys raw g, ¬ hasReservedSeg k) ∧ (∀ n ∈ visit raw g, ¬ hasReservedSeg n) ∧
    len raw g = (keys raw g).length := by
  have core : ∀ (r : Str) (nd : RawNode), (r, nd) ∈ rawBelow raw g →
      isInternalPath nd.name = false → ¬ hasReservedSeg r := by
    intro r nd hmem hint hres
    simp only [rawBelow, List.mem_filterMap, Option.map_eq_some_iff, Prod.mk.injEq] at hmem
    obtain ⟨nd', _, r', hrel, rfl, rfl⟩ := hmem
    rw [← Bool.not_eq_true, isInternalPath_iff, relName_eq g _ _ hrel] at hint
    exact hint (reserved_rel_abs _ _ hres)
  refine ⟨?_, ?_, rfl⟩
  · intro k hk
    simp only [keys, items, rawChildren, List.mem_map, List.mem_filter, Bool.not_eq_eq_eq_not,
      Bool.not_true] at hk
    obtain ⟨⟨r, nd⟩, ⟨⟨hmem, _⟩, hint⟩, rfl⟩ := hk
    exact core r nd hmem hint
  · intro n hn
    simp only [visit, List.mem_map, List.mem_filter, Bool.not_eq_eq_eq_not, Bool.not_true] at hn
    obtain ⟨⟨r, nd⟩, ⟨hmem, hint⟩, rfl⟩ := hn
    exact core r nd hmem hint

/-- non-vacuity: a raw tree with bookkeeping and planted reserved nodes; the user sees `foo`
and `xmetador_` only, `visit` hides everything below a reserved group -/
example :
    let raw : Raw := [⟨"/foo".toList, true⟩, ⟨"/foo/bar".toList, false⟩, ⟨"/foo/metador_meta_bar".toList, true⟩,
      ⟨"/metador_container".toList, true⟩, ⟨"/metador_container/version".toList, false⟩,
      ⟨"/xmetador_".toList, true⟩, ⟨"/foo/metador_x".toList, true⟩, ⟨"/foo/metador_x/deep".toList, false⟩]
    keys raw "/".toList = ["foo".toList, "xmetador_".toList] ∧
    visit raw "/".toList = ["foo".toList, "foo/bar".toList, "xmetador_".toList] ∧
    keys raw "/foo".toList = ["bar".toList] ∧ len raw "/".toList = 2 := by
  repeat rw [String.toList_ofList]
  decide

/-! ## The bookkeeping never disturbs user data

Raw operations on the flat raw tree (`create`, `delete` with everything below, `copy` with
everything below, `move`); user operations and the bookkeeping of `MetadorMeta` / the TOC are
both sequences of them. -/

/-- A bookkeeping operation (what it creates, deletes, copies to or moves lies in the reserved
namespace) leaves the user-visible tree exactly as it was. -/
theorem bookkeeping_invisible (op : RawOp) (h : op.isBookkeeping = true) (raw : Raw) :
    userView (applyRaw op raw) = userView raw := by
  cases op with
  | create n =>
    simp only [RawOp.isBookkeeping] at h
    simp [applyRaw, userView, h]
  | delete p => exact userView_delete_internal p h raw
  | copy s d =>
    simp only [RawOp.isBookkeeping] at h
    simp only [applyRaw, rawCopy_eq, userView_append, userView_copied_internal s d h, List.append_nil]
  | move s d =>
    simp only [RawOp.isBookkeeping, Bool.and_eq_true] at h
    simp only [applyRaw, rawCopy_eq]
    rw [userView_delete_internal s h.1, userView_append, userView_copied_internal s d h.2, List.append_nil]

/-- A user operation acts on the user-visible tree exactly as it would on a plain tree that
never had any bookkeeping in it: `userView (step raw op) = step (userView raw) op`. -/
theorem userView_refines (op : RawOp) (h : op.isUser = true) (raw : Raw) :
    userView (applyRaw op raw) = applyRaw op (userView raw) := by
  cases op with
  | create n =>
    simp only [RawOp.isUser] at h
    simp [applyRaw, userView, h]
  | delete p => exact userView_delete_comm p raw
  | copy s d =>
    simp only [RawOp.isUser, Bool.and_eq_true, Bool.not_eq_eq_eq_not, Bool.not_true] at h
    simp only [applyRaw, rawCopy_eq, userView_append, userView_copied_user s d h.1 h.2]
  | move s d =>
    simp only [RawOp.isUser, Bool.and_eq_true, Bool.not_eq_eq_eq_not, Bool.not_true] at h
    simp only [applyRaw, rawCopy_eq]
    rw [userView_delete_comm, userView_append, userView_copied_user s d h.1 h.2]

/-- … hence for whole histories: interleave any bookkeeping with the user operations, the
user-visible tree is the plain tree driven by the user operations alone. -/
theorem userView_history (ops : List RawOp) (h : ∀ op ∈ ops, op.isUser = true ∨ op.isBookkeeping = true)
    (raw : Raw) :
    userView (ops.foldl (fun r op => applyRaw op r) raw) =
    (ops.filter (·.isUser)).foldl (fun r op => applyRaw op r) (userView raw) := by
  induction ops generalizing raw with
  | nil => rfl
  | cons op ops ih =>
    have hrest : ∀ o ∈ ops, o.isUser = true ∨ o.isBookkeeping = true :=
      fun o ho => h o (List.mem_cons_of_mem _ ho)
    simp only [List.foldl_cons]
    rw [ih hrest]
    by_cases hu : op.isUser = true
    · simp only [List.filter_cons, hu, ↓reduceIte, List.foldl_cons, userView_refines op hu]
    · have hb : op.isBookkeeping = true := by
        rcases h op (by simp) with h1 | h1
        · exact absurd h1 hu
        · exact h1
      simp only [List.filter_cons, hu, Bool.false_eq_true, ↓reduceIte, bookkeeping_invisible op hb]

/-- non-vacuity: data with metadata directories and TOC entries; a copy of the group (which
copies the metadata directory along), bookkeeping that renames the copied metadata object, and
a delete — the user sees the plain result -/
example :
    let raw : Raw := [⟨"/foo".toList, true⟩, ⟨"/foo/bar".toList, false⟩, ⟨"/foo/metador_meta_bar".toList, true⟩,
      ⟨"/foo/metador_meta_bar/core.bib__0.1.0=u1".toList, false⟩, ⟨"/metador_container".toList, true⟩]
    let ops : List RawOp := [.copy "/foo".toList "/baz".toList,
      .move "/baz/metador_meta_bar/core.bib__0.1.0=u1".toList "/baz/metador_meta_bar/core.bib__0.1.0=u2".toList,
      .create ⟨"/metador_container/links/u2".toList, false⟩, .delete "/foo/bar".toList]
    (userView (ops.foldl (fun r op => applyRaw op r) raw)).map (·.name) =
      ["/foo".toList, "/baz".toList, "/baz/bar".toList] ∧
    (ops.map fun o => (o.isUser, o.isBookkeeping)) = [(true, false), (false, true), (false, true), (true, false)] := by
  repeat rw [String.toList_ofList]
  decide

/-! ## Paths handed over as other types

What a caller passes where a path is expected need not be a `str`: the raw h5py driver takes
`bytes` names as well. `_guard_path` starts with `is_internal_path(path)` on the value as it was
handed over (`Bridge.GroupMethods.guard_path_shape`), which raises for everything that is not a
`str` — so a reserved path cannot be smuggled past the guard by spelling it differently. -/

/-- the typed model extends the `str` model: on `str` arguments the guards decide alike -/
theorem typed_guards_extend_str (loc ro : Bool) (ss : List Str) (gs : List Guard) :
    runGuardsV loc ro (ss.map PathVal.str) gs =
      match runGuards loc ro ss gs with
      | .ok u => .ok u
      | .error e => .error (.guard e) :=
  runGuardsV_str loc ro ss gs

/-- A method whose guard sequence covers all its path-typed argument positions, called with a
value in one of these positions that is not a `str`, or that spells (as `str` or as `bytes`) a
path with a reserved segment, raises and leaves the raw state unchanged — whatever the other
arguments, the ACL flags, the raw operation and the raw state are. -/
theorem typed_rejected {σ : Type} (m : MethodShape) (hm : m.guardsAllPaths = true)
    (raw : σ → List PathVal → Except VErr σ) (s : σ) (loc ro : Bool) (args : List PathVal)
    (i : Nat) (hi : i ∈ m.pathArgs) (v : PathVal) (hp : args[i]? = some v)
    (hv : v.isStr = false ∨ ∃ p, v.text = some p ∧ hasReservedSeg p) :
    (∃ e, wrappedCallV loc ro m.guards raw s args = .error e) ∧
    stateAfterV s (wrappedCallV loc ro m.guards raw s args) = s := by
  have hbad : ∃ e, guardPathV loc v = .error e := by
    cases hs : v.isStr
    · exact ⟨_, guardPathV_nonstr loc v hs⟩
    · obtain ⟨p, ht, hr⟩ := hv.resolve_left (by simp [hs])
      cases v with
      | str q =>
        cases ht
        exact ⟨_, guardPathV_reserved loc _ ((isInternalPath_iff _).mpr hr)⟩
      | bytes q => cases hs
      | other => cases hs
  obtain ⟨e, he⟩ := runGuardsV_rejects loc ro args i v hp hbad m.guards (guard_mem hm hi)
  have : wrappedCallV loc ro m.guards raw s args = .error e := by simp [wrappedCallV, he]
  exact ⟨⟨e, this⟩, by rw [this]; rfl⟩

/-- … for every method of the table extracted from the current source and every argument
position. -/
theorem typed_rejected_table {σ : Type} (m : GMethod) (hm : m ∈ Gen.groupMethods)
    (raw : σ → List PathVal → Except VErr σ) (s : σ) (loc ro : Bool) (args : List PathVal)
    (i : Nat) (hi : i < m.userPaths.length) (v : PathVal) (hp : args[i]? = some v)
    (hv : v.isStr = false ∨ ∃ p, v.text = some p ∧ hasReservedSeg p) :
    (∃ e, wrappedCallV loc ro m.shape.guards raw s args = .error e) ∧
    stateAfterV s (wrappedCallV loc ro m.shape.guards raw s args) = s := by
  have ⟨h1, hi'⟩ := table_row hm hi
  exact typed_rejected m.shape h1 raw s loc ro args i hi' v hp hv

/-- non-vacuity: `move` with the destination `b"metador_container"` / `b"plain"` / a tuple is
refused, with `"plain"` it reaches the raw operation -/
example : ∃ m, Gen.groupMethods.find? (fun m => m.name == "move") = some m ∧
    refusedNotStr (wrappedCallV false false m.shape.guards (fun (s : Nat) _ => .ok (s + 1)) 5
      [.str "x".toList, .bytes "metador_container".toList]) = true ∧
    refusedNotStr (wrappedCallV false false m.shape.guards (fun (s : Nat) _ => .ok (s + 1)) 5
      [.str "x".toList, .bytes "plain".toList]) = true ∧
    refusedNotStr (wrappedCallV false false m.shape.guards (fun (s : Nat) _ => .ok (s + 1)) 5
      [.other, .str "plain".toList]) = true ∧
    (wrappedCallV false false m.shape.guards (fun (s : Nat) _ => .ok (s + 1)) 5
      [.str "x".toList, .str "plain".toList]).toOption = some 6 := by
  refine ⟨_, rfl, ?_⟩
  repeat rw [String.toList_ofList]
  decide

/-! ## Values that name or reference other nodes

The path guard looks at the name a value is stored under, the listing filter at the name a node
is reported under. A link stored under an ordinary name makes its target reachable — and
listed — under ordinary names. `MetadorGroup.__setitem__` therefore refuses every value of a
link / reference class before anything else (`Bridge.GroupMethods.link_values_refused`). -/

/-- a value of a link / reference class is refused by `__setitem__`, whatever the name, the ACL
flags and the raw driver are, and nothing happens to the raw state -/
theorem link_values_refused {σ : Type} (refused : List String) (h : ∀ ty ∈ linkTypes, ty ∈ refused)
    (loc ro : Bool) (raw : σ → PathVal → SetVal → Except VErr σ) (s : σ) (name : PathVal) (v : SetVal)
    (hv : v.isLink = true) :
    setitemV refused loc ro raw s name v = .error .refValue ∧
    stateAfterV s (setitemV refused loc ro raw s name v) = s := by
  have : setitemV refused loc ro raw s name v = .error .refValue := by
    simp [setitemV, valueRefused_of_link refused h v hv]
  exact ⟨this, by rw [this]; rfl⟩

/-- … in particular with the list of refused classes of the current source -/
theorem link_values_refused_src {σ : Type} (loc ro : Bool) (raw : σ → PathVal → SetVal → Except VErr σ)
    (s : σ) (name : PathVal) (v : SetVal) (hv : v.isLink = true) :
    setitemV Gen.refusedValueTypes loc ro raw s name v = .error .refValue :=
  (link_values_refused Gen.refusedValueTypes Bridge.GroupMethods.link_values_refused.2 loc ro raw s name v hv).1

/-- a value that would be stored as a named datatype (`numpy.dtype`, `h5py.Datatype`) is refused
likewise (F35) … -/
theorem type_values_refused {σ : Type} (refused : List String) (h : ∀ ty ∈ typeTypes, ty ∈ refused)
    (loc ro : Bool) (raw : σ → PathVal → SetVal → Except VErr σ) (s : σ) (name : PathVal) (v : SetVal)
    (hv : v.isType = true) :
    setitemV refused loc ro raw s name v = .error .refValue ∧
    stateAfterV s (setitemV refused loc ro raw s name v) = s := by
  have : setitemV refused loc ro raw s name v = .error .refValue := by
    simp [setitemV, valueRefused_of_type refused h v hv]
  exact ⟨this, by rw [this]; rfl⟩

/-- … so no history of assignments through the wrapper (with the refused classes of the current
source) creates a node that is neither group nor dataset: everything a lookup hands out is a
wrapper object, never the raw driver object with its unfiltered `.parent` / `.file`. -/
theorem no_raw_handle_escapes (t0 : LRaw) (h0 : t0.types = []) (cs : List SetCall) (p : Str) :
    handedOutWrapped (runSets Gen.refusedValueTypes t0 cs) p = true := by
  simp [handedOutWrapped, runSets_types Gen.refusedValueTypes Bridge.GroupMethods.type_values_refused, h0]

/-- before F35 (`_H5_TYPE_TYPES` not refused) one assignment was enough -/
theorem legacy_named_type_escapes :
    let t0 : LRaw := ⟨[⟨"/foo".toList, true⟩, ⟨"/metador_container".toList, true⟩], [], []⟩
    handedOutWrapped (runSets linkTypes t0 [⟨"/".toList, .str "t".toList, .namedType⟩]) "/t".toList = false ∧
    handedOutWrapped (runSets (linkTypes ++ typeTypes) t0 [⟨"/".toList, .str "t".toList, .namedType⟩]) "/t".toList = true := by
  repeat rw [String.toList_ofList]
  decide

/-- no history of assignments through the wrapper ever stores a link -/
theorem links_never_accepted (refused : List String) (h : ∀ ty ∈ linkTypes, ty ∈ refused)
    (t : LRaw) (cs : List SetCall) : (runSets refused t cs).links = t.links :=
  runSets_links refused h t cs

/-- Hence, starting from a tree without links, after any history of assignments — names and
values of every kind — every name a group lists is free of reserved segments, is not a reserved
path, and denotes the entity of that very name: nothing the user sees or reaches by the names
shown to him is a bookkeeping entity. -/
theorem visible_names_are_user_entities (refused : List String) (h : ∀ ty ∈ linkTypes, ty ∈ refused)
    (t0 : LRaw) (h0 : t0.links = []) (cs : List SetCall) (fuel : Nat) (g k : Str)
    (hk : k ∈ keysL (runSets refused t0 cs) fuel g) :
    ¬ hasReservedSeg k ∧ isInternalPath (childName g k) = false ∧
    denotes (runSets refused t0 cs) fuel (childName g k) = childName g k := by
  have hl : (runSets refused t0 cs).links = [] := by rw [runSets_links refused h, h0]
  refine ⟨?_, ?_, ?_⟩
  · rw [keysL_nolinks _ hl] at hk
    exact (userView_hides _ g).1 k hk
  · unfold keysL at hk
    simpa using (List.mem_filter.mp hk).2
  · simp [denotes, hl, resolve_nil]

theorem visible_names_are_user_entities_src (t0 : LRaw) (h0 : t0.links = []) (cs : List SetCall)
    (fuel : Nat) (g k : Str) (hk : k ∈ keysL (runSets Gen.refusedValueTypes t0 cs) fuel g) :
    ¬ hasReservedSeg k ∧ isInternalPath (childName g k) = false ∧
    denotes (runSets Gen.refusedValueTypes t0 cs) fuel (childName g k) = childName g k :=
  visible_names_are_user_entities Gen.refusedValueTypes Bridge.GroupMethods.link_values_refused.2 t0 h0 cs fuel g k hk

/-- The refusal cannot be relaxed. With `SoftLink` taken out of the refused classes, one
assignment under the ordinary name `toc` makes the table of contents appear in `keys()` of the
root, `toc` and `toc/links` pass the name-based filter, and both denote bookkeeping entities. -/
theorem softlink_accepted_exposes :
    let t0 : LRaw := ⟨[⟨"/foo".toList, true⟩, ⟨"/metador_container".toList, true⟩,
      ⟨"/metador_container/links".toList, true⟩], [], []⟩
    let t := runSets ["HardLink", "ExternalLink", "Reference"] t0
      [⟨"/".toList, .str "toc".toList, .softLink "/metador_container".toList⟩]
    keysL t 4 "/".toList = ["foo".toList, "toc".toList] ∧
    keysL t 4 "/toc".toList = ["links".toList] ∧
    isInternalPath (denotes t 4 "/toc".toList) = true ∧
    isInternalPath (denotes t 4 "/toc/links".toList) = true ∧
    -- … whereas the same assignment is refused by the source as it is
    (runSets linkTypes t0 [⟨"/".toList, .str "toc".toList, .softLink "/metador_container".toList⟩]).links = [] := by
  repeat rw [String.toList_ofList]
  decide

end MetadorModel.C08
